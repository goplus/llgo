import LlgoVerif.Model.Utf8
/-!
Model for C16: `internal/goembed/goembed.go`.

* strings are **byte strings** (`Str = List Nat`, a byte is `< 256`): file names are whatever the OS
  returns, patterns are whatever stands in the source line; `sort.Strings` is byte-wise order;
* the package directory is an inductive file tree (`Node`/`Ents`): regular file with its bytes,
  directory with its entries, symbolic link (carrying the node `os.Stat` would resolve it to),
  dangling link, irregular file (fifo, socket, device);
* `path.Match` is transcribed byte for byte (`scanChunk`, `matchChunk`, `getEsc`) including its
  treatment of UTF-8; `filepath.Glob` is rendered component-wise (see `globTrail`);
* `module.CheckFilePath` is transcribed (`checkFilePath`), with `unicode.IsLetter` given by a range
  table for the blocks listed at `inLetterDomain` (the driver refuses names outside of them);
* `ResolvePatterns`, `CheckPath`, `IsBadName`, `ValidPattern`, `SplitArgs`, `ParseDirective`,
  `ParsePatterns` (one comment line), `BuildFSEntries` mirror goembed.go.

`Cfg.nonDirCheck = false` is the code as it stands; `true` is the code with `fixes/C16-1.diff`
(cmd/go's "in non-directory" test in `CheckPath`).

Not rendered literally (see design/C16.md): the `dirOK` cache of `CheckPath` and the `have`/`pid`
counters of `ResolvePatterns` (any failed test aborts the whole resolution, so a cache hit only
skips tests that passed before; `listCount == 0` is "this pattern listed no file"), and the
package directory's own path (assumed free of glob metacharacters; `pkgDir` is the tree's root).
-/
namespace LlgoVerif.Embed

abbrev Str := List Nat

/-! ## byte-string helpers -/

def lit (cs : List Char) : Str := cs.map Char.toNat

def sDot : Str := [46]
def sDotDot : Str := [46, 46]
def sGoMod : Str := lit ['g', 'o', '.', 'm', 'o', 'd']
def sAll : Str := lit ['a', 'l', 'l', ':']
def sGoEmbed : Str := lit ['g', 'o', ':', 'e', 'm', 'b', 'e', 'd']

/-- byte-wise `a < b` (Go's string comparison) -/
def strLt : Str → Str → Bool
  | [], [] => false
  | [], _ :: _ => true
  | _ :: _, [] => false
  | a :: as, b :: bs => if a < b then true else if b < a then false else strLt as bs

/-- byte-wise `a ≤ b` -/
def strLe (a b : Str) : Bool := !strLt b a

/-- `strings.Split(s, "/")`-like: split at every `sep` byte (always at least one component) -/
def splitOn (sep : Nat) : Str → List Str
  | [] => [[]]
  | c :: rest =>
    if c = sep then [] :: splitOn sep rest
    else match splitOn sep rest with
      | [] => [[c]]            -- unreachable
      | h :: t => (c :: h) :: t

/-- `strings.Join(parts, "/")` -/
def joinSlash : List Str → Str
  | [] => []
  | [a] => a
  | a :: b :: rest => a ++ 47 :: joinSlash (b :: rest)

/-! ## UTF-8 (`unicode/utf8`) -/

/-- `utf8.DecodeRuneInString` on a non-empty string: `(rune, width)` -/
def decodeRune (s : Str) : Nat × Nat := Utf8.nextRune s

def validUtf8Aux : Nat → Str → Bool
  | 0, _ => true
  | _, [] => true
  | fuel+1, b :: rest =>
    let p := decodeRune (b :: rest)
    if b ≥ 0x80 && p.2 = 1 then false else validUtf8Aux fuel ((b :: rest).drop p.2)

/-- `utf8.ValidString` -/
def validUtf8 (s : Str) : Bool := validUtf8Aux s.length s

/-- `for _, r := range s` -/
def runes (s : Str) : List Nat := Utf8.toRunes s

/-! ## `unicode.IsLetter` (table for the blocks the generator uses) and `unicode.IsSpace` -/

def inRanges (r : Nat) : List (Nat × Nat) → Bool
  | [] => false
  | (lo, hi) :: rest => (lo ≤ r && r ≤ hi) || inRanges r rest

/-- the code points for which `isLetter` below is a transcription of Go 1.24's tables -/
def inLetterDomain (r : Nat) : Bool :=
  inRanges r [(0, 0x24F), (0x370, 0x52F), (0x2000, 0x206F), (0x3040, 0x30FF), (0x4E00, 0x9FFF), (0x1F300, 0x1F6FF), (0xFFFD, 0xFFFD)]

def isLetter (r : Nat) : Bool :=
  inRanges r [(0x41, 0x5A), (0x61, 0x7A), (0xAA, 0xAA), (0xB5, 0xB5), (0xBA, 0xBA), (0xC0, 0xD6), (0xD8, 0xF6), (0xF8, 0x24F),
    (0x370, 0x374), (0x376, 0x377), (0x37A, 0x37D), (0x37F, 0x37F), (0x386, 0x386), (0x388, 0x38A), (0x38C, 0x38C),
    (0x38E, 0x3A1), (0x3A3, 0x3F5), (0x3F7, 0x481), (0x48A, 0x52F),
    (0x3041, 0x3096), (0x309D, 0x309F), (0x30A1, 0x30FA), (0x30FC, 0x30FF), (0x4E00, 0x9FFF)]

def isSpaceRune (n : Nat) : Bool :=
  n = 0x20 || (0x09 ≤ n && n ≤ 0x0D) || n = 0x85 || n = 0xA0 || n = 0x1680 ||
  (0x2000 ≤ n && n ≤ 0x200A) || n = 0x2028 || n = 0x2029 || n = 0x202F || n = 0x205F || n = 0x3000

/-! ## `path.Match` -/

def dropStars : Str → Str
  | 42 :: rest => dropStars rest
  | p => p

/-- the `Scan:` loop of `scanChunk`: `(chunk, rest)` -/
def scanChunkAux (inrange : Bool) : Str → Str × Str
  | [] => ([], [])
  | [c] => if c = 42 && !inrange then ([], [c]) else ([c], [])
  | c :: d :: rest =>
    if c = 92 then
      let r := scanChunkAux inrange rest
      (c :: d :: r.1, r.2)
    else if c = 91 then
      let r := scanChunkAux true (d :: rest)
      (c :: r.1, r.2)
    else if c = 93 then
      let r := scanChunkAux false (d :: rest)
      (c :: r.1, r.2)
    else if c = 42 && !inrange then ([], c :: d :: rest)
    else
      let r := scanChunkAux inrange (d :: rest)
      (c :: r.1, r.2)

/-- `scanChunk`: `(star, chunk, rest)` -/
def scanChunk (p : Str) : Bool × Str × Str :=
  let r := scanChunkAux false (dropStars p)
  (p.head? = some 42, r.1, r.2)

/-- `getEsc`: `(rune, nchunk)` or `ErrBadPattern` -/
def getEsc (chunk : Str) : Except Unit (Nat × Str) :=
  match chunk with
  | [] => .error ()
  | c :: rest =>
    if c = 45 || c = 93 then .error () else
    let chunk1 := if c = 92 then rest else c :: rest
    if chunk1.isEmpty then .error () else
    let p := decodeRune chunk1
    let nchunk := chunk1.drop p.2
    if p.1 = Utf8.runeError && p.2 = 1 then .error ()
    else if nchunk.isEmpty then .error ()
    else .ok (p.1, nchunk)

/-- the "parse all ranges" loop: `(match, chunk after the closing bracket)` -/
def classLoop : Nat → Nat → Str → Bool → Nat → Except Unit (Bool × Str)
  | 0, _, _, _, _ => .error ()
  | fuel+1, r, chunk, matched, nrange =>
    match chunk with
    | 93 :: rest => if nrange > 0 then .ok (matched, rest) else .error ()   -- getEsc rejects ']'
    | _ =>
      match getEsc chunk with
      | .error e => .error e
      | .ok (lo, chunk1) =>
        match chunk1 with
        | 45 :: rest =>
          match getEsc rest with
          | .error e => .error e
          | .ok (hi, chunk2) => classLoop fuel r chunk2 (matched || (lo ≤ r && r ≤ hi)) (nrange + 1)
        | _ => classLoop fuel r chunk1 (matched || (lo ≤ r && r ≤ lo)) (nrange + 1)

/-- `matchChunk`: `error` = ErrBadPattern, `ok none` = no match, `ok (some rest)` = match -/
def matchChunkAux : Nat → Bool → Str → Str → Except Unit (Option Str)
  | 0, _, _, _ => .error ()
  | fuel+1, failed0, chunk, s =>
    match chunk with
    | [] => if failed0 then .ok none else .ok (some s)
    | c :: crest =>
      let failed := failed0 || s.isEmpty
      if c = 91 then
        let r := if failed then 0 else (decodeRune s).1
        let s' := if failed then s else s.drop (decodeRune s).2
        let negated := crest.head? = some 94
        let ch := if negated then crest.tail else crest
        match classLoop (ch.length + 1) r ch false 0 with
        | .error e => .error e
        | .ok (m, ch') => matchChunkAux fuel (failed || (m == negated)) ch' s'
      else if c = 63 then
        if failed then matchChunkAux fuel true crest s
        else matchChunkAux fuel (s.head? = some 47) crest (s.drop (decodeRune s).2)
      else if c = 92 then
        match crest with
        | [] => .error ()
        | c2 :: crest2 =>
          if failed then matchChunkAux fuel true crest2 s
          else matchChunkAux fuel (s.head? != some c2) crest2 s.tail
      else
        if failed then matchChunkAux fuel true crest s
        else matchChunkAux fuel (s.head? != some c) crest s.tail

def matchChunk (chunk s : Str) : Except Unit (Option Str) := matchChunkAux (chunk.length + 1) false chunk s

/-- the `for i := 0; i < len(name) && name[i] != '/'; i++` loop (`name[i+1:]` is the tail) -/
def starLoop (chunk : Str) (lastChunk : Bool) : Str → Except Unit (Option Str)
  | [] => .ok none
  | b :: rest =>
    if b = 47 then .ok none else
    match matchChunk chunk rest with
    | .error e => .error e
    | .ok (some t) => if lastChunk && !t.isEmpty then starLoop chunk lastChunk rest else .ok (some t)
    | .ok none => starLoop chunk lastChunk rest

/-- "check that the remainder of the pattern is syntactically valid" -/
def validRest : Nat → Str → Except Unit Unit
  | 0, _ => .ok ()
  | fuel+1, pattern =>
    if pattern.isEmpty then .ok () else
    let sc := scanChunk pattern
    match matchChunk sc.2.1 [] with
    | .error e => .error e
    | .ok _ => validRest fuel sc.2.2

def matchAux : Nat → Str → Str → Except Unit Bool
  | 0, _, _ => .error ()
  | fuel+1, pattern, name =>
    if pattern.isEmpty then .ok name.isEmpty else
    let sc := scanChunk pattern
    let star := sc.1
    let chunk := sc.2.1
    let rest := sc.2.2
    if star && chunk.isEmpty then .ok (!name.contains 47) else
    match matchChunk chunk name with
    | .error e => .error e
    | .ok r =>
      let direct : Option Str := match r with
        | some t => if t.isEmpty || !rest.isEmpty then some t else none
        | none => none
      match direct with
      | some t => matchAux fuel rest t
      | none =>
        match (if star then starLoop chunk rest.isEmpty name else .ok none) with
        | .error e => .error e
        | .ok (some t) => matchAux fuel rest t
        | .ok none =>
          match validRest (rest.length + 1) rest with
          | .error e => .error e
          | .ok _ => .ok false

/-- `path.Match(pattern, name)` -/
def pathMatch (pattern name : Str) : Except Unit Bool := matchAux (pattern.length + 1) pattern name

/-- "`Match` says yes" (an error counts as no) -/
def matchOK (pattern name : Str) : Bool :=
  match pathMatch pattern name with
  | .ok b => b
  | .error _ => false

/-- `_, err := path.Match(pat, ""); err == nil` -/
def globSyntaxOK (pattern : Str) : Bool :=
  match pathMatch pattern [] with
  | .ok _ => true
  | .error _ => false

/-! ## `fs.ValidPath`, `ValidPattern` -/

def validElems : List Str → Bool
  | [] => true
  | e :: rest => !(e.isEmpty || e = sDot || e = sDotDot) && validElems rest

/-- `fs.ValidPath` -/
def validPath (name : Str) : Bool :=
  if !validUtf8 name then false
  else if name = sDot then true
  else validElems (splitOn 47 name)

/-- `ValidPattern` -/
def validPattern (pattern : Str) : Bool := pattern != sDot && validPath pattern

/-! ## `module.CheckFilePath`, `IsBadName` -/

/-- `fileNameOK` -/
def fileNameOK (r : Nat) : Bool :=
  if r < 0x80 then
    (0x30 ≤ r && r ≤ 0x39) || (0x41 ≤ r && r ≤ 0x5A) || (0x61 ≤ r && r ≤ 0x7A) ||
    (lit ['!', '#', '$', '%', '&', '(', ')', '+', ',', '-', '.', '=', '@', '[', ']', '^', '_', '{', '}', '~', ' ']).contains r
  else isLetter r

def toUpperAscii (c : Nat) : Nat := if 0x61 ≤ c && c ≤ 0x7A then c - 32 else c

/-- CON PRN AUX NUL COM1..9 LPT1..9 -/
def badWindowsNames : List Str :=
  [lit ['C', 'O', 'N'], lit ['P', 'R', 'N'], lit ['A', 'U', 'X'], lit ['N', 'U', 'L']] ++
  (List.range 9).map (fun i => lit ['C', 'O', 'M'] ++ [0x31 + i]) ++
  (List.range 9).map (fun i => lit ['L', 'P', 'T'] ++ [0x31 + i])

/-- `short`: up to the first `.` -/
def shortName : Str → Str
  | [] => []
  | c :: rest => if c = 46 then [] else c :: shortName rest

/-- `checkElem(elem, filePath) == nil` -/
def checkElemOK (elem : Str) : Bool :=
  if elem.isEmpty then false
  else if elem.all (· = 46) then false
  else if elem.getLast? = some 46 then false
  else if !(runes elem).all fileNameOK then false
  else if badWindowsNames.contains ((shortName elem).map toUpperAscii) then false
  else true

/-- `module.CheckFilePath(path) == nil` -/
def checkFilePath (path : Str) : Bool :=
  if !validUtf8 path then false
  else if path.isEmpty then false
  else if (splitOn 47 path).length > 1 && (splitOn 47 path).any (·.isEmpty) then false   -- "//", trailing slash, empty element
  else (splitOn 47 path).all checkElemOK

/-- `IsBadName` -/
def isBadName (name : Str) : Bool :=
  if !checkFilePath name then true
  else [[], lit ['.', 'b', 'z', 'r'], lit ['.', 'g', 'i', 't'], lit ['.', 'h', 'g'], lit ['.', 's', 'v', 'n']].contains name

/-! ## the file tree -/

mutual
  inductive Node where
    | file (data : Str)
    | dir (ents : Ents)
    /-- symbolic link; `target` is what the link's own target path denotes (possibly another link) -/
    | link (target : Node)
    | dangling
    | irregular
  inductive Ents where
    | nil
    | cons (name : Str) (node : Node) (rest : Ents)
end

def Ents.toList : Ents → List (Str × Node)
  | .nil => []
  | .cons nm n rest => (nm, n) :: rest.toList

/-- what `os.Stat` sees: links followed -/
def Node.resolve : Node → Option Node
  | .link t => t.resolve
  | .dangling => none
  | n => some n

/-- `os.Stat(p)` succeeds and is a directory: its entries -/
def Node.dirEnts (n : Node) : Option Ents :=
  match n.resolve with
  | some (.dir es) => some es
  | _ => none

/-- `os.Lstat(p).IsDir()` -/
def Node.isDir : Node → Bool
  | .dir _ => true
  | _ => false

/-- `os.Lstat(p).Mode().IsRegular()` -/
def Node.isRegular : Node → Bool
  | .file _ => true
  | _ => false

/-- `_, err := os.Stat(filepath.Join(dir, "go.mod")); err == nil` for the directory entries `es` -/
def entsHaveGoMod (es : Ents) : Bool :=
  es.toList.any fun e => e.1 = sGoMod && e.2.resolve.isSome

/-- the same for a path that was reached (a non-directory has no `go.mod` below it) -/
def Node.hasGoMod (n : Node) : Bool :=
  match n.dirEnts with
  | some es => entsHaveGoMod es
  | none => false

/-! ## `filepath.Glob`

`Glob` splits the pattern at the last separator and recurses on the directory part; a literal
directory part is handed to the OS, a literal whole pattern to `Lstat`; names of a directory are
matched against one component with `Match`.  For a pattern that passed `path.Match(pat, "")` and
`ValidPattern` this is: every path whose elements match the pattern's components one by one,
intermediate elements being resolved with `Stat` (links followed), the last with `Lstat`.  A
component that is not a well-formed pattern on its own (`[a/b]`) makes `Glob` fail before it lists
anything; goembed ignores that error and sees no matches — here such a component matches nothing.

A match is returned as its *trail*: one `(name, Lstat node)` per path element, so that `CheckPath`
can look at every directory on the way. -/
def globTrail (n : Node) : List Str → List (List (Str × Node))
  | [] => [[]]
  | c :: cs =>
    match n.dirEnts with
    | some es => es.toList.flatMap fun e =>
        if matchOK c e.1 then (globTrail e.2 cs).map fun m => (e.1, e.2) :: m else []
    | none => []

/-! ## `filepath.WalkDir` with goembed's callback -/

/-- `cur != m && (IsBadName(name) || ((name[0]=='.' || name[0]=='_') && !all))` -/
def skipName (all : Bool) (name : Str) : Bool :=
  isBadName name || ((name.head? = some 46 || name.head? = some 95) && !all)

mutual
  /-- files delivered below an entry whose name passed the filter: `(relative path, data)` -/
  def walkNode (all : Bool) : Node → List (List Str × Str)
    | .file d => [([], d)]
    | .dir es => if entsHaveGoMod es then [] else walkEnts all es
    | .link _ => []
    | .dangling => []
    | .irregular => []
  def walkEnts (all : Bool) : Ents → List (List Str × Str)
    | .nil => []
    | .cons nm n rest =>
      (if skipName all nm then [] else (walkNode all n).map fun f => (nm :: f.1, f.2)) ++ walkEnts all rest
end

/-! ## `CheckPath` -/

structure Cfg where
  /-- cmd/go's `if dir != file { Lstat(dir) is not a directory → error }`, absent from goembed -/
  nonDirCheck : Bool
deriving DecidableEq, Repr

inductive Err where
  | badPattern | noMatch | diffModule | badName | nonDir | irregular | emptyDir
deriving DecidableEq, Repr

/-- `CheckPath` on the nodes met on the way to a match, one `(name, Lstat node)` per path element (for `a/b`: `a`, then `a/b`) -/
def checkTrail (cfg : Cfg) : List (Str × Node) → Except Err Unit
  | [] => .ok ()
  | (nm, n) :: rest =>
    -- the Go loop runs from the match upwards; every element gets the same tests, the order decides only
    -- which message wins
    match checkTrail cfg rest with
    | .error e => .error e
    | .ok () =>
      if n.hasGoMod then .error .diffModule
      else if cfg.nonDirCheck && !rest.isEmpty && !n.isDir then .error .nonDir
      else if isBadName nm then .error .badName
      else .ok ()

/-! ## `ResolvePatterns` -/

abbrev Seen := List (Str × Str)

/-- `addFile`: `if _, ok := seen[rel]; ok { return }; seen[rel] = data` -/
def addFile (seen : Seen) (rel data : Str) : Seen :=
  if seen.any (·.1 = rel) then seen else seen ++ [(rel, data)]

def addFiles (seen : Seen) : List (Str × Str) → Seen
  | [] => seen
  | f :: rest => addFiles (addFile seen f.1 f.2) rest

/-- one glob match `m` (trail non-empty): the files it delivers, as `(rel, data)` -/
def matchFiles (cfg : Cfg) (all : Bool) (trail : List (Str × Node)) : Except Err (List (Str × Str)) :=
  match checkTrail cfg trail with
  | .error e => .error e
  | .ok () =>
    match trail.getLast? with
    | none => .error .irregular          -- the package directory itself: not reachable, `ValidPattern` rejects
    | some (_, n) =>
      let rel := trail.map (·.1)
      match n with
      | .file d => .ok [(joinSlash rel, d)]
      | .dir es =>
        let fs := if entsHaveGoMod es then [] else walkEnts all es
        if fs.isEmpty then .error .emptyDir
        else .ok (fs.map fun f => (joinSlash (rel ++ f.1), f.2))
      | _ => .error .irregular

def matchesFiles (cfg : Cfg) (all : Bool) : List (List (Str × Node)) → Except Err (List (Str × Str))
  | [] => .ok []
  | t :: rest =>
    match matchFiles cfg all t with
    | .error e => .error e
    | .ok fs =>
      match matchesFiles cfg all rest with
      | .error e => .error e
      | .ok gs => .ok (fs ++ gs)

/-- `all:` prefix: `(all, glob)` -/
def splitAll (pat : Str) : Bool × Str :=
  if sAll.isPrefixOf pat then (true, pat.drop 4) else (false, pat)

/-- body of the `for _, pat = range patterns` loop: the files this pattern lists -/
def patternFiles (cfg : Cfg) (root : Node) (pat : Str) : Except Err (List (Str × Str)) :=
  let all := (splitAll pat).1
  let glob := (splitAll pat).2
  if !globSyntaxOK glob || !validPattern glob then .error .badPattern else
  match matchesFiles cfg all (globTrail root (splitOn 47 glob)) with
  | .error e => .error e
  | .ok fs => if fs.isEmpty then .error .noMatch else .ok fs

def resolveLoop (cfg : Cfg) (root : Node) (seen : Seen) : List Str → Except Err Seen
  | [] => .ok seen
  | pat :: rest =>
    match patternFiles cfg root pat with
    | .error e => .error e
    | .ok fs => resolveLoop cfg root (addFiles seen fs) rest

/-- `sort.Strings(names)` + table lookup -/
def sortSeen (seen : Seen) : Seen := seen.mergeSort fun a b => strLe a.1 b.1

/-- `ResolvePatterns(pkgDir, patterns)` with `pkgDir` = `root` -/
def resolve (cfg : Cfg) (root : Node) (pats : List Str) : Except Err Seen :=
  match resolveLoop cfg root [] pats with
  | .error e => .error e
  | .ok seen => .ok (sortSeen seen)

/-! ## `SplitArgs`, `ParseDirective`, `ParsePatterns` -/

def isBlank (c : Nat) : Bool := c = 32 || c = 9

inductive Mode where
  | between
  | plain (cur : Str)            -- `cur` reversed
  | quoted (q : Nat) (cur : Str)
  | escaped (q : Nat) (cur : Str)

/-- the index loops of `SplitArgs` as one pass: `out` holds the finished fields -/
def splitStep (out : List Str) (m : Mode) (c : Nat) : List Str × Mode :=
  match m with
  | .between =>
    if isBlank c then (out, .between)
    else if c = 34 || c = 96 then (out, .quoted c [c])
    else (out, .plain [c])
  | .plain cur =>
    if isBlank c then (out ++ [cur.reverse], .between) else (out, .plain (c :: cur))
  | .quoted q cur =>
    if c = q then (out ++ [(c :: cur).reverse], .between)
    else if q = 34 && c = 92 then (out, .escaped q (c :: cur))
    else (out, .quoted q (c :: cur))
  | .escaped q cur => (out, .quoted q (c :: cur))

def splitRun (out : List Str) (m : Mode) : Str → List Str × Mode
  | [] => (out, m)
  | c :: rest => splitRun (splitStep out m c).1 (splitStep out m c).2 rest

/-- what is left to do when the input is exhausted -/
def splitFinish : List Str × Mode → Except Unit (List Str)
  | (out, .between) => .ok out
  | (out, .plain cur) => .ok (out ++ [cur.reverse])
  | (_, .quoted _ _) => .error ()
  | (_, .escaped _ _) => .error ()

/-- `SplitArgs`: `.error ()` is "invalid //go:embed quoted pattern" (unterminated quote) -/
def splitArgs (s : Str) : Except Unit (List Str) := splitFinish (splitRun [] .between s)

/-- forward UTF-8 segmentation `(rune, bytes)` for `strings.TrimSpace` -/
def segmentsAux : Nat → Str → List (Nat × Str)
  | 0, _ => []
  | _, [] => []
  | fuel+1, b :: bs =>
    let p := decodeRune (b :: bs)
    (p.1, (b :: bs).take p.2) :: segmentsAux fuel ((b :: bs).drop p.2)

/-- `strings.TrimSpace` -/
def trimSpace (l : Str) : Str :=
  (((((segmentsAux l.length l).dropWhile fun s => isSpaceRune s.1).reverse).dropWhile fun s => isSpaceRune s.1).reverse).flatMap (·.2)

/-- `ParseDirective(line)`: `none` = not a directive, `some args` -/
def parseDirective (line : Str) : Option Str :=
  if !sGoEmbed.isPrefixOf line then none
  else
    match line.drop 8 with
    | [] => some []
    | ch :: rest => if ch != 32 && ch != 9 then none else some (trimSpace (ch :: rest))

/-- result of `strconv.Unquote` as far as it is modelled -/
inductive UQ where
  | ok (s : Str)
  | bad                 -- `Unquote` returns an error
  | unsupported         -- escape sequences other than `\\` and `\"`: not modelled
deriving DecidableEq, Repr

/-- body of a double-quoted literal in `Unquote`'s slow path: only `\\` and `\"` are modelled;
    bytes ≥ 0x80 go through DecodeRune/EncodeRune (invalid bytes become U+FFFD) -/
def unquoteBody : Nat → Str → UQ
  | 0, _ => .bad
  | _, [] => .ok []
  | fuel+1, c :: rest =>
    if c = 34 then .bad                    -- unescaped quote inside
    else if c = 92 then
      match rest with
      | d :: rest' =>
        if d = 92 || d = 34 then
          match unquoteBody fuel rest' with
          | .ok t => .ok (d :: t)
          | r => r
        else .unsupported
      | [] => .bad
    else if c < 0x80 then
      match unquoteBody fuel rest with
      | .ok t => .ok (c :: t)
      | r => r
    else
      let p := decodeRune (c :: rest)
      match unquoteBody fuel ((c :: rest).drop p.2) with
      | .ok t => .ok (Utf8.encodeRune p.1 ++ t)
      | r => r

/-- `strconv.Unquote(f)` -/
def unquote (f : Str) : UQ :=
  match f with
  | [] => .bad
  | [_] => .bad
  | q :: rest =>
    if rest.getLast? != some q then .bad else
    let body := rest.dropLast
    if q = 96 then
      if body.contains 96 then .bad
      else .ok (body.filter (· != 13))
    else if q = 34 then
      if body.contains 10 then .bad
      else if !body.contains 92 && !body.contains 34 && validUtf8 body then .ok body
      else unquoteBody (body.length + 1) body
    else if q = 39 then
      if body.contains 10 then .bad
      else if body.contains 92 then .unsupported
      else if body.contains 39 then .bad
      else
        match body with
        | [] => .ok []                       -- `''` unquotes to the empty string
        | b :: _ =>
          let p := decodeRune body
          if p.2 != body.length then .bad    -- more than one character
          else if b ≥ 0x80 && p.2 = 1 then .ok (Utf8.encodeRune p.1)   -- a lone invalid byte: U+FFFD
          else .ok body
    else .bad

inductive Parsed where
  | noDirective
  | err
  | unsupported
  | pats (ps : List Str)
deriving DecidableEq, Repr

/-- one field of `ParsePatterns`: unquoted if `strconv.Unquote` accepts it, an error if it looks
    quoted but is not, else taken as it stands -/
def unquoteField (f : Str) : Parsed :=
  match unquote f with
  | .ok uq => .pats [uq]
  | .unsupported => .unsupported
  | .bad => if f.head? = some 34 || f.head? = some 96 then .err else .pats [f]

def unquoteFields : List Str → Parsed
  | [] => .pats []
  | f :: rest =>
    match unquoteField f with
    | .pats a =>
      match unquoteFields rest with
      | .pats b => .pats (a ++ b)
      | r => r
    | r => r

def sSlashSlash : Str := [47, 47]

/-- `ParsePatterns` for a comment group consisting of the one comment `text` -/
def parseLine (text : Str) : Parsed :=
  let line := trimSpace (if sSlashSlash.isPrefixOf text then text.drop 2 else text)
  match parseDirective line with
  | none => .noDirective
  | some args =>
    if args.isEmpty then .err else
    match splitArgs args with
    | .error _ => .err
    | .ok fields => unquoteFields fields

/-! ## `BuildFSEntries` -/

/-- index-free `strings.LastIndexByte(s, '/')`: `(before, after)` of the last slash -/
def splitLastSlash (s : Str) : Option (Str × Str) :=
  match (splitOn 47 s).reverse with
  | [] => none
  | [_] => none
  | last :: revInit => some (joinSlash revInit.reverse, last)

/-- `path.Dir(name)` for a clean relative slash path (`a/b/c`: no empty, `.` or `..` element) -/
def pathDir (s : Str) : Str :=
  match splitLastSlash s with
  | none => sDot
  | some (d, _) => d

/-- names for which `pathDir` is `path.Dir` -/
def cleanRel (s : Str) : Bool := validElems (splitOn 47 s)

/-- proper non-empty prefixes of an element list, longest first -/
def dirPrefixes (cs : List Str) : List (List Str) :=
  (List.range (cs.length - 1)).reverse.map fun k => cs.take (k + 1)

/-- the `for dir := path.Dir(name); dir != "." && dir != "/"; dir = path.Dir(dir)` loop: for a clean
    relative name `path.Dir` drops the last element, so the loop visits the proper prefixes of the
    element list, longest first; each is entered with a trailing slash -/
def parentDirs (name : Str) : List Str :=
  (dirPrefixes (splitOn 47 name)).map fun p => joinSlash p ++ [47]

/-- `entries[k] = v` on an association list (insertion order kept, value overwritten) -/
def mapSet (m : Seen) (k v : Str) : Seen :=
  if m.any (·.1 = k) then m.map fun e => if e.1 = k then (k, v) else e else m ++ [(k, v)]

def addEntry (m : Seen) (f : Str × Str) : Seen :=
  (parentDirs f.1).foldl (fun m d => mapSet m d []) (mapSet m f.1 f.2)

/-- `embedSplit` -/
def embedSplit (name : Str) : Str × Str :=
  let n := if name.getLast? = some 47 then name.dropLast else name
  match splitLastSlash n with
  | some (d, e) => (d, e)
  | none => (sDot, n)

/-- the `less` of `sort.Slice` -/
def entryLt (a b : Str) : Bool :=
  let x := embedSplit a
  let y := embedSplit b
  if x.1 != y.1 then strLt x.1 y.1 else strLt x.2 y.2

/-- `BuildFSEntries` (map iteration order does not matter when no two keys compare equal) -/
def buildFSEntries (files : Seen) : Seen :=
  (files.foldl addEntry []).mergeSort fun a b => !entryLt b.1 a.1

end LlgoVerif.Embed
