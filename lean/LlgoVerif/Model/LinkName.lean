/-!
# Link names (C14) — executable model of llgo's symbol naming

Mirrors, branch by branch (strings are `List Char`):

* `ssa/abi/abi.go`  `PathOf` (strips the patched-package prefix), `FullName`, `TypeArgs`, `typeArgString`,
  `namedLikeTypeArgString`, `NamedName`, `scopeIndices` (the child-index path, innermost scope first);
* `ssa/type.go`     `FuncName(pkg, name, recv, org)` and `recvNamed` (`T` / `(*T)` rendering of receivers);
* `cl/import.go`    `funcName` (walk to the enclosing method for the receiver, go/ssa's `f$1$2` closure names,
  `Origin().Name() ++ TypeArgs` for instances — appended to every instance that is not itself a method, so a closure
  inside a method of `Box[int]` is `(*Box[int]).Get$1[int]`), `(*context).funcName` (WHICH package prefixes the
  name: the declaring one, except for go/ssa's package-less synthetic functions — `$bound`, `$thunk` and method
  wrappers — which are named after the package *being compiled*), `typesFuncName`/`astFuncName` (the key under which
  `//go:linkname` and `//export` directives are recorded), `varName`;
* `ssa/package.go`  `closureStub` prefix `__llgo_stub.`; `ssa/goroutine.go` `routineName`.

Defects are modelled as they are: package paths are not escaped (dots in the last path element), and the
receiver of a `$bound` / `$thunk` wrapper is rendered without the package that declares it.
-/
namespace LlgoVerif.LinkName

abbrev Str := List Char

/-- `env.LLGoRuntimePkg + "/internal/lib/"` (`abi.PatchPathPrefix`) -/
def patchPrefix : Str := "github.com/goplus/llgo/runtime/internal/lib/".toList

/-- `strings.TrimPrefix` -/
def trimPrefix (pre s : Str) : Str := if pre.isPrefixOf s then s.drop pre.length else s

/-- `abi.PathOf` for a non-nil package -/
def pathOf (pkg : Str) : Str := trimPrefix patchPrefix pkg

/-- `strconv.Itoa` on a non-negative number -/
def natStr (n : Nat) : Str := Nat.toDigits 10 n

/-- `strings.Join(xs, ",")` -/
def joinComma : List Str → Str
  | [] => []
  | [x] => x
  | x :: y :: r => x ++ ',' :: joinComma (y :: r)

inductive ChanDir | both | send | recv
  deriving DecidableEq, Repr

mutual
/-- type-argument terms as `typeArgString` sees them after `types.Unalias` -/
inductive Ty
  /-- `*types.Basic` (its `String()`), and the universe's package-less named types (`error`, `comparable`) -/
  | basic (name : Str)
  /-- `*types.Named`: declaring package path, object name, type arguments, child-index path of the declaring scope
      (innermost first; `[]` = package scope) -/
  | named (pkg name : Str) (targs : Tys) (scope : List Nat)
  | ptr (e : Ty)
  | slice (e : Ty)
  | array (n : Nat) (e : Ty)
  | map (k v : Ty)
  | chan (d : ChanDir) (e : Ty)
  /-- everything else (signature, struct, interface, type parameter …): `types.TypeString(t, PathOf)`, opaque text -/
  | other (text : Str)
inductive Tys
  | nil
  | cons (t : Ty) (ts : Tys)
end

def Tys.isEmpty : Tys → Bool
  | .nil => true
  | .cons _ _ => false

def Tys.ofList : List Ty → Tys
  | [] => .nil
  | t :: ts => .cons t (Tys.ofList ts)

/-- `scopeIndices`: `"." ++ i` for every scope level, innermost first -/
def scopeStr : List Nat → Str
  | [] => []
  | i :: r => '.' :: natStr i ++ scopeStr r

def chanDirStr : ChanDir → Str
  | .both => "chan".toList
  | .send => "chan<-".toList
  | .recv => "<-chan".toList

mutual
/-- `abi.typeArgString` -/
def tyStr : Ty → Str
  | .basic n => n
  | .named pkg name targs scope =>
      -- namedLikeTypeArgString: name [targs] scopeIndices, prefixed by PathOf(pkg) "."
      pathOf pkg ++ '.' :: (name ++ (if targs.isEmpty then [] else '[' :: tysStr targs ++ [']']) ++ scopeStr scope)
  | .ptr e => '*' :: tyStr e
  | .slice e => '[' :: ']' :: tyStr e
  | .array n e => '[' :: natStr n ++ ']' :: tyStr e
  | .map k v => 'm' :: 'a' :: 'p' :: '[' :: tyStr k ++ ']' :: tyStr v
  | .chan d e =>
      let es := tyStr e
      let es := match d, e with
        | .both, .chan .recv _ => '(' :: es ++ [')']
        | _, _ => es
      chanDirStr d ++ ' ' :: es
  | .other s => s
/-- the elements joined by "," -/
def tysStr : Tys → Str
  | .nil => []
  | .cons t .nil => tyStr t
  | .cons t (.cons u r) => tyStr t ++ ',' :: tysStr (.cons u r)
end

/-- `abi.TypeArgs` -/
def typeArgs (ts : Tys) : Str := '[' :: tysStr ts ++ [']']

/-- `abi.NamedName`: `Obj().Name()` plus the bracketed type arguments of an instantiated type -/
def namedName (name : Str) (targs : Tys) : Str :=
  if targs.isEmpty then name else name ++ '[' :: tysStr targs ++ [']']

/-- a method receiver: the named type (declaring package, name, type arguments) and whether it is `*T` -/
structure Recv where
  pkg : Str
  name : Str
  targs : Tys
  ptr : Bool

/-- `ssa.FuncName(pkg, name, recv, org)` for a named receiver / no receiver; `pkg` is the raw package path -/
def funcNameStr (pkg : Str) (name : Str) (recv : Option Recv) (org : Bool) : Str :=
  match recv with
  | some r =>
    let t := if org then r.name else namedName r.name r.targs
    let t := if r.ptr then '(' :: '*' :: t ++ [')'] else t
    pathOf pkg ++ '.' :: (t ++ '.' :: name)
  | none => pathOf pkg ++ '.' :: name      -- FullName

/-- program entities that receive a link name -/
inductive Entity
  /-- package-level function -/
  | func (pkg name : Str)
  /-- declared method; `rtargs` non-empty = method of an instantiated generic type -/
  | method (pkg recv : Str) (rtargs : Tys) (ptr : Bool) (name : Str)
  /-- the `idx`-th (1-based) function literal of `parent` -/
  | closure (parent : Entity) (idx : Nat)
  /-- instantiation of the generic function `base` -/
  | instance (base : Entity) (targs : Tys)
  /-- package-level variable -/
  | global (pkg name : Str)
  /-- go/ssa bound-method closure `M$bound` of method `m` -/
  | bound (m : Entity)
  /-- go/ssa method-expression thunk `M$thunk` -/
  | thunk (m : Entity)
  /-- go/ssa synthetic method wrapper (pointer-receiver wrapper, promoted method) -/
  | wrapper (m : Entity)
  /-- closure stub of a declared function used as a value -/
  | stub (e : Entity)
  /-- the `n`-th goroutine entry routine of a package -/
  | routine (pkg : Str) (n : Nat)

namespace Entity

/-- the package whose path prefixes the name when `(*context).funcName` takes `fn.Pkg` / `Origin().Pkg` -/
def pkg : Entity → Str
  | func p _ => p
  | method p _ _ _ _ => p
  | closure q _ => q.pkg
  | «instance» b _ => b.pkg
  | global p _ => p
  | bound m => m.pkg
  | thunk m => m.pkg
  | wrapper m => m.pkg
  | stub e => e.pkg
  | routine p _ => p

/-- go/ssa `Origin().Name()` (or `Name()`): the declared name followed by `$i` per nesting level -/
def baseName : Entity → Str
  | func _ n => n
  | method _ _ _ _ n => n
  | closure q i => q.baseName ++ '$' :: natStr i
  | «instance» b _ => b.baseName
  | global _ n => n
  | bound m => m.baseName
  | thunk m => m.baseName
  | wrapper m => m.baseName
  | stub e => e.baseName
  | routine _ _ => []

/-- the receiver found by walking `Parent()` upwards (`cl.funcName`) -/
def recv : Entity → Option Recv
  | func _ _ => none
  | method p r ta ptr _ => some ⟨p, r, ta, ptr⟩
  | closure q _ => q.recv
  | «instance» b _ => b.recv
  | global _ _ => none
  | bound m => m.recv
  | thunk m => m.recv
  | wrapper m => m.recv
  | stub e => e.recv
  | routine _ _ => none

/-- go/ssa `fn.TypeArgs()` of an instance (inherited by function literals); `none` = not an instance -/
def instArgs : Entity → Option Tys
  | func _ _ => none
  | method _ _ ta _ _ => if ta.isEmpty then none else some ta
  | closure q _ => q.instArgs
  | «instance» _ ta => some ta
  | _ => none

/-- `fn.Signature.Recv() != nil`: the function is itself a method -/
def isMethod : Entity → Bool
  | method _ _ _ _ _ => true
  | wrapper _ => true
  | _ => false

end Entity

/-- `cl.funcName(pkg, fn, org=false)` for declared functions, methods, literals and instances -/
def declName (pkgPath : Str) (e : Entity) : Str :=
  let fnName := match e.instArgs with
    | some ta => if e.isMethod then e.baseName else e.baseName ++ typeArgs ta
    | none => e.baseName
  funcNameStr pkgPath fnName e.recv false

/-- `(*context).funcName`, package of a go/ssa method wrapper (`fn.Pkg == nil`): a wrapper for a method of an INSTANTIATED
    generic type (`recv.Origin() != recv`: pointer wrapper of a value-receiver method, method promoted through an embedded
    generic type) takes the package that declares the receiver type — the method table (`abitype.go abiMethodFunc`)
    refers to it under that name from every package; any other wrapper takes the package being compiled. -/
def wrapperPkg (cur : Str) (m : Entity) : Str := if m.instArgs.isSome then m.pkg else cur

/-- The link name `(*context).funcName` / `varName` / the `ssa` package produce for entity `e` while package `cur`
    is being compiled (no `//go:linkname` in effect). -/
def linkNameIn (cur : Str) : Entity → Str
  | .global p n => pathOf p ++ '.' :: n
  | .bound m => funcNameStr cur (m.baseName ++ "$bound".toList) m.recv false
  | .thunk m => funcNameStr cur (m.baseName ++ "$thunk".toList) m.recv false
  | .wrapper m => funcNameStr (wrapperPkg cur m) m.baseName m.recv false
  | .stub e => "__llgo_stub.".toList ++ linkNameIn cur e
  | .routine p n => p ++ "._llgo_routine$".toList ++ natStr n
  | e => declName e.pkg e

/-! ### the two variants of naming go/ssa's package-less synthetic functions -/

/-- Which `ssa.FuncName` is live. `qualifyRecv = false`: the tree as pinned (receiver rendered by `abi.NamedName` alone).
    `qualifyRecv = true`: with `fixes/C14-1.diff` — the receiver keeps the scope indices of a function-local type, and the
    declaring package of a type that does not belong to the package the name is prefixed with (`(path.T)`, `(*path.T)`). -/
structure Cfg where
  qualifyRecv : Bool
  deriving DecidableEq, Repr

def Cfg.legacy : Cfg := ⟨false⟩
def Cfg.fixed : Cfg := ⟨true⟩

/-- receiver of a synthetic function: a `Recv` plus the scope path of a function-local receiver type
    (local types have no declared methods, only promoted ones, i.e. wrappers) -/
structure WRecv where
  pkg : Str
  name : Str
  targs : Tys
  scope : List Nat
  ptr : Bool

def Recv.toW (r : Recv) : WRecv := ⟨r.pkg, r.name, r.targs, [], r.ptr⟩

/-- `ssa.FuncName(cur, name, recv, false)` for a named receiver, in both variants -/
def wrapperName (cfg : Cfg) (cur : Str) (name : Str) (r : WRecv) : Str :=
  let t := namedName r.name r.targs
  let t := if cfg.qualifyRecv then t ++ scopeStr r.scope else t
  let foreign := cfg.qualifyRecv && pathOf r.pkg != pathOf cur
  let t := if foreign then pathOf r.pkg ++ '.' :: t else t
  let t := if r.ptr then '(' :: '*' :: t ++ [')'] else if foreign then '(' :: t ++ [')'] else t
  pathOf cur ++ '.' :: (t ++ '.' :: name)

/-- name of a synthetic function (receiver `rc`, go/ssa name `name`) while `cur` is compiled -/
def synthName (cfg : Cfg) (cur : Str) (name : Str) (rc : Option Recv) : Str :=
  match rc with
  | some r => wrapperName cfg cur name r.toW
  | none => pathOf cur ++ '.' :: name

/-- `linkNameIn` under a naming variant: only `bound` / `thunk` / `wrapper` (and stubs of them) differ -/
def linkNameInC (cfg : Cfg) (cur : Str) : Entity → Str
  | .bound m => synthName cfg cur (m.baseName ++ "$bound".toList) m.recv
  | .thunk m => synthName cfg cur (m.baseName ++ "$thunk".toList) m.recv
  | .wrapper m => synthName cfg (wrapperPkg cur m) m.baseName m.recv
  | .stub e => "__llgo_stub.".toList ++ linkNameInC cfg cur e
  | e => linkNameIn cur e

/-- the name seen from the declaring package (what the proved theorems talk about) -/
def linkName (e : Entity) : Str := linkNameIn e.pkg e

/-- `cl.funcName(pkg, origin, org=true)` = `typesFuncName` = `astFuncName`: the key of the linkname table -/
def origName : Entity → Str
  | .global p n => pathOf p ++ '.' :: n
  | e => funcNameStr e.pkg e.baseName e.recv true

/-- `typesFuncName`'s in-package name: `name`, `T.name`, `(*T).name` -/
def inPkgName (e : Entity) : Str :=
  match e.recv with
  | some r => (if r.ptr then '(' :: '*' :: r.name ++ [')'] else r.name) ++ '.' :: e.baseName
  | none => e.baseName

/-- `//go:linkname local target` / `//export name` table as `PreCollectLinknames`/`initLinkname` fill it:
    key `origName`, value the target text. Later directives overwrite earlier ones (map store). -/
abbrev LinkTable := List (Str × Str)

def LinkTable.lookup (t : LinkTable) (k : Str) : Option Str :=
  match t with
  | [] => none
  | (k', v) :: r => match LinkTable.lookup r k with
    | some v' => some v'
    | none => if k' = k then some v else none

/-- `symbolIn` under a naming variant -/
def symbolInC (cfg : Cfg) (t : LinkTable) (cur : Str) (e : Entity) : Str :=
  match t.lookup (origName e) with
  | some v =>
    if "C.".toList.isPrefixOf v then v.drop 2
    else if "py.".toList.isPrefixOf v then v.drop 3
    else if "llgo.".toList.isPrefixOf v then v.drop 5
    else v
  | none => linkNameInC cfg cur e

/-- symbol a function reference resolves to: `(*context).funcName` with the linkname table consulted first -/
def symbolIn (t : LinkTable) (cur : Str) (e : Entity) : Str :=
  match t.lookup (origName e) with
  | some v =>
    if "C.".toList.isPrefixOf v then v.drop 2
    else if "py.".toList.isPrefixOf v then v.drop 3
    else if "llgo.".toList.isPrefixOf v then v.drop 5
    else v
  | none => linkNameIn cur e

/-! ## decidable side conditions of the theorems -/

/-- characters that never occur in an identifier or an import path and that delimit the pieces of a name -/
def brk (c : Char) : Bool :=
  c == '[' || c == ']' || c == '(' || c == ')' || c == ',' || c == ' ' || c == '*'

/-- identifier characters: letters, digits, `_` (any non-ASCII character is accepted as a letter), and `#`
    (go/ssa numbers several `init` functions `init#1`, …) -/
def identChar (c : Char) : Bool :=
  c.isAlphanum || c == '_' || c == '#' || c.toNat ≥ 128

def identOK (s : Str) : Bool := !s.isEmpty && s.all identChar

/-- the part of a path after its last `/` -/
def lastElem (p : Str) : Str := (p.reverse.takeWhile (· != '/')).reverse

/-- **the hypothesis of the partial theorem**: the last path element contains no dot -/
def noDotInLastPathElem (p : Str) : Bool := !(lastElem p).contains '.'

/-- import-path characters (Go's `module.CheckImportPath` alphabet); in particular never a `brk` character or `$` -/
def pathChar (c : Char) : Bool :=
  c.isAlphanum || c == '_' || c == '.' || c == '/' || c == '-' || c == '~' || c == '+' || c.toNat ≥ 128

/-- a valid package path: non-empty, import-path alphabet, not under the patched-package prefix
    (those are *meant* to share names with the package they patch) -/
def pathValid (p : Str) : Bool :=
  !p.isEmpty && p.all pathChar && !patchPrefix.isPrefixOf p

/-- a package path the partial theorem covers: valid, and the last element has no dot -/
def pathOK (p : Str) : Bool := pathValid p && noDotInLastPathElem p

mutual
/-- type arguments the theorems cover (`pp` = the condition on package paths) -/
def Ty.ok (pp : Str → Bool) : Ty → Bool
  | .basic n => identOK n
  | .named p n ta _ => pp p && identOK n && ta.ok pp
  | .ptr e => e.ok pp
  | .slice e => e.ok pp
  | .array _ e => e.ok pp
  | .map k v => k.ok pp && v.ok pp
  | .chan _ _ => false
  | .other _ => false
def Tys.ok (pp : Str → Bool) : Tys → Bool
  | .nil => true
  | .cons t ts => t.ok pp && ts.ok pp
end

namespace Entity

/-- entities covered by the injectivity theorems: functions, methods, function literals (any nesting),
    instances of generic functions, globals — with valid identifiers, package paths satisfying `pp` and
    covered type arguments -/
def ok (pp : Str → Bool) : Entity → Bool
  | func p n => pp p && identOK n
  | method p r ta _ n => pp p && identOK r && ta.ok pp && identOK n
  | closure q _ => (match q with
      | func .. | method .. | closure .. | «instance» .. => true
      | _ => false) && q.ok pp
  | «instance» b ta => (match b with | func .. => true | _ => false) && b.ok pp && !ta.isEmpty && ta.ok pp
  | global p n => pp p && identOK n
  | _ => false

/-- Go's own scoping rule excludes this pair: a function and a variable of one package with the same name -/
def declClash : Entity → Entity → Bool
  | func p n, global p' n' => p == p' && n == n'
  | global p n, func p' n' => p == p' && n == n'
  | _, _ => false

/-- go/ssa's package-less synthetic functions: named after the package being compiled (a wrapper for a method of an
    instantiated generic type: after the package of the receiver type, `wrapperPkg`) -/
def isSynthetic : Entity → Bool
  | bound _ | thunk _ | wrapper _ => true
  | stub e => e.isSynthetic
  | _ => false

end Entity

end LlgoVerif.LinkName
