import LlgoVerif.Model.Utf8
/-!
Models for C17:
* `internal/shellparse.Parse` over code points (`[]rune(cmd)`),
* `xtool/safesplit.SplitPkgConfigFlags` over bytes, as the Go loop indexes the string (see the section below),
* `internal/buildtags.parseBuildTags` and `CheckTags` (with go/build's evaluation of a `+build` line),
* `internal/clang`: the argument vectors of `Compile` and `Link`,
* `internal/env.ExpandEnvWithDefault` (with the map iteration order as an explicit parameter),
* `xtool/env`: `$(pkg-config …)` and `$VAR` expansion (`expandEnvWithCmd`, `os.Expand`).
-/
namespace LlgoVerif.Shell

/-! ## unicode.IsSpace -/

def isSpace (c : Char) : Bool :=
  let n := c.toNat
  n = 0x20 || (0x09 ≤ n && n ≤ 0x0D) || n = 0x85 || n = 0xA0 || n = 0x1680 ||
  (0x2000 ≤ n && n ≤ 0x200A) || n = 0x2028 || n = 0x2029 || n = 0x202F || n = 0x205F || n = 0x3000

/-! ## shellparse.Parse -/

structure St where
  args : List (List Char) := []
  cur  : List Char := []        -- reversed
  inQ  : Bool := false
  q    : Char := ' '            -- only consulted while `inQ`
  has  : Bool := false

/-- one iteration of the `for` loop; the `Bool` says "i++ once more" (escape consumed two runes) -/
def step (s : St) (r : Char) (next : Option Char) : St × Bool :=
  if !s.inQ && (r = '"' || r = '\'') then ({ s with inQ := true, q := r, has := true }, false)
  else if s.inQ && r = s.q then ({ s with inQ := false, q := ' ' }, false)
  else if !s.inQ && isSpace r then
    if s.has then ({ s with args := s.args ++ [s.cur.reverse], cur := [], has := false }, false)
    else (s, false)
  else if s.inQ && r = '\\' && next.isSome then
    if s.q = '"' then
      match next with
      | some n => if n = s.q || n = '\\' then ({ s with cur := n :: s.cur }, true)
                  else ({ s with cur := r :: s.cur }, false)
      | none => (s, false)
    else ({ s with cur := r :: s.cur }, false)
  else ({ s with cur := r :: s.cur, has := true }, false)

def run (s : St) (l : List Char) : St :=
  match l with
  | [] => s
  | r :: rest =>
    let p := step s r rest.head?
    run p.1 (if p.2 then rest.tail else rest)
termination_by l.length
decreasing_by
  all_goals simp_wf
  all_goals (split <;> simp [List.length_tail] <;> omega)

/-- `Parse`: `.error ()` is "unterminated quote" -/
def parse (cmd : List Char) : Except Unit (List (List Char)) :=
  let s := run {} cmd
  if s.inQ then .error () else
  .ok (if s.has then s.args ++ [s.cur.reverse] else s.args)

/-! The documented quoting: wrap in double quotes, escape `"` and `\`. -/

def esc : List Char → List Char
  | [] => []
  | c :: cs => if c = '"' || c = '\\' then '\\' :: c :: esc cs else c :: esc cs

def quote1 (a : List Char) : List Char := '"' :: (esc a ++ ['"'])

def join : List (List Char) → List Char
  | [] => []
  | [a] => quote1 a
  | a :: b :: as => quote1 a ++ ' ' :: join (b :: as)

/-- single-quote form: usable for arguments without a single quote -/
def squote1 (a : List Char) : List Char := '\'' :: (a ++ ['\''])

def sjoin : List (List Char) → List Char
  | [] => []
  | [a] => squote1 a
  | a :: b :: as => squote1 a ++ ' ' :: sjoin (b :: as)

/-! ## safesplit.SplitPkgConfigFlags

Over **bytes** (`Nat < 256`), as the Go loop indexes the string bytewise: the flag "character"
after `-` is one byte.  `strings.TrimSpace` is rendered as "strip white-space runes at both ends
of the forward UTF-8 segmentation" (invalid bytes are one-byte segments that are not space). -/

abbrev Byte := Nat
def bSP : Byte := 32
def bTAB : Byte := 9
def bDASH : Byte := 45
def bBS : Byte := 92

def isBlank (c : Byte) : Bool := c = 32 || c = 9

def skipSp : List Byte → List Byte
  | [] => []
  | c :: cs => if isBlank c then skipSp cs else c :: cs

theorem skipSp_length (l : List Byte) : (skipSp l).length ≤ l.length := by
  fun_induction skipSp l with
  | case1 => exact Nat.le_refl _
  | case2 c cs _ ih => exact Nat.le_succ_of_le ih
  | case3 c cs _ => exact Nat.le_refl _

/-- the inner "read content" loop; `cur` reversed. Returns `(cur, rest)` where `rest` is either
    empty or starts at the `-` of the next flag. -/
def readContent (cur : List Byte) (l : List Byte) : List Byte × List Byte :=
  match l with
  | [] => (cur, [])
  | c :: rest =>
    if c = 92 then
      match rest with
      | n :: rest' => if isBlank n then readContent (n :: cur) rest' else readContent (c :: cur) (n :: rest')
      | [] => (c :: cur, [])
    else if isBlank c then
      if (skipSp rest).head? = some 45 then (cur, skipSp rest)
      else readContent (32 :: cur) (skipSp rest)
    else readContent (c :: cur) rest
termination_by l.length
decreasing_by
  · simp_wf; omega
  · simp_wf
  · simp_wf; have := skipSp_length rest; omega
  · simp_wf

def isSpaceRune (n : Nat) : Bool :=
  n = 0x20 || (0x09 ≤ n && n ≤ 0x0D) || n = 0x85 || n = 0xA0 || n = 0x1680 ||
  (0x2000 ≤ n && n ≤ 0x200A) || n = 0x2028 || n = 0x2029 || n = 0x202F || n = 0x205F || n = 0x3000

/-- forward UTF-8 segmentation: `(rune, its bytes)` -/
def segmentsAux : Nat → List Byte → List (Nat × List Byte)
  | 0, _ => []
  | _, [] => []
  | fuel+1, b :: bs =>
    let p := Utf8.nextRune (b :: bs)
    (p.1, (b :: bs).take p.2) :: segmentsAux fuel ((b :: bs).drop p.2)

def segments (l : List Byte) : List (Nat × List Byte) := segmentsAux l.length l

/-- `strings.TrimSpace` -/
def trimSpace (l : List Byte) : List Byte :=
  ((((segments l).dropWhile (fun s => isSpaceRune s.1)).reverse.dropWhile (fun s => isSpaceRune s.1)).reverse).flatMap (·.2)

theorem readContent_length (cur l : List Byte) : (readContent cur l).2.length ≤ l.length := by
  fun_induction readContent cur l with
  | case1 => exact Nat.le_refl _
  | case2 cur n rest' _ ih => exact Nat.le_trans ih (Nat.le_succ_of_le (Nat.le_succ _))   -- `\` and a blank
  | case3 cur n rest' _ ih => exact Nat.le_succ_of_le ih                                    -- `\` and another byte
  | case4 => exact Nat.zero_le _                                                            -- `\` at the end
  | case5 cur c rest _ _ _ => exact Nat.le_succ_of_le (skipSp_length rest)                  -- blanks, then `-`
  | case6 cur c rest _ _ _ ih => exact Nat.le_succ_of_le (Nat.le_trans ih (skipSp_length rest))   -- blanks inside
  | case7 cur c rest _ _ ih => exact Nat.le_succ_of_le ih

/-- the outer loop, entered with `i < len(s)`; `cur` (reversed) is the part built so far -/
def flagsLoop (acc : List (List Byte)) (cur : List Byte) (l : List Byte) : List (List Byte) :=
  match l with
  | [] => if cur.isEmpty then acc else acc ++ [trimSpace cur.reverse]
  | _ :: l1 =>
    let acc := if cur.isEmpty then acc else acc ++ [trimSpace cur.reverse]
    match l1 with
    | [] => acc ++ [trimSpace [45]]
    | c :: l2 =>
      if (skipSp l2).head? = some 45 then flagsLoop acc [c, 45] (skipSp l2)
      else flagsLoop acc (readContent [c, 45] (skipSp l2)).1 (readContent [c, 45] (skipSp l2)).2
termination_by l.length
decreasing_by
  · simp_wf; have := skipSp_length l2; omega
  · simp_wf
    have := skipSp_length l2
    have := readContent_length [c, 45] (skipSp l2)
    omega

def splitFlags (s : List Byte) : List (List Byte) := flagsLoop [] [] (skipSp s)

/-- escape blanks in a flag's content the way the function's doc comment describes -/
def escBlank : List Byte → List Byte
  | [] => []
  | c :: cs => if isBlank c then 92 :: c :: escBlank cs else c :: escBlank cs

/-! the documented flag-string form: `-` flag-byte content, blanks in the content escaped, flags joined by one blank -/

structure Flag where
  c : Byte
  content : List Byte
deriving DecidableEq, Repr

def Flag.bytes (f : Flag) : List Byte := 45 :: f.c :: f.content
def Flag.render (f : Flag) : List Byte := 45 :: f.c :: escBlank f.content

def joinFlags : List Flag → List Byte
  | [] => []
  | [f] => f.render
  | f :: g :: fs => f.render ++ 32 :: joinFlags (g :: fs)

/-- the decidable well-formedness predicate of the round-trip law -/
def Flag.WF (f : Flag) : Prop :=
  f.content.head? ≠ some 45 ∧ f.content.getLast? ≠ some 92 ∧ trimSpace f.bytes = f.bytes

instance (f : Flag) : Decidable f.WF := by unfold Flag.WF; infer_instance

/-! ## buildtags.parseBuildTags -/

def isTagSep (c : Char) : Bool := c = ',' || c = ' '

/-- `strings.FieldsFunc(s, isTagSep)` -/
def fieldsAux (cur : List Char) : List Char → List (List Char)
  | [] => if cur.isEmpty then [] else [cur.reverse]
  | c :: cs =>
    if isTagSep c then
      (if cur.isEmpty then fieldsAux [] cs else cur.reverse :: fieldsAux [] cs)
    else fieldsAux (c :: cur) cs

def fieldsTags (s : List Char) : List (List Char) := fieldsAux [] s

def tagsPrefix : List Char := "-tags=".toList

def collectTags : List (List Char) → List (List Char)
  | [] => []
  | f :: rest =>
    if f = "-tags".toList then
      match rest with
      | v :: rest' => fieldsTags v ++ collectTags rest'
      | [] => []
    else if tagsPrefix.isPrefixOf f then fieldsTags (f.drop 6) ++ collectTags rest
    else collectTags rest

def dedup : List (List Char) → List (List Char) → List (List Char)
  | _, [] => []
  | seen, t :: ts => if seen.contains t then dedup seen ts else t :: dedup (t :: seen) ts

def parseBuildTags (flags : List (List Char)) : List (List Char) := dedup [] (collectTags flags)

/-! ### internal/clang: the argument vector handed to the compiler / linker

`Cmd.Compile(args…)` runs `app (split $CCFLAGS) (split $CFLAGS) cfg.CCFLAGS cfg.CFLAGS args`, `Cmd.Link(args…)` runs
`app (split $CCFLAGS) (split $LDFLAGS) cfg.LDFLAGS args`; an unset or empty variable contributes nothing; nothing is
removed, reordered or de-duplicated. -/

def envFlags (v : List Byte) : List (List Byte) := if v.isEmpty then [] else splitFlags v

def compileArgv (envCC envC : List Byte) (cfgCC cfgC args : List (List Byte)) : List (List Byte) :=
  envFlags envCC ++ envFlags envC ++ cfgCC ++ cfgC ++ args

def linkArgv (envCC envLD : List Byte) (cfgLD args : List (List Byte)) : List (List Byte) :=
  envFlags envCC ++ envFlags envLD ++ cfgLD ++ args

/-! ### `CheckTags`: which `// +build` expressions hold under the tags of the command line

`buildtags.CheckTags` writes one virtual file `// +build <expr>` per requested expression and asks `go/build`'s
`MatchFile`.  go/build is not llgo code; its evaluation of an old-style constraint line (`constraint.parsePlusBuildExpr`
+ `Context.matchTag`) is modelled here so that the WHOLE function has a model: blank-separated options are OR-ed,
comma-separated terms AND-ed, `!` negates, a malformed term stands for the tag `ignore`. -/

def isValidTagChar (c : Char) : Bool := c.isAlphanum || c = '_' || c = '.'
def isValidTag (l : List Char) : Bool := !l.isEmpty && l.all isValidTagChar

def ignoreTag : List Char := "ignore".toList

/-- one term of a clause -/
def evalLit (has : List Char → Bool) (lit : List Char) : Bool :=
  match lit with
  | ['!'] => has ignoreTag
  | '!' :: '!' :: _ => has ignoreTag
  | '!' :: rest => !(if isValidTag rest then has rest else has ignoreTag)
  | _ => if isValidTag lit then has lit else has ignoreTag

/-- `strings.Split(s, ",")` -/
def splitComma (cur : List Char) : List Char → List (List Char)
  | [] => [cur.reverse]
  | c :: rest => if c = ',' then cur.reverse :: splitComma [] rest else splitComma (c :: cur) rest

def evalClause (has : List Char → Bool) (clause : List Char) : Bool := (splitComma [] clause).all (evalLit has)

def isBlankChar (c : Char) : Bool := c = ' ' || c = '\t'
/-- `strings.Fields` on the alphabet of the generator (blank and tab) -/
def blankFields (cur : List Char) : List Char → List (List Char)
  | [] => if cur.isEmpty then [] else [cur.reverse]
  | c :: rest => if isBlankChar c then (if cur.isEmpty then blankFields [] rest else cur.reverse :: blankFields [] rest)
                 else blankFields (c :: cur) rest

def evalPlusBuild (has : List Char → Bool) (expr : List Char) : Bool :=
  match blankFields [] expr with
  | [] => has ignoreTag
  | cs => cs.any (evalClause has)

/-- tags that hold without being named on the command line (linux/amd64 host, gc toolchain) -/
def implicitTags : List (List Char) := ["linux".toList, "amd64".toList, "gc".toList, "unix".toList]

def hasTag (flags : List (List Char)) (t : List Char) : Bool :=
  (parseBuildTags flags).contains t || implicitTags.contains t

/-- `CheckTags(flags, m)`: every expression that holds is set to true; nothing is ever reset -/
def checkTags (flags : List (List Char)) (m : List (List Char × Bool)) : List (List Char × Bool) :=
  m.map fun (e, v) => (e, v || evalPlusBuild (hasTag flags) e)

/-! ## env.ExpandEnvWithDefault -/

/-- `strings.ReplaceAll(s, old, new)` for non-empty `old` -/
def replaceAll (old new : List Char) (s : List Char) : List Char :=
  if old.isEmpty then s else
  let rec go (fuel : Nat) (s : List Char) : List Char :=
    match fuel, s with
    | 0, s => s
    | _, [] => []
    | fuel+1, c :: cs =>
      if old.isPrefixOf (c :: cs) then new ++ go fuel ((c :: cs).drop old.length)
      else c :: go fuel cs
  go (s.length + 1) s

/-- `ExpandEnvWithDefault(template, envs, default)` where `envs` is listed in the order the Go map
    iteration happens to visit it -/
def expandTemplate (template : List Char) (envs : List (List Char × List Char)) (dflt : List Char) : List Char :=
  if template.isEmpty then [] else
  let r := replaceAll ['{', '}'] dflt template
  envs.foldl (fun acc kv => if kv.1.isEmpty then acc else replaceAll ('{' :: kv.1 ++ ['}']) kv.2 acc) r


/-! ## xtool/env: `$(pkg-config …)` and `$VAR` expansion in link directives

`expandEnvWithCmd`: first every leftmost `\$\([^)]+\)` match is replaced by the output of the sub-command
(only `pkg-config` / `llvm-config`; words split on blank, tab, newline; output trimmed, newlines → blanks; a
failing or foreign command yields ""), then `os.Expand` substitutes `$NAME` / `${NAME}` from the environment, then
`strings.TrimSpace`.  The sub-command and the environment are PARAMETERS (`cmdOut`, `env`).
Over characters (valid UTF-8 templates; all delimiters are ASCII). -/

def isWordSep (c : Char) : Bool := c = ' ' || c = '\t' || c = '\n'

/-- `reFlag.FindAllString(s, -1)` with `[^ \t\n]+` -/
def wordsAux (cur : List Char) : List Char → List (List Char)
  | [] => if cur.isEmpty then [] else [cur.reverse]
  | c :: cs =>
    if isWordSep c then (if cur.isEmpty then wordsAux [] cs else cur.reverse :: wordsAux [] cs)
    else wordsAux (c :: cur) cs

def words (s : List Char) : List (List Char) := wordsAux [] s

def trimChars (l : List Char) : List Char :=
  ((l.dropWhile isSpace).reverse.dropWhile isSpace).reverse

/-- what one `$(…)` match is replaced with; `none` = the Go code panics (`args[0]` on an empty word list) -/
def subcmdValue (cmdOut : List (List Char) → Option (List Char)) (inner : List Char) : Option (List Char × Bool) :=
  match words (trimChars inner) with
  | [] => none
  | cmd :: args =>
    if cmd ≠ "pkg-config".toList && cmd ≠ "llvm-config".toList then some ([], false)
    else match cmdOut (cmd :: args) with
      | none => some ([], true)
      | some out => some ((trimChars out).map (fun c => if c = '\n' then ' ' else c), true)

/-- scan for the `)` closing a `$(`: returns (inner, rest after `)`); `none` when there is no `)` -/
def splitParen : List Char → Option (List Char × List Char)
  | [] => none
  | c :: cs =>
    if c = ')' then some ([], cs)
    else match splitParen cs with
      | some (inner, rest) => some (c :: inner, rest)
      | none => none

/-- the `ReplaceAllStringFunc` pass; result `(text, sawConfigCommand)`, `none` = panic -/
def replaceSubcmds (cmdOut : List (List Char) → Option (List Char)) : Nat → List Char → Option (List Char × Bool)
  | 0, s => some (s, false)
  | _, [] => some ([], false)
  | fuel+1, c :: cs =>
    let plain := (replaceSubcmds cmdOut fuel cs).map (fun p => (c :: p.1, p.2))
    if c = '$' then
      match cs with
      | '(' :: body =>
        match splitParen body with
        | some (inner, rest) =>
          if inner.isEmpty then plain
          else match subcmdValue cmdOut inner, replaceSubcmds cmdOut fuel rest with
            | some (v, cfg), some (t, cfg') => some (v ++ t, cfg || cfg')
            | _, _ => none
        | none => plain
      | _ => plain
    else plain

def isAlnumU (c : Char) : Bool :=
  c = '_' || ('0' ≤ c && c ≤ '9') || ('a' ≤ c && c ≤ 'z') || ('A' ≤ c && c ≤ 'Z')

def isShellSpecial (c : Char) : Bool :=
  c = '*' || c = '#' || c = '$' || c = '@' || c = '!' || c = '?' || c = '-' || ('0' ≤ c && c ≤ '9')

/-- `os.getShellName`: (name, characters consumed) for the text after a `$` -/
def shellName (s : List Char) : List Char × Nat :=
  match s with
  | [] => ([], 0)
  | '{' :: rest =>
    match rest with
    | c :: '}' :: _ => if isShellSpecial c then ([c], 3) else
        (match rest.idxOf? '}' with
         | some i => if i = 0 then ([], 2) else (rest.take i, i + 2)
         | none => ([], 1))
    | _ =>
      match rest.idxOf? '}' with
      | some i => if i = 0 then ([], 2) else (rest.take i, i + 2)
      | none => ([], 1)
  | c :: _ =>
    if isShellSpecial c then ([c], 1)
    else let n := s.takeWhile isAlnumU; (n, n.length)

/-- `os.Expand(s, env)` -/
def osExpand (env : List Char → List Char) : Nat → List Char → List Char
  | 0, s => s
  | _, [] => []
  | fuel+1, c :: cs =>
    if c = '$' && !cs.isEmpty then
      let p := shellName cs
      if p.1.isEmpty && p.2 > 0 then osExpand env fuel (cs.drop p.2)          -- bad syntax: eaten
      else if p.1.isEmpty then '$' :: osExpand env fuel cs                    -- lone `$`
      else env p.1 ++ osExpand env fuel (cs.drop p.2)
    else c :: osExpand env fuel cs

/-- `expandEnvWithCmd` -/
def expandEnvWithCmd (cmdOut : List (List Char) → Option (List Char)) (env : List Char → List Char)
    (s : List Char) : Option (List Char × Bool) :=
  match replaceSubcmds cmdOut (s.length + 1) s with
  | none => none
  | some (t, cfg) => some (trimChars (osExpand env (t.length + 1) t), cfg)

end LlgoVerif.Shell
