import LlgoVerif.Model.Slice
/-!
Machine-integer (`int` = two's-complement int64, `uintptr` = mod 2^64) rendering of the arithmetic of
`runtime/internal/runtime/z_slice.go` that `Model/Slice.lean` does with mathematical integers:
`nextslicecap` (with its `for` loop and the "did `newcap` overflow" tests), `GrowSlice`
(`newLen = oldLen + num`, `uintptr(newCap * etSize)`, `uintptr(oldLen * etSize)`) and `SliceAppend`
(`oldLen * etSize`, `uintptr(num * etSize)`).  `MakeSlice` models its `uintptr` conversions itself
(`Model/Slice.lean`); its exactness theorem is `makeSlice_cases` in `Lemmas/Slice.lean` (`makeSlice_exact`).

An `int` value is represented by the integer it denotes (always inside `[-2^63, 2^63)`); every operation that can
wrap in Go is followed by `wrap`.  `>> 2` on an `int` is floor division by 4; `uint(x)` is `x mod 2^64`.

`GrowSlice64`/`SliceAppend64` take a flag `lenCheck`: `false` is the unchanged tree (no test of the wrapped
`newLen`), `true` the tree with `fixes/C05-3.diff` (`if newLen < 0 { panic("growslice: len out of range") }`, as in
Go's own `growslice`).  The check probes the real code to learn which one is live.
-/
namespace LlgoVerif.Slice

/-- the int64 value an integer wraps to (Go `int` arithmetic on a 64-bit target) -/
def wrap (x : Int) : Int := (x + 2 ^ 63) % 2 ^ 64 - 2 ^ 63

/-- `uint(x)` of an `int` (as an integer) -/
def toU (x : Int) : Int := x % 2 ^ 64

/-- the value is a representable `int` -/
def InI64 (x : Int) : Prop := -2 ^ 63 ≤ x ∧ x < 2 ^ 63

instance (x : Int) : Decidable (InI64 x) := by unfold InI64; infer_instance

/-- how a machine-level operation can fail -/
inductive Err64 where
  | panic     -- a Go run-time panic
  | ub        -- undefined behaviour in C (`memcpy` on overlapping ranges)
  | diverge   -- the loop of `nextslicecap` is outside the domain on which its termination is proved
  deriving DecidableEq, Repr

def Err.to64 : Err → Err64
  | .panic => .panic
  | .ub => .ub

/-- the mathematical-integer result read as a machine-level result -/
def lift64 {α : Type} : Except Err α → Except Err64 α
  | .ok a => .ok a
  | .error e => .error e.to64

/-- termination measure of the machine loop (see `capLoop64`).  While the loop continues `newcap` is in
    `[0, newLen) ⊆ [0, 2^63)`.  Below `2^63 - 768` an iteration adds at least 192 (or wraps to a negative value, which
    ends the loop).  In the last 768 values (window W) `newcap + 768` itself wraps, `>> 2` of the negative sum is about
    `-2^61`, and `newcap` *drops* into station A `[3·2^61 - 768, 3·2^61 + 190]`, the image of W (`190 = 768/4 - 2`);
    the image of A is station B `[15·2^59 - 768, 15·2^59 + 429]` (`429 = 190 + (190 + 768)/4`), and the step after B
    wraps.  So: rank 0 on B, 1 on A, 2 on W, `3 + (2^63 - newcap)` elsewhere (O). -/
def capRank (c : Int) : Nat :=
  if 15 * 2 ^ 59 - 768 ≤ c ∧ c ≤ 15 * 2 ^ 59 + 429 then 0
  else if 3 * 2 ^ 61 - 768 ≤ c ∧ c ≤ 3 * 2 ^ 61 + 190 then 1
  else if 2 ^ 63 - 768 ≤ c then 2
  else 3 + (2 ^ 63 - c).toNat

/-! The termination proof of the machine loop needs these facts before the definition. -/
theorem wrap_id (x : Int) (h : -2 ^ 63 ≤ x ∧ x < 2 ^ 63) : wrap x = x := by unfold wrap; omega
theorem wrap_hi (x : Int) (h : 2 ^ 63 ≤ x ∧ x < 2 ^ 64 + 2 ^ 63) : wrap x = x - 2 ^ 64 := by unfold wrap; omega
theorem toU_nonneg (x : Int) (h : 0 ≤ x ∧ x < 2 ^ 64) : toU x = x := by unfold toU; omega
theorem toU_neg (x : Int) (h : -2 ^ 63 ≤ x ∧ x < 0) : toU x = x + 2 ^ 64 := by unfold toU; omega
theorem wrap_inI64 (x : Int) : InI64 (wrap x) := by unfold InI64 wrap; omega

/-- the loop's unsigned exit test on a wrapped value: it holds iff the value is negative or covers the request
    (`z_slice.go`: "when newcap overflows then `uint(newcap) > uint(newLen)`") -/
theorem toU_wrap_ge_iff (x L : Int) (hL : 0 < L ∧ L < 2 ^ 63) : toU (wrap x) ≥ toU L ↔ wrap x < 0 ∨ L ≤ wrap x := by
  unfold toU wrap; omega

theorem capRank_B (c : Int) (h : 15 * 2 ^ 59 - 768 ≤ c ∧ c ≤ 15 * 2 ^ 59 + 429) : capRank c = 0 := by
  unfold capRank; rw [if_pos h]
theorem capRank_A (c : Int) (h : 3 * 2 ^ 61 - 768 ≤ c ∧ c ≤ 3 * 2 ^ 61 + 190) : capRank c = 1 := by
  unfold capRank; rw [if_neg (by omega), if_pos h]
theorem capRank_W (c : Int) (h : 2 ^ 63 - 768 ≤ c) : capRank c = 2 := by
  unfold capRank; rw [if_neg (by omega), if_neg (by omega), if_pos h]
theorem capRank_O (c : Int) (hb : ¬ (15 * 2 ^ 59 - 768 ≤ c ∧ c ≤ 15 * 2 ^ 59 + 429))
    (ha : ¬ (3 * 2 ^ 61 - 768 ≤ c ∧ c ≤ 3 * 2 ^ 61 + 190)) (hw : c < 2 ^ 63 - 768) :
    capRank c = 3 + (2 ^ 63 - c).toNat := by
  unfold capRank; rw [if_neg hb, if_neg ha, if_neg (by omega)]
theorem capRank_le (c : Int) : capRank c ≤ 3 + (2 ^ 63 - c).toNat := by
  unfold capRank; split
  · omega
  · split
    · omega
    · split <;> omega

/-- one iteration leaves the loop or lowers the rank -/
theorem capRank_step (newLen newcap : Int) (h : 0 < newLen ∧ newLen < 2 ^ 63 ∧ 0 ≤ newcap ∧ newcap < 2 ^ 63)
    (hc : ¬ toU (wrap (newcap + wrap (newcap + 768) / 4)) ≥ toU newLen) :
    capRank (wrap (newcap + wrap (newcap + 768) / 4)) < capRank newcap := by
  rw [toU_wrap_ge_iff _ newLen ⟨h.1, h.2.1⟩] at hc
  by_cases hw : newcap < 2 ^ 63 - 768
  · rw [wrap_id (newcap + 768) (by omega)] at hc ⊢
    generalize hd : (newcap + 768) / 4 = d at hc ⊢
    -- the loop goes on, so the sum has not wrapped to a negative value
    have hs : newcap + d < 2 ^ 63 := Int.not_le.1 fun hs => hc (.inl (by rw [wrap_hi _ (by omega)]; omega))
    rw [wrap_id _ (by omega)]
    by_cases hA : 3 * 2 ^ 61 - 768 ≤ newcap ∧ newcap ≤ 3 * 2 ^ 61 + 190
    · rw [capRank_A _ hA, capRank_B _ (by omega)]; omega
    · rw [capRank_O newcap (by omega) hA hw]
      have := capRank_le (newcap + d)
      omega
  · rw [wrap_hi (newcap + 768) (by omega)]
    generalize hd : (newcap + 768 - 2 ^ 64) / 4 = d
    rw [wrap_id _ (by omega), capRank_W newcap (by omega), capRank_A _ (by omega)]; omega

/-- the `for { … }` loop of `nextslicecap` on int64:
    `newcap += (newcap + 3*threshold) >> 2; if uint(newcap) >= uint(newLen) { break }`.
    The recursion is guarded by the code's own precondition ("newLen is guaranteed to be larger than zero") and by
    `0 ≤ newcap` (a capacity); outside it the model answers `none` (for instance `newLen = -1, newcap = -768` is a
    fixed point of the step, the real loop would not end). -/
def capLoop64 (newLen newcap : Int) : Option Int :=
  let nc := wrap (newcap + wrap (newcap + 768) / 4)
  if hc : toU nc ≥ toU newLen then some nc
  else if _h : 0 < newLen ∧ newLen < 2 ^ 63 ∧ 0 ≤ newcap ∧ newcap < 2 ^ 63 then capLoop64 newLen nc
  else none
termination_by capRank newcap
decreasing_by exact capRank_step newLen newcap (by assumption) (by assumption)

/-- `nextslicecap(newLen, oldCap)` on int64 -/
def nextslicecap64 (newLen oldCap : Int) : Option Int :=
  let newcap := oldCap
  let doublecap := wrap (newcap + newcap)
  if newLen > doublecap then some newLen
  else if oldCap < 256 then some doublecap
  else
    match capLoop64 newLen newcap with
    | none => none
    | some newcap => if newcap ≤ 0 then some newLen else some newcap

/-- `GrowSlice(src, num, etSize)` on int64 / uintptr -/
def GrowSlice64 (lenCheck : Bool) (m : Mem) (src : Slice) (num etSize : Int) : Except Err64 (Mem × Slice) :=
  let oldLen := src.len
  let newLen := wrap (oldLen + num)
  if lenCheck = true ∧ newLen < 0 then .error .panic       -- fixes/C05-3.diff; absent from the unchanged tree
  else if newLen > src.cap then
    match nextslicecap64 newLen src.cap with
    | none => .error .diverge
    | some newCap =>
      let r := allocZ m (uintptr (wrap (newCap * etSize)))
      let p := r.1
      match (if oldLen ≠ 0 then memcpy r.2 p src.data (uintptr (wrap (oldLen * etSize))) else .ok r.2) with
      | .error e => .error e.to64
      | .ok m2 => .ok (m2, { data := p, len := newLen, cap := newCap })
  else .ok (m, { src with len := newLen })

/-- `SliceAppend(src, data, num, etSize)` on int64 / uintptr (the tree after `fixes/C05-1.diff`: no zero-size
    shortcut, `Memmove` for the appended values) -/
def SliceAppend64 (lenCheck : Bool) (m : Mem) (src : Slice) (data : Nat) (num etSize : Int) :
    Except Err64 (Mem × Slice) :=
  let oldLen := src.len
  match GrowSlice64 lenCheck m src num etSize with
  | .error e => .error e
  | .ok (m1, s1) =>
    .ok (memmove m1 (advance s1.data (wrap (oldLen * etSize))) data (uintptr (wrap (num * etSize))), s1)

end LlgoVerif.Slice
