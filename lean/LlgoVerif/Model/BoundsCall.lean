import LlgoVerif.Model.LLVM
import LlgoVerif.Model.Slice
/-!
C03, compiler half beyond index expressions: what `ssa/datastruct.go` (`Slice`, `MakeSlice`, `MakeChan`, `MakeMap`,
`FitIntSize`), `ssa/expr.go` (`castInt`, `SliceToArrayPointer`, the `unsafe.Slice`/`unsafe.String` builtins,
`unsafeSlice`) and `ssa/memory.go` (`AssertNilDeref`) hand to the run-time checks, and the run-time checks that
C05's `Model/Slice.lean` does not already contain (`z_chan.go` `NewChan`, `errors.go` `PanicSliceConvert`,
`z_error.go` `AssertNilDeref`).  `NewSlice3`, `StringSlice` and `MakeSlice` are C05's models, imported.

* `fit s a` is what the Go spec demands of a bound operand of integer type (signedness `s`, width `w ≤ 64`) when it is
  converted to `int`: sign extension for a signed source type, zero extension for an unsigned one.  The REGENERATED
  obligations (`Gen/C03_bnd.lean`) say, for every generated function, that the operand the emitted IR passes to the
  run-time routine is `fit s a` of the source operand (constants: the constant itself; omitted bounds: the header field
  Go prescribes), that the base pointer is the operand's storage, and that the function's result is the routine's result.
* `RtCall` is the observable of such a function: which routine is reached, with which operands.
* no Lean function runs an `RtCall`: the run-time routines are run per source form by `handle` in `Driver/C03.lean`, and
  the theorems of `Props/C03.lean` are about those routines on the operands handed over.
-/
namespace LlgoVerif.BoundsCall
open LlgoVerif LlgoVerif.LLVM

/-- conversion of a bound operand to `int` as Go specifies it (`castInt`: `sext` for signed, `zext` for unsigned sources;
    a 64-bit source is passed unchanged) -/
def fit (s : Bool) (a : BitVec w) : BitVec 64 :=
  match s with
  | true => a.signExtend 64
  | false => a.setWidth 64

/-- traps of the generated bound functions other than the run-time routine's own panic -/
inductive BTrap where
  | nilDeref       -- runtime.AssertNilDeref
  | sliceConvert   -- runtime.PanicSliceConvert (reached through the `len < N` branch)
  | ub             -- poison reached an observable position
deriving DecidableEq, Repr

abbrev BM := Except BTrap

/-- where the base pointer handed to the routine comes from -/
inductive Base where
  | srcData     -- the data word of the source slice / string header
  | srcPtr      -- the array-pointer (or `unsafe` pointer) operand itself
  | arrCopy     -- the heap copy of an array VALUE operand (`AllocZ` + store of the whole array)
  | other       -- anything else (never expected; makes the obligation fail)
deriving DecidableEq, Repr

/-- the routine a generated function reaches, with the integer operands it hands over -/
inductive RtCall where
  | newSlice3 (base : Base) (esz cap i j k : BitVec 64)   -- runtime.NewSlice3(base, esz, cap, i, j, k)
  | stringSlice (base : Base) (len i j : BitVec 64)        -- runtime.StringSlice({base,len}, i, j)
  | makeSlice (len cap esz : BitVec 64)                    -- runtime.MakeSlice(len, cap, esz)
  | newChan (esz n : BitVec 64)                            -- runtime.NewChan(esz, n)
  | makeMap (hint : BitVec 64)                             -- runtime.MakeMap(type, hint)
  | sliceHeader (base : Base) (len cap : BitVec 64)        -- header assembled inline (`a[:]`, unsafe.Slice): NO run-time check
  | stringHeader (base : Base) (len : BitVec 64)           -- unsafe.String: NO run-time check
  | arrayPtr (base : Base)                                 -- slice→array(-pointer): the data pointer is used after the length test
  | unit                                                   -- nothing but the checks (`_ = *p`)
deriving DecidableEq, Repr

def bassert (t : BTrap) (c : V 1) : BM Unit :=
  match c with
  | none => throw .ub
  | some c => if c = 1#1 then throw t else pure ()

def need (a : V 64) : BM (BitVec 64) :=
  match a with
  | none => throw .ub
  | some x => pure x

def callNewSlice3 (b : Base) (esz cap i j k : V 64) : BM RtCall := do
  return .newSlice3 b (← need esz) (← need cap) (← need i) (← need j) (← need k)
def callStringSlice (b : Base) (len i j : V 64) : BM RtCall := do
  return .stringSlice b (← need len) (← need i) (← need j)
def callMakeSlice (len cap esz : V 64) : BM RtCall := do
  return .makeSlice (← need len) (← need cap) (← need esz)
def callNewChan (esz n : V 64) : BM RtCall := do
  return .newChan (← need esz) (← need n)
def callMakeMap (hint : V 64) : BM RtCall := do
  return .makeMap (← need hint)
def retSliceHeader (b : Base) (len cap : V 64) : BM RtCall := do
  return .sliceHeader b (← need len) (← need cap)
def retStringHeader (b : Base) (len : V 64) : BM RtCall := do
  return .stringHeader b (← need len)

/-! ## run-time routines not in C05's model -/

/-- which repairs the modelled tree contains (the check probes the real code to find the live configuration) -/
structure BCfg where
  chanSizeFix : Bool     -- `NewChan` rejects a buffer whose byte size overflows / exceeds maxAlloc (fixes/C03-4.diff)
  nilArrayFix : Bool     -- `Slice` on an array pointer is preceded by `AssertNilDeref` (fixes/C03-5.diff)
deriving DecidableEq, Repr

def BCfg.current : BCfg := ⟨false, false⟩
def BCfg.fixed : BCfg := ⟨true, true⟩

/-- what `NewChan` leaves behind: the capacity and the byte size of the buffer it allocated -/
structure ChanHdr where
  cap : Int
  bufBytes : Nat
deriving DecidableEq, Repr

/-- `z_chan.go` `NewChan(eltSize, cap)`.  Unfixed: only `cap < 0` is rejected and the buffer is
    `AllocU(uintptr(cap * eltSize))` — the product wraps.  Fixed: the `MulUintptr`/`maxAlloc` test of `MakeSlice`. -/
def NewChan (cfg : BCfg) (eltSize cap : Int) : Except Slice.Err ChanHdr :=
  if cfg.chanSizeFix then
    let r := Slice.mulUintptr (Slice.uintptr eltSize) (Slice.uintptr cap)
    if r.2 ∨ r.1 > Slice.maxAlloc ∨ cap < 0 then .error .panic
    else if cap > 0 then .ok ⟨cap, Slice.uintptr (cap * eltSize)⟩ else .ok ⟨0, 0⟩
  else
    if cap < 0 then .error .panic
    else if cap > 0 then .ok ⟨cap, Slice.uintptr (cap * eltSize)⟩ else .ok ⟨0, 0⟩

/-- `SliceToArrayPointer`: `if len <s N { PanicSliceConvert(len, N) }; data` -/
def sliceToArray (len : Int) (n : Int) (data : Nat) : Except Slice.Err Nat :=
  if len < n then .error .panic else .ok data

/-- slicing through an array POINTER `p` (`p[i:j:k]`, `p[:]`): Go dereferences `p`, so a nil `p` panics whatever the
    bounds.  The unfixed compiler emits no test (`Slice` passes `p` to `NewSlice3` / builds the header). -/
def nilArrayCheck (cfg : BCfg) (p : Nat) : Except Slice.Err Unit :=
  if cfg.nilArrayFix ∧ p = 0 then .error .panic else .ok ()

end LlgoVerif.BoundsCall
