/-!
# Model of llgo's defer / panic / recover machinery (C04)

Transcription of `ssa/eh.go` (`Defer`, `saveDeferArgsTo`, `appendDeferStmt`, `loopDeferDrainer`, `callDefer`,
`RunDefers`, `endDefer`, `getDefer`/`initDeferState`) and of the runtime side
(`runtime/internal/runtime/z_rt.go` `Defer`, `Panic`, `Recover`; `z_default.go` `Rethrow`; `defer_tls.go`).
The model mirrors the code that exists, **including its defects** (DESIGN §8 rows 3, 3b, 3c and the ones
found while building this model, see design/C04.md).

Two layers:

* **frame layer** (`replay`): one function's defer frame `{bits, args}` and the replay code that
  `endDefer` emits, generic in how a deferred call is executed (`exec`), so the theorems of `Props/C04.lean`
  hold for every possible behaviour of the deferred calls;
* **program layer** (`Model.execFn`): whole programs (functions with a static defer layout and a body of
  events), thread-local frame chain, pending panic value, `Rethrow` through `siglongjmp`; it instantiates
  `exec` of the frame layer with the interpreter itself.  This is what `modeld_c04` runs against the
  llgo-compiled programs.

Core Lean only.
-/
namespace LlgoVerif.Defer

/-! ## Static layout -/

/-- `llssa.DoAction` of a defer statement, chosen by `cl/blocks` from the block it sits in:
    `DeferAlways` (entry block / unique exit block), `DeferInCond`, `DeferInLoop` (block on a cycle). -/
inductive Kind
  | always | cond | loop
  /-- a `defer` inside a range-over-func body (`Builder.DeferTo`): compiled in the synthetic yield closure, it pushes
      a node on the OWNER's list and registers a loop case of the owner (id from `owner.nextDeferID`), but is not a
      statement of the owner's replay. In the layout these entries follow all replay statements; the model's id of
      every defer site is its index in the layout (a renaming of llgo's ids, which are unique per owner). -/
  | ext
  deriving DecidableEq, Repr, Inhabited

/-- One `defer` statement of a function, in the order `Builder.Defer` is called (compile order).
    Its index in the list is its defer id (`Func.nextDeferID++`). -/
structure Stmt where
  kind : Kind
  /-- callee is a closure value (`fn.kind == vkClosure`): the closure itself is stored in the node -/
  clo : Bool
  /-- number of call arguments -/
  nargs : Nat
  /-- statically known callee (function index in the program); for closures: the function literal -/
  fn : Nat
  deriving DecidableEq, Repr, Inhabited

/-- `saveDeferArgsTo`: `if kind != DeferInLoop && fn.kind != vkClosure && len(args) == 0 { return nil }`
    — otherwise a node `{prev, id, [closure], args…}` is pushed on `defer.Args`. -/
def Stmt.pushes (s : Stmt) : Bool := s.kind == .loop || s.kind == .ext || s.clo || s.nargs != 0

/-- the statement registers a loop case (`self.loopCases`): `DeferInLoop` statements and `DeferTo` sites.
    (`DeferStackDrain` — the drain point after a range-over-func call — appends to the replay exactly the closure a
    `DeferInLoop` statement appends, `loopDeferDrainer`, without registering a case: in a layout it is a `loop`
    statement that is never executed.) -/
def Stmt.isLoop (s : Stmt) : Bool := s.kind == .loop || s.kind == .ext
def Stmt.isCond (s : Stmt) : Bool := s.kind == .cond

/-- `self.nextBit++` for every `DeferInCond` statement: bit number of statement `k` = number of
    conditional statements compiled before it. -/
def bitOf (ss : List Stmt) (k : Nat) : Nat := ((ss.take k).filter Stmt.isCond).length

/-- `Defer` panics at compile time with "too many conditional defers" when a bit ≥ 64 is needed. -/
def layoutOk (ss : List Stmt) : Bool := (ss.filter Stmt.isCond).length ≤ 64

/-- `loopDeferDrainer` compares the node id with the id of every entry of `self.loopCases`
    (= every `DeferInLoop` statement and every `DeferTo` site of the function, see `Stmt.isLoop`). -/
def isLoopId (ss : List Stmt) (id : Nat) : Bool :=
  match ss[id]? with
  | some s => s.isLoop
  | none => false

/-! ## Frame state -/

/-- A node of the `defer.Args` list: `{prev, id, payload}`. -/
structure Node (α : Type) where
  id : Nat
  val : α
  deriving DecidableEq, Repr

/-- The part of `runtime.Defer` the replay reads: `Bits` and `Args` (top of the list first).
    `Link`, `Reth`, `Rund` are control state and live in the program layer / in the shape of `replay`. -/
structure Frame (α : Type) where
  bits : Nat
  args : List (Node α)
  deriving Repr

def Frame.empty {α : Type} : Frame α := ⟨0, []⟩

/-- Run-time effect of executing defer statement `k` with evaluated payload `v`
    (`Builder.Defer`: set the bit for `DeferInCond`; `saveDeferArgs`: push a node unless node-less). -/
def execDefer {α : Type} (ss : List Stmt) (k : Nat) (v : α) (fr : Frame α) : Frame α :=
  match ss[k]? with
  | none => fr
  | some s =>
    let bits := if s.isCond then fr.bits ||| (1 <<< bitOf ss k) else fr.bits
    let args := if s.pushes then ⟨k, v⟩ :: fr.args else fr.args
    ⟨bits, args⟩

/-- Frame after the defer statements of `hist` (oldest first) were executed. -/
def frameOf {α : Type} (ss : List Stmt) (hist : List (Nat × α)) : Frame α :=
  hist.foldl (fun fr e => execDefer ss e.1 e.2 fr) Frame.empty

/-! ## Replay (`endDefer`) -/

/-- How a deferred call ended, as seen by the frame that replays it. -/
inductive Out (ε : Type)
  | ok                  -- returned normally
  | landed              -- it panicked and the `siglongjmp` landed in THIS frame (`panicBlk`: `Rund := rethrow; goto *Reth`)
  | escaped (e : ε)     -- control never comes back to this frame (process exit, jump elsewhere, undefined behaviour, no fuel)
  deriving Repr

/-- A deferred call performed by the replay code: the statement whose code (`callDefer`) performs it
    and the node it popped (`none`: node-less statement — static callee, no arguments). -/
structure Call (α : Type) where
  stmt : Nat
  node : Option (Node α)
  deriving DecidableEq, Repr

/-- Replay state. `log` is ghost (calls performed so far, most recent first). -/
structure U (α σ : Type) where
  args : List (Node α)
  st : σ
  log : List (Call α)
  /-- `Rund == rethrowBlk`: some panic landed in this frame (`panicBlk` stores it) -/
  rethrow : Bool

/-- How the whole replay ended. -/
inductive Fin (ε : Type)
  | completed           -- fell through statement 0: `SetThreadDefer(link); goto *Rund`
  | landedLast          -- the call of statement 0 panicked: `Reth` was `rethrowBlk`, which is entered WITHOUT `SetThreadDefer(link)`
  | escaped (e : ε)
  deriving Repr

section replay
variable {α σ ε : Type}

/-- The drain loop of `loopDeferDrainer`: while the list is non-empty and the top node's id is the id of
    ANY loop statement, `Reth := drainEntry`, pop it, call it (`callDefer` of that loop case), loop.
    A panic in the call lands at `drainEntry`, which re-enters this loop. Stops at the first node whose id
    is not a loop id. -/
def drain (ss : List Stmt) (exec : Call α → σ → Out ε × σ) :
    List (Node α) → σ → List (Call α) → Bool → U α σ × Option ε
  | [], st, log, re => (⟨[], st, log, re⟩, none)
  | nd :: rest, st, log, re =>
    if isLoopId ss nd.id then
      let c : Call α := ⟨nd.id, some nd⟩
      match exec c st with
      | (.ok, st') => drain ss exec rest st' (c :: log) re
      | (.landed, st') => drain ss exec rest st' (c :: log) true
      | (.escaped e, st') => (⟨rest, st', c :: log, re⟩, some e)
    else (⟨nd :: rest, st, log, re⟩, none)

/-- `callDefer` for a `DeferInCond`/`DeferAlways` statement `k`:
    `typ == nil` → call directly; otherwise, if the list is non-empty, pop the TOP node — whatever its id —
    decode it with this statement's node type and call; if the list is empty, do nothing. -/
def callDefer (exec : Call α → σ → Out ε × σ) (k : Nat) (s : Stmt) (u : U α σ) : U α σ × Option (Out ε) :=
  if s.pushes then
    match u.args with
    | [] => (u, none)
    | nd :: rest =>
      let c : Call α := ⟨k, some nd⟩
      let (o, st') := exec c u.st
      ({ u with args := rest, st := st', log := c :: u.log }, some o)
  else
    let c : Call α := ⟨k, none⟩
    let (o, st') := exec c u.st
    ({ u with st := st', log := c :: u.log }, some o)

/-- What happens after `callDefer` of a `DeferInCond`/`DeferAlways` statement. `cont` = the code of the
    remaining statements (the block `Reth` points to); `last` = this was statement 0, whose `Reth` is `rethrowBlk`. -/
def afterCall (last : Bool) (cont : U α σ → U α σ × Fin ε) : U α σ × Option (Out ε) → U α σ × Fin ε
  | (u', none) => cont u'
  | (u', some .ok) => cont u'
  | (u', some .landed) =>
    if last then ({ u' with rethrow := true }, .landedLast) else cont { u' with rethrow := true }
  | (u', some (.escaped e)) => (u', .escaped e)

/-- The code `endDefer` emits, from `procBlk` down to statement 0. The argument list is the statement list
    REVERSED (with indices), as `for i := n-1; i >= 0; i--` visits it; `g` is `loopDrainerGenerated`.
    Before statement `i` runs, `Reth := rethsNext[i]` — the block that continues with statement `i-1` — so a
    landing panic resumes with the remaining statements (`rest`); for statement 0 that block is `rethrowBlk`. -/
def replay (ss : List Stmt) (exec : Call α → σ → Out ε × σ) (bits : Nat) :
    List (Nat × Stmt) → Bool → U α σ → U α σ × Fin ε
  | [], _, u => (u, .completed)
  | (k, s) :: rest, g, u =>
    match s.kind with
    | .loop =>
      if g then replay ss exec bits rest true u      -- drainer already generated for this run of loop statements
      else
        match drain ss exec u.args u.st u.log u.rethrow with
        | (u', none) => replay ss exec bits rest true u'
        | (u', some e) => (u', .escaped e)
    | .cond =>
      if bits.testBit (bitOf ss k) then
        afterCall rest.isEmpty (replay ss exec bits rest false) (callDefer exec k s u)
      else replay ss exec bits rest false u
    | .always =>
      -- no record of whether the statement was executed: it is replayed unconditionally
      afterCall rest.isEmpty (replay ss exec bits rest false) (callDefer exec k s u)
    | .ext => replay ss exec bits rest g u      -- not a statement of the replay

/-- statements with their indices -/
def indexed : Nat → List Stmt → List (Nat × Stmt)
  | _, [] => []
  | i, s :: t => (i, s) :: indexed (i + 1) t

/-- the order in which `endDefer` visits the statements -/
def slots (ss : List Stmt) : List (Nat × Stmt) := (indexed 0 ss).reverse

/-- Replay of a whole frame from `procBlk`. `rethrow0` = value of `Rund == rethrowBlk` on entry
    (`false` after `RunDefers`, `true` when entered through `panicBlk`). -/
def unwind (ss : List Stmt) (exec : Call α → σ → Out ε × σ) (fr : Frame α) (st : σ) (rethrow0 : Bool) :
    U α σ × Fin ε :=
  replay ss exec fr.bits (slots ss) false ⟨fr.args, st, [], rethrow0⟩

def Fin.esc : Fin ε → Option ε
  | .escaped e => some e
  | _ => none

/-- What the property observes of a frame's replay: final state of the world, the calls in the order
    they were made, and whether control left the frame abnormally. -/
def unwindView (ss : List Stmt) (exec : Call α → σ → Out ε × σ) (hist : List (Nat × α)) (st : σ) :
    σ × List (Call α) × Option ε :=
  let r := unwind ss exec (frameOf ss hist) st false
  (r.1.st, r.1.log.reverse, r.2.esc)

end replay

/-! ## Programs -/

/-- argument expressions, evaluated when the statement executes -/
inductive Arg | lit (n : Int) | x | r | p (i : Nat)
  deriving DecidableEq, Repr, Inhabited

inductive Var | x | r
  deriving DecidableEq, Repr, Inhabited

/-- Dynamic events of a function body (the executed path, loops unrolled, branches resolved). -/
inductive Ev
  | defer (k : Nat) (args : List Arg)     -- execute defer statement `k` (arguments evaluated now)
  | call (g : Nat) (args : List Arg)      -- `t := Fg(args); println("T", g, t)`
  | mark (m : Int)                        -- `println("M", m)`
  | panic (a : Arg)                       -- `panic(v)`
  | fault                                 -- run-time fault (index out of range, nil map write, division by zero)
  | recover                               -- `prt(recover())`
  | ret                                   -- `return`
  | entryEnd                              -- end of the function's entry block reached (first branching statement)
  | set (up : Bool) (v : Var) (a : Arg)   -- `v = a`   (`up`: variable of the function that created this closure)
  | add (up : Bool) (v : Var) (a : Arg)   -- `v += a`
  | show (up : Bool) (v : Var)            -- `println("V", code, v)`
  deriving DecidableEq, Repr, Inhabited

structure Fn where
  stmts : List Stmt
  body : List Ev
  /-- the named result is captured by a closure (go/ssa allocates it on the heap) -/
  capR : Bool
  /-- the function evaluates `ssa:deferstack()` at entry (it contains a range-over-func body that defers):
      `getDeferInCurrentBlock` sets the frame up right there -/
  entryFrame : Bool := false
  /-- go/ssa emitted no `RunDefers` before the function's `return` (its only defers are in range-over-func bodies) and
      `cl/compile.go` adds one (`returnNeedsImplicitRunDefers`) AFTER the results were evaluated -/
  implicitRun : Bool := false
  /-- defer sites the compiler silently drops: explicit-stack defers of a range-over-func body inside an INSTANCE of a
      generic function (`deferStackOwner` walks past the synthetic "instance of" function to nil, `DeferTo` falls back
      to `Builder.Defer` in the yield closure, which has no recover block, so `getDefer` returns nil) -/
  dropped : List Nat := []
  /-- the frame is set up at entry but no `return` of the function runs `RunDefers` (instance of a generic function whose
      only defers are in range-over-func bodies: go/ssa emits no `RunDefers`, `returnNeedsImplicitRunDefers` refuses
      "synthetic" functions): the function returns with its frame still at the head of the thread's chain -/
  noRun : Bool := false
  deriving DecidableEq, Repr, Inhabited

structure Prog where
  fns : List Fn
  deriving Repr

/-- locals of one activation: `x`, named result `r`, parameters -/
structure Loc where
  x : Int
  r : Int
  ps : List Int
  deriving DecidableEq, Repr, Inhabited

inductive Tag | F | M | R | Rnil | T | V
  deriving DecidableEq, Repr

/-- one `println` line -/
structure Line where
  tag : Tag
  vals : List Int
  deriving DecidableEq, Repr

/-- payload of a node: the closure (function, creating activation) and the evaluated arguments -/
structure Pay where
  cfn : Nat
  ctx : Nat
  args : List Int
  deriving DecidableEq, Repr, Inhabited

/-- the panic value of every run-time fault, as far as the traces distinguish it -/
def rtVal : Int := -1

def evalArg (l : Loc) : Arg → Int
  | .lit n => n
  | .x => l.x
  | .r => l.r
  | .p i => l.ps.getD i 0

def Loc.get (l : Loc) : Var → Int
  | .x => l.x
  | .r => l.r

def Loc.put (l : Loc) (v : Var) (n : Int) : Loc :=
  match v with
  | .x => { l with x := n }
  | .r => { l with r := n }

def varCode : Var → Int
  | .x => 0
  | .r => 1

/-- defect classes observed while running (ghost; used only to name the class of a failing layout) -/
inductive Flag
  | wrongNode          -- a statement's replay popped a node pushed by another statement
  | unexecAlways       -- an `always` statement that was never executed was replayed
  | drainOrder         -- calls of a frame were not made in LIFO order of the executed defers (loop drain crossed a node-less defer)
  | staleFrame         -- a `siglongjmp` targeted a frame that is no longer on the stack
  | regResult          -- (-O2) a named result kept in a register reverted to its value at `sigsetjmp`
  | resultBeforeRun    -- the results of a `return` were read before the implicit `RunDefers` ran a closure that changed them
  | droppedDefer       -- a defer statement the compiler dropped was executed
  | frameInitSkipped   -- a defer statement ran before the in-place frame set-up of a `DeferAlways` statement that does not dominate it
  | nodesLeft          -- the replay completed and left nodes on the list (deferred calls that never ran)
  | frameNeverPopped   -- a function returned without `RunDefers`: its frame stays the head of the thread's defer chain
  | recoverIndirect    -- spec: `recover()` not called directly by a deferred function while a panic is in flight
  | nestedRecover      -- spec: a panic was recovered while an older panic is still in flight
  deriving DecidableEq, Repr

namespace Model

/-- Which variant of the code is modelled (probed from the working tree by the check). -/
structure Cfg where
  /-- `-O2`: named results that are not captured live in SSA registers; after a `siglongjmp` they have the
      value they had when `sigsetjmp` was called -/
  o2 : Bool
  /-- `Rethrow(link)` calls `SetThreadDefer(link)` before it longjmps to `link` (proposed repair fixes/C04-1.diff) -/
  tlsFix : Bool
  deriving Repr

/-- why control does not return to the caller in the ordinary way -/
inductive Esc
  | jump (t : Nat)      -- `siglongjmp` to the frame of activation `t`
  | exit (v : Int)      -- uncaught panic: `TracePanic`, `exit(2)`
  | ub                  -- undefined behaviour (node decoded with a different layout, jump into a dead frame)
  | stuck               -- interpreter fuel exhausted
  deriving DecidableEq, Repr

inductive Res
  | ret (v : Int)
  | esc (e : Esc)
  deriving DecidableEq, Repr

/-- machine state -/
structure MSt where
  out : List Line            -- printed lines, most recent first
  store : List Loc           -- locals of every activation so far (index = activation id)
  pending : Option Int       -- `excepKey`: the pending panic value
  tls : Option Nat           -- `deferTLS`: innermost defer frame of the thread
  flags : List Flag          -- ghost
  deriving Repr

def MSt.init : MSt := ⟨[], [], none, none, []⟩

def MSt.emit (st : MSt) (l : Line) : MSt := { st with out := l :: st.out }
def MSt.flag (st : MSt) (f : Flag) : MSt := if st.flags.contains f then st else { st with flags := f :: st.flags }
def MSt.loc (st : MSt) (a : Nat) : Loc := st.store.getD a default
def MSt.setLoc (st : MSt) (a : Nat) (l : Loc) : MSt := { st with store := st.store.set a l }

/-- `Recover()`: return the pending value and clear it — no matter who calls. -/
def recover (st : MSt) : Option Int × MSt := (st.pending, { st with pending := none })

/-- `Panic(v)`: store the value (an older pending value is overwritten), then `Rethrow(GetThreadDefer())`. -/
def setPanic (v : Int) (st : MSt) : MSt := { st with pending := some v }

/-- `Rethrow(link)` in `z_default.go`. `none` = it returned (nothing pending). -/
def rethrow (link : Option Nat) (st : MSt) : Option Esc :=
  match st.pending with
  | none => none
  | some v =>
    match link with
    | none => some (.exit v)
    | some l => some (.jump l)

/-- `Rethrow(link)` as the compiled code calls it, with its effect on the thread's defer head:
    the unrepaired runtime leaves the head alone; the repaired one makes `link` the head before jumping to it. -/
def rethrowSt (cfg : Cfg) (link : Option Nat) (st : MSt) : MSt × Option Esc :=
  match rethrow link st with
  | some (.jump l) => (if cfg.tlsFix then { st with tls := some l } else st, some (.jump l))
  | r => (st, r)

/-- per-activation working state -/
structure Act where
  id : Nat
  fr : Option (Frame Pay)    -- `none`: the defer frame is not set up (yet)
  link : Option Nat          -- `Defer.Link`
  snap : Int                 -- value of the named result when `sigsetjmp` was called
  exd : List Nat             -- ghost: executed defer statements, most recent first

/-- `initDeferState`: `link := GetThreadDefer(); SetThreadDefer(self); Args := nil; sigsetjmp`. -/
def setupFrame (a : Act) (st : MSt) : Act × MSt :=
  ({ a with fr := some Frame.empty, link := st.tls, snap := (st.loc a.id).r }, { st with tls := some a.id })

/-- effects of a landing `siglongjmp` on the activation's registers -/
def landEffects (cfg : Cfg) (f : Fn) (a : Act) (st : MSt) : MSt :=
  if cfg.o2 && !f.capR then
    let l := st.loc a.id
    if l.r == a.snap then st else (st.setLoc a.id { l with r := a.snap }).flag .regResult
  else st

/-- node layouts agree: `{prev,id,closure?,args…}` -/
def sameShape (s t : Stmt) : Bool := s.clo == t.clo && s.nargs == t.nargs

abbrev CallFn := (g : Nat) → (args : List Int) → (up : Option Nat) → MSt → MSt × Res

/-- execute one replayed call (instance of `exec` of the frame layer) -/
def execCall (cfg : Cfg) (callFn : CallFn) (f : Fn) (a : Act) (c : Call Pay) (st : MSt) : Out Esc × MSt :=
  match f.stmts[c.stmt]? with
  | none => (.escaped .ub, st)
  | some s =>
    let st := if s.kind == .always && !a.exd.contains c.stmt then st.flag .unexecAlways else st
    let run (g : Nat) (args : List Int) (up : Option Nat) (st : MSt) : Out Esc × MSt :=
      match callFn g args up st with
      | (st', .ret _) => (.ok, st')
      | (st', .esc (.jump t)) => if t == a.id then (.landed, landEffects cfg f a st') else (.escaped (.jump t), st')
      | (st', .esc e) => (.escaped e, st')
    match c.node with
    | none => run s.fn [] none st
    | some nd =>
      let st := if nd.id != c.stmt then st.flag .wrongNode else st
      match f.stmts[nd.id]? with
      | none => (.escaped .ub, st)
      | some o =>
        if sameShape o s then
          if s.clo then run nd.val.cfn nd.val.args (some nd.val.ctx) st
          else run s.fn nd.val.args none st
        else (.escaped .ub, st)

inductive BodyEnd
  | normal      -- `return` / end of body: `RunDefers`
  | landed      -- a panic landed in this frame while the body ran
  | esc (e : Esc)

/-- what a raised panic does to the running body of activation `a` -/
def raise (a : Act) (st : MSt) : BodyEnd :=
  match rethrow st.tls st with
  | none => .normal    -- unreachable: `pending` was just set
  | some (.jump t) => if a.fr.isSome && t == a.id then .landed else .esc (.jump t)
  | some e => .esc e

def target (up : Bool) (upId : Option Nat) (a : Act) : Nat := if up then upId.getD a.id else a.id

/-- run the events of a body -/
def runBody (cfg : Cfg) (callFn : CallFn) (f : Fn) (upId : Option Nat) :
    List Ev → Act → MSt → Act × MSt × BodyEnd
  | [], a, st => (a, st, .normal)
  | ev :: rest, a, st =>
    let l := st.loc a.id
    match ev with
    | .defer k args =>
      if f.dropped.contains k then runBody cfg callFn f upId rest a (st.flag .droppedDefer) else
      -- first compiled defer is `DeferAlways`: the frame is set up in place, in ITS block. A defer statement that runs
      -- before it (its block is not dominated by that block) uses the frame pointer before it exists.
      if a.fr.isNone && k != 0 && (f.stmts.head?.map (·.kind == .always)).getD false then
        (a, st.flag .frameInitSkipped, .esc .ub) else
      let (a, st) := if a.fr.isNone then setupFrame a st else (a, st)   -- first `DeferAlways`: frame set up in place
      let s := f.stmts.getD k default
      let pay : Pay := ⟨s.fn, a.id, args.map (evalArg l)⟩
      let a := { a with fr := a.fr.map (execDefer f.stmts k pay), exd := k :: a.exd }
      runBody cfg callFn f upId rest a st
    | .call g args =>
      match callFn g (args.map (evalArg l)) none st with
      | (st', .ret v) => runBody cfg callFn f upId rest a (st'.emit ⟨.T, [g, v]⟩)
      | (st', .esc (.jump t)) =>
        if a.fr.isSome && t == a.id then (a, landEffects cfg f a st', .landed) else (a, st', .esc (.jump t))
      | (st', .esc e) => (a, st', .esc e)
    | .mark m => runBody cfg callFn f upId rest a (st.emit ⟨.M, [m]⟩)
    | .panic arg =>
      let st := setPanic (evalArg l arg) st
      match raise a st with
      | .landed => (a, landEffects cfg f a st, .landed)
      | e => (a, st, e)
    | .fault =>
      let st := setPanic rtVal st
      match raise a st with
      | .landed => (a, landEffects cfg f a st, .landed)
      | e => (a, st, e)
    | .recover =>
      let (v, st) := recover st
      let st := match v with
        | some n => st.emit ⟨.R, [n]⟩
        | none => st.emit ⟨.Rnil, []⟩
      runBody cfg callFn f upId rest a st
    | .ret => (a, st, .normal)
    | .entryEnd =>
      -- getDefer: unless the first compiled defer is `DeferAlways` (then the frame is set up in place, see `.defer`),
      -- `deferInitBuilder` appends `initDeferState` to the END of block 0: code of the entry block runs without a frame
      let (a, st) := match f.stmts with
        | [] => (a, st)
        | s :: _ => if s.kind != .always && a.fr.isNone then setupFrame a st else (a, st)
      runBody cfg callFn f upId rest a st
    | .set up v arg =>
      let t := target up upId a
      runBody cfg callFn f upId rest a (st.setLoc t ((st.loc t).put v (evalArg l arg)))
    | .add up v arg =>
      let t := target up upId a
      runBody cfg callFn f upId rest a (st.setLoc t ((st.loc t).put v ((st.loc t).get v + evalArg l arg)))
    | .show up v =>
      let t := target up upId a
      runBody cfg callFn f upId rest a (st.emit ⟨.V, [varCode v, (st.loc t).get v]⟩)

/-- ghost: name the deviation of a frame's call order from LIFO -/
def orderFlag (a : Act) (log : List (Call Pay)) (st : MSt) : MSt :=
  let made := (log.reverse.map (·.stmt))
  if made.isPrefixOf a.exd then st
  else if st.flags.contains .wrongNode || st.flags.contains .unexecAlways then st
  else st.flag .drainOrder

/-- leave the function: replay the frame (if any), then return / rethrow -/
def finish (cfg : Cfg) (callFn : CallFn) (f : Fn) (a : Act) (st : MSt) (be : BodyEnd) : MSt × Res :=
  match be with
  | .esc e => (st, .esc e)
  | be =>
    match a.fr with
    | none => (st, .ret (st.loc a.id).r)
    | some fr =>
      let landed := match be with | .landed => true | _ => false
      if f.noRun && !landed then (st.flag .frameNeverPopped, .ret (st.loc a.id).r) else
      let r0 := (st.loc a.id).r      -- operands of `Return`, evaluated before an implicit `RunDefers`
      let (u, fin) := unwind f.stmts (execCall cfg callFn f a) fr st landed
      let st := orderFlag a u.log u.st
      let st := match fin, u.args with
        | .completed, _ :: _ => st.flag .nodesLeft
        | _, _ => st
      match fin with
      | .escaped e => (st, .esc e)
      | .completed =>
        let st := { st with tls := a.link }                 -- SetThreadDefer(link)
        if u.rethrow then
          match rethrowSt cfg a.link st with
          | (st, some e) => (st, .esc e)
          | (st, none) => (st, .ret (st.loc a.id).r)        -- Rethrow returned: `recov` block loads the named results
        else if f.implicitRun then
          (if r0 == (st.loc a.id).r then st else st.flag .resultBeforeRun, .ret r0)
        else (st, .ret (st.loc a.id).r)
      | .landedLast =>
        -- `rethrowBlk` entered through `Reth`: no `SetThreadDefer(link)` on this path
        match rethrowSt cfg a.link st with
        | (st, some e) => (st, .esc e)
        | (st, none) => (st, .ret (st.loc a.id).r)

/-- call function `g` -/
def execFn (cfg : Cfg) (p : Prog) : Nat → Nat → List Int → Option Nat → MSt → MSt × Res
  | 0, _, _, _, st => (st, .esc .stuck)
  | fuel + 1, g, args, up, st =>
    match p.fns[g]? with
    | none => (st, .esc .ub)
    | some f =>
      let id := st.store.length
      let st := { st with store := st.store ++ [(⟨0, 0, args⟩ : Loc)] }
      let st := st.emit ⟨.F, (g : Int) :: args⟩
      let a : Act := ⟨id, none, none, 0, []⟩
      let (a, st) := if f.entryFrame then setupFrame a st else (a, st)
      let (a, st, be) := runBody cfg (execFn cfg p fuel) f up f.body a st
      finish cfg (execFn cfg p fuel) f a st be

/-- run the program: `t := F0(); println("T", 0, t)` in a fresh process -/
def run (cfg : Cfg) (p : Prog) (fuel : Nat) : MSt × Res :=
  match execFn cfg p fuel 0 [] none MSt.init with
  | (st, .ret v) => (st.emit ⟨.T, [0, v]⟩, .ret v)
  | (st, .esc (.jump _)) => (st.flag .staleFrame, .esc .ub)    -- nobody on the stack owns the target frame
  | r => r

end Model

end LlgoVerif.Defer
