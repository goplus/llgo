/-!
# Model of `runtime/internal/runtime/z_chan.go` (property C10)

The channel implementation as a transition system at the granularity of the controllable scheduler
`psync` (harness/native/standins/psync): a *step* lets one thread run from its current scheduling
point to the next one.  Scheduling points are exactly the calls `Mutex.Lock` (the thread yields
*before* it acquires) and `Cond.Wait` (the thread releases the mutex, yields, and re-acquires after
it has been woken by `Signal`/`Broadcast` or by a spurious wake-up).

Two layers, so that the proofs about channel contents never have to look at threads:

* layer 1 (`body`): the code between `p.mutex.Lock()`/the return of `p.cond.Wait` and the next
  `notifyOps` / `Wait` / `Unlock`, as a pure function on the `Chan` record, branch by branch;
* layer 2 (`exec`): threads, program counters, mutex ownership, condition variables, the
  `notifyOps` loop (which takes the `selectOp` mutexes one by one *while holding the channel
  mutex*: each of those `Lock`s is a scheduling point), `Select`/`TrySelect` control flow.

The `selectOp` mutex is never held across a scheduling point (`notify` and `wait` take and release
it inside one step, `Cond.Wait` releases it), so it is always free at step boundaries and is not
represented.  `sends`/`selsends` are `uint16` in the code and natural numbers here (65536 blocked
senders are outside the model).  Nil channels occur only as select cases (`Case.isNil`); `send` / `recv` / `close` on a
nil channel are not modelled.

Ghost fields `sent`/`recvd` of a channel record the history (values committed by senders, values
handed to receivers, in commit order); no model transition reads them.
-/
namespace LlgoVerif.Chan

abbrev Tid := Nat
abbrev Cid := Nat
abbrev Val := Nat

/-- `chanHasRecv` -/
def hasRecv : Nat := 1
/-- `chanNoSendRecv` -/
def noSendRecv : Nat := 0

/-- address of a receiver's variable: thread and index of the select case (0 for a plain receive) -/
structure Target where
  tid : Tid
  slot : Nat
deriving DecidableEq, Repr, Hashable

/-- which variant of `z_chan.go` is modelled: `recvseqFix = false` is the code without the hand-off counter
    (the tree before `fixes/C10-1.diff`), `true` the code with `recvseq` (the diff applied).  The check detects the
    variant of the working tree by replaying the two witness schedules and drives the model with it. -/
structure Cfg where
  recvseqFix : Bool
deriving DecidableEq, Repr, Hashable

def Cfg.current : Cfg := ⟨false⟩
def Cfg.fixed : Cfg := ⟨true⟩

/-- `type Chan struct` (mutex and condition variable live in `State`) -/
structure Chan where
  /-- the code variant this channel object runs (constant; see `Cfg`) -/
  fixed : Bool
  cap : Nat
  /-- ring storage of a buffered channel (`cap` cells) -/
  data : List Val
  /-- `p.data` of an unbuffered channel: where the armed receiver wants the value -/
  slot : Option Target
  getp : Nat
  len : Nat
  closed : Bool
  sends : Nat
  selsends : Nat
  /-- registered `selectOp`s; a `selectOp` is identified with the thread that runs the `Select` -/
  sops : List Tid
  /-- `p.recvseq` (only in the `fixed` variant): number of completed unbuffered hand-offs -/
  recvseq : Nat
  /-- ghost: values committed by senders, in order -/
  sent : List Val
  /-- ghost: values handed to receivers, in order -/
  recvd : List Val
  /-- ghost: `sent` with the sending thread of each value -/
  sentBy : List (Tid × Val)
  /-- ghost: `recvd` with the thread whose variable received each value -/
  recvBy : List (Tid × Val)
deriving DecidableEq, Repr, Hashable

/-- `NewChan(eltSize, cap)` -/
def newChan (cfg : Cfg) (cap : Nat) : Chan :=
  { fixed := cfg.recvseqFix, recvseq := 0, cap := cap, data := List.replicate cap 0, slot := none, getp := 0, len := 0, closed := false,
    sends := 0, selsends := 0, sops := [], sent := [], recvd := [], sentBy := [], recvBy := [] }

/-- logical contents of the ring, oldest first: cells `getp, getp+1, …` (mod cap), `len` of them -/
def ringFrom (data : List Val) (cap getp : Nat) : Nat → List Val
  | 0 => []
  | n + 1 => data.getD (getp % cap) 0 :: ringFrom data cap (getp + 1) n

def Chan.contents (ch : Chan) : List Val := ringFrom ch.data ch.cap ch.getp ch.len

/-- a scheduling point inside a channel-level function, with the parameters of the call -/
inductive Point
  | sendLock (c : Cid) (v : Val)            -- ChanSend: entry `p.mutex.Lock()`
  | sendWaitU (c : Cid) (v : Val)           -- ChanSend: `p.cond.Wait` in the unbuffered loop
  | sendWaitB (c : Cid) (v : Val)           -- ChanSend: `p.cond.Wait` in the buffered loop
  | recvLock (c : Cid) (slot : Nat)         -- ChanRecv: entry lock
  | recvWaitU (c : Cid) (slot : Nat)        -- ChanRecv: first unbuffered loop
  | recvWaitB (c : Cid) (slot : Nat)        -- ChanRecv: buffered loop
  /-- ChanRecv / chanTryRecv: second `p.mutex.Lock()` (unbuffered); `seq` = the local `seq` of the fixed variant
      (value of `p.recvseq` when the receiver armed the channel; always 0 in the current variant) -/
  | recv2Lock (c : Cid) (try_ : Bool) (seq : Nat)
  | recv2Wait (c : Cid) (try_ : Bool) (seq : Nat)       -- … its wait loop
  | closeLock (c : Cid)
  | trySendLock (c : Cid) (v : Val)
  | tryRecvLock (c : Cid) (slot : Nat) (accept : Bool)
  | prepLock (c : Cid) (isSend : Bool)      -- prepareSelect
  | endLock (c : Cid) (isSend : Bool)       -- endSelect
deriving DecidableEq, Repr, Hashable

def Point.chan : Point → Cid
  | .sendLock c _ | .sendWaitU c _ | .sendWaitB c _ | .recvLock c _ | .recvWaitU c _ | .recvWaitB c _
  | .recv2Lock c _ _ | .recv2Wait c _ _ | .closeLock c | .trySendLock c _ | .tryRecvLock c _ _
  | .prepLock c _ | .endLock c _ => c

def Point.isWait : Point → Bool
  | .sendWaitU .. | .sendWaitB .. | .recvWaitU .. | .recvWaitB .. | .recv2Wait .. => true
  | _ => false

/-- value returned by a channel-level function to its caller -/
inductive Ret
  | sent (c : Cid) (v : Val)          -- ChanSend(c, v) returned
  | closed                            -- ChanClose returned
  | recv (c : Cid) (ok : Bool)        -- ChanRecv(c) returned recvOK
  | trySend (ok : Bool)               -- ChanTrySend
  | tryRecv (recvOK tryOK : Bool)     -- chanTryRecv
  | prep                              -- prepareSelect returned
  | ended                             -- endSelect returned
deriving DecidableEq, Repr, Hashable

/-- what follows `p.mutex.Unlock(); p.cond.Broadcast()` -/
inductive Next
  | ret (r : Ret)
  | recv2 (try_ : Bool) (seq : Nat)   -- `if n == 0 { p.mutex.Lock() …`
deriving DecidableEq, Repr, Hashable

/-- what follows `notifyOps(p)` (still holding `p.mutex`) -/
inductive After
  | wait (p : Point)                  -- `p.cond.Wait(&p.mutex)` (ChanSend, unbuffered loop)
  | finish (broadcast : Bool) (n : Next)   -- `Unlock` [`Broadcast`] then `n`
deriving DecidableEq, Repr, Hashable

/-- how a critical-section body ends -/
inductive Out
  | wait (p : Point)                  -- `p.cond.Wait(&p.mutex)`
  | notify (k : After)                -- `notifyOps(p)` then `k`
  | unlock (r : Ret)                  -- `p.mutex.Unlock(); return r`
  | panic                             -- `p.mutex.Unlock(); panic(...)`
deriving DecidableEq, Repr, Hashable

structure BodyRes where
  ch : Chan
  /-- a `Memcpy` into a receiver's variable -/
  deliver : Option (Target × Val)
  out : Out

/-- write into the ring cell `(getp + len) % cap`, `len++` -/
def Chan.push (ch : Chan) (t : Tid) (v : Val) : Chan :=
  { ch with data := ch.data.set ((ch.getp + ch.len) % ch.cap) v, len := ch.len + 1, sent := ch.sent ++ [v],
            sentBy := ch.sentBy ++ [(t, v)] }

/-- the cell `getp` -/
def Chan.front (ch : Chan) : Val := ch.data.getD ch.getp 0
/-- `getp = (getp+1) % cap; len--` -/
def Chan.pop (ch : Chan) (r : Tid) : Chan :=
  { ch with getp := (ch.getp + 1) % ch.cap, len := ch.len - 1, recvd := ch.recvd ++ [ch.front],
            recvBy := ch.recvBy ++ [(r, ch.front)] }

/-- `p.recvseq++` of the fixed variant -/
def Chan.bump (ch : Chan) : Nat := if ch.fixed then ch.recvseq + 1 else ch.recvseq

/-- unbuffered hand-off: `if p.data != nil { Memcpy(p.data, v) }; p.getp = chanNoSendRecv` [`; p.recvseq++`] -/
def Chan.handOff (ch : Chan) (t : Tid) (v : Val) : Chan × Option (Target × Val) :=
  match ch.slot with
  | some tg => ({ ch with getp := noSendRecv, recvseq := ch.bump, sent := ch.sent ++ [v], recvd := ch.recvd ++ [v],
                          sentBy := ch.sentBy ++ [(t, v)], recvBy := ch.recvBy ++ [(tg.tid, v)] }, some (tg, v))
  | none => ({ ch with getp := noSendRecv, recvseq := ch.bump, sent := ch.sent ++ [v], sentBy := ch.sentBy ++ [(t, v)] }, none)

/-- ChanSend from the loop head (mutex held) -/
def sendLoop (ch : Chan) (t : Tid) (c : Cid) (v : Val) : BodyRes :=
  if ch.cap = 0 then
    if ch.getp ≠ hasRecv ∧ ch.closed = false then
      let ch1 := { ch with sends := ch.sends + 1 }
      if ch1.sends = 1 ∨ ch1.sends - 1 = ch1.selsends then
        ⟨ch1, none, .notify (.wait (.sendWaitU c v))⟩
      else ⟨ch1, none, .wait (.sendWaitU c v)⟩
    else if ch.closed then ⟨ch, none, .panic⟩
    else
      let (ch1, d) := ch.handOff t v
      ⟨ch1, d, .notify (.finish true (.ret (.sent c v)))⟩
  else
    if ch.len = ch.cap then ⟨ch, none, .wait (.sendWaitB c v)⟩
    else if ch.closed then ⟨ch, none, .panic⟩
    else ⟨ch.push t v, none, .notify (.finish true (.ret (.sent c v)))⟩

/-- ChanRecv from the (first) loop head -/
def recvLoop (ch : Chan) (c : Cid) (tg : Target) : BodyRes :=
  if ch.cap = 0 then
    if ch.getp = hasRecv ∧ ch.closed = false then ⟨ch, none, .wait (.recvWaitU c tg.slot)⟩
    else if ch.closed then ⟨ch, none, .unlock (.recv c false)⟩
    else ⟨{ ch with getp := hasRecv, slot := some tg }, none, .notify (.finish true (.recv2 false ch.recvseq))⟩
  else
    if ch.len = 0 then
      if ch.closed then ⟨ch, none, .unlock (.recv c false)⟩ else ⟨ch, none, .wait (.recvWaitB c tg.slot)⟩
    else ⟨ch.pop tg.tid, some (tg, ch.front), .notify (.finish true (.ret (.recv c true)))⟩

/-- second phase of an unbuffered receive.
    current variant: `for p.getp == chanHasRecv && !p.close { Wait }; recvOK = !p.close`;
    fixed variant:   `for p.recvseq == seq && !p.close { Wait }; recvOK = p.recvseq != seq` -/
def recv2Loop (ch : Chan) (c : Cid) (try_ : Bool) (seq : Nat) : BodyRes :=
  if ch.fixed then
    if ch.recvseq = seq ∧ ch.closed = false then ⟨ch, none, .wait (.recv2Wait c try_ seq)⟩
    else ⟨ch, none, .unlock (if try_ then .tryRecv (ch.recvseq != seq) (ch.recvseq != seq) else .recv c (ch.recvseq != seq))⟩
  else
    if ch.getp = hasRecv ∧ ch.closed = false then ⟨ch, none, .wait (.recv2Wait c try_ seq)⟩
    else ⟨ch, none, .unlock (if try_ then .tryRecv (!ch.closed) (!ch.closed) else .recv c (!ch.closed))⟩

def closeBody (ch : Chan) : BodyRes :=
  if ch.closed then ⟨ch, none, .panic⟩
  else ⟨{ ch with closed := true }, none, .notify (.finish true (.ret .closed))⟩

def trySendBody (ch : Chan) (t : Tid) (v : Val) : BodyRes :=
  if ch.cap = 0 then
    if ch.getp ≠ hasRecv ∨ ch.closed then ⟨ch, none, .unlock (.trySend false)⟩
    else
      let (ch1, d) := ch.handOff t v
      ⟨ch1, d, .notify (.finish true (.ret (.trySend true)))⟩
  else
    if ch.len = ch.cap ∨ ch.closed then ⟨ch, none, .unlock (.trySend false)⟩
    else ⟨ch.push t v, none, .notify (.finish true (.ret (.trySend true)))⟩

def tryRecvBody (ch : Chan) (tg : Target) (accept : Bool) : BodyRes :=
  if ch.cap = 0 then
    if ch.sends = 0 ∨ ch.getp = hasRecv ∨ ch.closed then ⟨ch, none, .unlock (.tryRecv false ch.closed)⟩
    else if accept = false ∧ ch.sends = ch.selsends then ⟨ch, none, .unlock (.tryRecv false false)⟩
    else ⟨{ ch with getp := hasRecv, slot := some tg }, none, .notify (.finish true (.recv2 true ch.recvseq))⟩
  else
    if ch.len = 0 then ⟨ch, none, .unlock (.tryRecv false ch.closed)⟩
    else ⟨ch.pop tg.tid, some (tg, ch.front), .notify (.finish true (.ret (.tryRecv true true)))⟩

def prepBody (ch : Chan) (t : Tid) (isSend : Bool) : BodyRes :=
  let ch1 := if ch.cap = 0 ∧ isSend then { ch with sends := ch.sends + 1, selsends := ch.selsends + 1 } else ch
  let ch2 := { ch1 with sops := ch1.sops ++ [t] }
  if ch.cap = 0 ∧ isSend then ⟨ch2, none, .notify (.finish false (.ret .prep))⟩
  else ⟨ch2, none, .unlock .prep⟩

def endBody (ch : Chan) (t : Tid) (isSend : Bool) : BodyRes :=
  let ch1 := if ch.cap = 0 ∧ isSend then { ch with sends := ch.sends - 1, selsends := ch.selsends - 1 } else ch
  ⟨{ ch1 with sops := ch1.sops.erase t }, none, .unlock .ended⟩

/-- the critical section entered at scheduling point `p` by thread `t` (mutex just acquired) -/
def body (p : Point) (t : Tid) (ch : Chan) : BodyRes :=
  match p with
  | .sendLock c v => sendLoop ch t c v
  | .sendWaitU c v => sendLoop { ch with sends := ch.sends - 1 } t c v      -- `p.sends--` after Wait
  | .sendWaitB c v => sendLoop ch t c v
  | .recvLock c slot => recvLoop ch c ⟨t, slot⟩
  | .recvWaitU c slot => recvLoop ch c ⟨t, slot⟩
  | .recvWaitB c slot => recvLoop ch c ⟨t, slot⟩
  | .recv2Lock c try_ seq => recv2Loop ch c try_ seq
  | .recv2Wait c try_ seq => recv2Loop ch c try_ seq
  | .closeLock _ => closeBody ch
  | .trySendLock _ v => trySendBody ch t v
  | .tryRecvLock _ slot accept => tryRecvBody ch ⟨t, slot⟩ accept
  | .prepLock _ isSend => prepBody ch t isSend
  | .endLock _ isSend => endBody ch t isSend

/-! ## Layer 2: threads -/

/-- `ChanOp` of a select case -/
structure Case where
  c : Cid
  send : Bool
  v : Val
  /-- the case's channel is nil: `Select`/`TrySelect` skip it everywhere (registration, probing, tie-break) -/
  isNil : Bool
deriving DecidableEq, Repr, Hashable

/-- one Go-level operation of a thread's program -/
inductive Op
  | send (c : Cid) (v : Val)            -- `c <- v`
  | recv (c : Cid)                      -- `v, ok := <-c`
  | close (c : Cid)                     -- `close(c)`
  | select (cases : List Case) (blocking : Bool)   -- `select { … }`, `blocking = false`: with `default`
deriving DecidableEq, Repr, Hashable

/-- result of a finished operation -/
inductive Res
  | sent (c : Cid) (v : Val)
  | closed
  | recv (c : Cid) (v : Val) (ok : Bool)
  /-- select committed case `idx`; `stray`: receive variables of OTHER cases that were written (`(case, value)`) -/
  | sel (idx : Nat) (v : Val) (ok : Bool) (stray : List (Nat × Val))
  /-- `TrySelect` took `default`; `stray` as above -/
  | dflt (stray : List (Nat × Val))
  | panic
deriving DecidableEq, Repr, Hashable

/-- state of a running `Select` / `TrySelect` call -/
structure Sel where
  cases : List Case
  blocking : Bool
  sendFirst : Bool
  /-- 0 / 1: which `trySelectDir` call of `trySelect` is running -/
  pass : Nat
  /-- index of the case being prepared / polled / ended -/
  idx : Nat
  /-- `(isel, recvOK)` once a case committed -/
  result : Option (Nat × Bool)
deriving DecidableEq, Repr, Hashable

inductive PC
  | start
  | done
  | at (p : Point)
  /-- inside `notifyOps(p)` of channel `c` (mutex of `c` held): at `sop.mutex.Lock()` of the head of `rest` -/
  | notify (c : Cid) (rest : List Tid) (k : After)
  | selLock          -- `selOp.wait()`: at `p.mutex.Lock()`
  | selWait          -- `selOp.wait()`: in `p.cond.Wait`
deriving DecidableEq, Repr, Hashable

structure Thread where
  pc : PC
  /-- blocked in `Cond.Wait`, not yet signalled -/
  waiting : Bool
  /-- operations after the current one -/
  ops : List Op
  res : List Res
  /-- receive variables of the current operation (by select-case index; 0 for a plain receive) -/
  rv : List Val
  sel : Option Sel
  /-- `selectOp.sem` of the running `Select` -/
  sem : Bool
deriving DecidableEq, Repr, Hashable

structure State where
  chans : List Chan
  /-- owner of each channel's mutex -/
  owner : List (Option Tid)
  threads : List Thread
deriving DecidableEq, Repr, Hashable

def dfltChan : Chan := newChan Cfg.current 0
def dfltThread : Thread := { pc := .done, waiting := false, ops := [], res := [], rv := [], sel := none, sem := false }

def State.chan (s : State) (c : Cid) : Chan := s.chans.getD c dfltChan
def State.thread (s : State) (t : Tid) : Thread := s.threads.getD t dfltThread
def State.own (s : State) (c : Cid) : Option Tid := s.owner.getD c none
def State.setThread (s : State) (t : Tid) (th : Thread) : State := { s with threads := s.threads.set t th }
def State.setOwner (s : State) (c : Cid) (o : Option Tid) : State := { s with owner := s.owner.set c o }
def State.setChan (s : State) (c : Cid) (ch : Chan) : State := { s with chans := s.chans.set c ch }

/-- `selectSendFirst`: channel indices are allocation addresses in increasing order (the harness
    allocates the channels so) -/
def minChan (cases : List Case) (send : Bool) : Option Cid :=
  cases.foldl (fun m cs => if cs.send = send ∧ cs.isNil = false then
      (match m with | none => some cs.c | some x => some (if cs.c < x then cs.c else x)) else m) none

def selectSendFirst (cases : List Case) : Bool :=
  match minChan cases true, minChan cases false with
  | none, _ => false
  | some _, none => true
  | some s, some r => decide (s < r)

/-- `selectSendChans[c]` -/
def isSendChan (cases : List Case) (c : Cid) : Bool := cases.any fun cs => cs.send && !cs.isNil && cs.c == c

/-- `op.C != nil` -/
def Case.live (cs : Case) : Bool := !cs.isNil

/-- first case with index ≥ `i` (counting from `base`) satisfying `want` -/
def nextCase (want : Case → Bool) : List Case → Nat → Nat → Option (Nat × Case)
  | [], _, _ => none
  | cs :: rest, base, i => if base ≥ i ∧ want cs then some (base, cs) else nextCase want rest (base + 1) i

/-- direction probed by pass `pass` of `trySelect` -/
def passSend (sendFirst : Bool) (pass : Nat) : Bool := if pass = 0 then sendFirst else !sendFirst

/-- the scheduling point at which case `cs` (index `i`) is polled -/
def pollPoint (sl : Sel) (i : Nat) (cs : Case) : Point :=
  if cs.send then .trySendLock cs.c cs.v
  else if sl.blocking then .tryRecvLock cs.c i (!sl.sendFirst && !isSendChan sl.cases cs.c)
  else .tryRecvLock cs.c i true

/-- receive variables (index, value) that hold a non-zero value, except the one of case `skip` -/
def strays : List Val → Nat → Option Nat → List (Nat × Val)
  | [], _, _ => []
  | v :: rest, k, skip => if v ≠ 0 ∧ skip ≠ some k then (k, v) :: strays rest (k + 1) skip else strays rest (k + 1) skip

/-- result recorded for a finished select -/
def selRes (th : Thread) (sl : Sel) : Res :=
  match sl.result with
  | some (i, ok) =>
    .sel i (match sl.cases[i]? with | some cs => if cs.send then 0 else th.rv.getD i 0 | none => 0) ok (strays th.rv 0 (some i))
  | none => .dflt (strays th.rv 0 none)

/-- start the first operation of `ops` that reaches a scheduling point; `TrySelect` without cases
    returns at once -/
def startOps (th : Thread) : List Op → Thread
  | [] => { th with pc := .done, ops := [], sel := none }
  | .send c v :: rest => { th with pc := .at (.sendLock c v), ops := rest, sel := none, rv := [0] }
  | .recv c :: rest => { th with pc := .at (.recvLock c 0), ops := rest, sel := none, rv := [0] }
  | .close c :: rest => { th with pc := .at (.closeLock c), ops := rest, sel := none, rv := [0] }
  | .select cases true :: rest =>
    let sl : Sel := { cases := cases, blocking := true, sendFirst := selectSendFirst cases, pass := 0, idx := 0, result := none }
    let th := { th with ops := rest, rv := List.replicate cases.length 0, sem := false, sel := some sl }
    match nextCase Case.live cases 0 0 with
    | none => { th with pc := .selLock }                    -- nothing to register, trySelect finds nothing; selOp.wait()
    | some (j, cs) => { th with sel := some { sl with idx := j }, pc := .at (.prepLock cs.c cs.send) }
  | .select cases false :: rest =>
    let sl : Sel := { cases := cases, blocking := false, sendFirst := false, pass := 0, idx := 0, result := none }
    match nextCase Case.live cases 0 0 with
    | none => startOps { th with res := th.res ++ [.dflt []] } rest
    | some (j, cs) =>
      { th with ops := rest, rv := List.replicate cases.length 0, sel := some { sl with idx := j }, pc := .at (pollPoint sl j cs) }

/-- the running operation finished with result `res`: record it, start the next one -/
def finishOp (th : Thread) (res : Res) : Thread :=
  startOps { th with res := th.res ++ [res], sel := none } th.ops

/-- continue `trySelect` / `TrySelect` at case index `i` of pass `pass` -/
def pollFrom (th : Thread) (sl : Sel) (pass i : Nat) : Thread :=
  if sl.blocking then
    match nextCase (fun cs => cs.live && cs.send == passSend sl.sendFirst pass) sl.cases 0 i with
    | some (j, cs) => { th with sel := some { sl with pass := pass, idx := j }, pc := .at (pollPoint sl j cs) }
    | none =>
      if pass = 0 then
        match nextCase (fun cs => cs.live && cs.send == passSend sl.sendFirst 1) sl.cases 0 0 with
        | some (j, cs) => { th with sel := some { sl with pass := 1, idx := j }, pc := .at (pollPoint sl j cs) }
        | none => { th with sel := some { sl with pass := 0, idx := 0 }, pc := .selLock }
      else { th with sel := some { sl with pass := 0, idx := 0 }, pc := .selLock }
  else
    match nextCase Case.live sl.cases 0 i with
    | some (j, cs) => { th with sel := some { sl with idx := j }, pc := .at (pollPoint sl j cs) }
    | none => finishOp th (selRes th sl)

/-- a case committed: run the `endSelect` loop (blocking) or return (non-blocking) -/
def commitSel (th : Thread) (sl : Sel) (recvOK : Bool) : Thread :=
  let sl := { sl with result := some (sl.idx, recvOK) }
  if sl.blocking then
    match nextCase Case.live sl.cases 0 0 with
    | some (j, cs) => { th with sel := some { sl with idx := j }, pc := .at (.endLock cs.c cs.send) }
    | none => finishOp th (selRes th sl)
  else finishOp th (selRes th sl)

/-- a channel-level function returned `r` to thread `th` -/
def onRet (th : Thread) (r : Ret) : Thread :=
  match th.sel with
  | none =>
    match r with
    | .sent c v => finishOp th (.sent c v)
    | .closed => finishOp th .closed
    | .recv c ok => finishOp th (.recv c (th.rv.getD 0 0) ok)
    | _ => finishOp th .panic      -- unreachable: try-functions are only called from select
  | some sl =>
    match r with
    | .prep =>
      match nextCase Case.live sl.cases 0 (sl.idx + 1) with
      | some (j, cs) => { th with sel := some { sl with idx := j }, pc := .at (.prepLock cs.c cs.send) }
      | none => pollFrom th sl 0 0
    | .trySend ok => if ok then commitSel th sl false else pollFrom th sl sl.pass (sl.idx + 1)
    | .tryRecv recvOK tryOK => if tryOK then commitSel th sl recvOK else pollFrom th sl sl.pass (sl.idx + 1)
    | .ended =>
      match nextCase Case.live sl.cases 0 (sl.idx + 1) with
      | some (j, cs) => { th with sel := some { sl with idx := j }, pc := .at (.endLock cs.c cs.send) }
      | none => finishOp th (selRes th sl)
    | _ => finishOp th .panic      -- unreachable

/-- `p.cond.Broadcast()` of channel `c` -/
def broadcast (c : Cid) (ths : List Thread) : List Thread :=
  ths.map fun th =>
    match th.pc with
    | .at p => if th.waiting ∧ p.isWait ∧ p.chan = c then { th with waiting := false } else th
    | _ => th

/-- `sop.notify()` body for the selectOp of thread `x`: `sem = true; Signal` -/
def notifyThread (th : Thread) : Thread :=
  { th with sem := true, waiting := if th.pc = .selWait then false else th.waiting }

/-- after `notifyOps(p)` on channel `c`, thread `t` (holding the mutex of `c`) -/
def doAfter (s : State) (t : Tid) (c : Cid) (k : After) : State :=
  match k with
  | .wait p =>
    let s := s.setOwner c none
    s.setThread t { s.thread t with pc := .at p, waiting := true }
  | .finish bc n =>
    let s := s.setOwner c none
    let s := if bc then { s with threads := broadcast c s.threads } else s
    match n with
    | .ret r => s.setThread t (onRet (s.thread t) r)
    | .recv2 try_ seq => s.setThread t { s.thread t with pc := .at (.recv2Lock c try_ seq) }

/-- `notifyOps(p)` then `k` -/
def doNotify (s : State) (t : Tid) (c : Cid) (k : After) : State :=
  match (s.chan c).sops with
  | [] => doAfter s t c k
  | l => s.setThread t { s.thread t with pc := .notify c l k }

def applyDeliver (s : State) : Option (Target × Val) → State
  | none => s
  | some (tg, v) => s.setThread tg.tid { s.thread tg.tid with rv := (s.thread tg.tid).rv.set tg.slot v }

/-- the mutex a thread needs in order to continue from `pc` -/
def wantedChan : PC → Option Cid
  | .at p => some p.chan
  | _ => none

def runnable (s : State) (t : Tid) : Bool :=
  let th := s.thread t
  t < s.threads.length && th.pc != .done && !th.waiting &&
    (match wantedChan th.pc with
     | some c => (s.own c).isNone
     | none => true)

/-- thread `t` (runnable) runs to its next scheduling point -/
def exec (s : State) (t : Tid) : State :=
  let th := s.thread t
  match th.pc with
  | .done => s
  | .start => s.setThread t (startOps th th.ops)
  | .at p =>
    let c := p.chan
    let r := body p t (s.chan c)
    let s := (s.setChan c r.ch).setOwner c (some t)
    let s := applyDeliver s r.deliver
    match r.out with
    | .wait p' => (s.setOwner c none).setThread t { s.thread t with pc := .at p', waiting := true }
    | .notify k => doNotify s t c k
    | .unlock ret => (s.setOwner c none).setThread t (onRet (s.thread t) ret)
    | .panic =>
      (s.setOwner c none).setThread t { s.thread t with pc := .done, ops := [], sel := none, res := (s.thread t).res ++ [.panic] }
  | .notify c rest k =>
    match rest with
    | [] => doAfter s t c k
    | x :: xs =>
      let s := s.setThread x (notifyThread (s.thread x))
      match xs with
      | [] => doAfter s t c k
      | _ => s.setThread t { s.thread t with pc := .notify c xs k }
  | .selLock =>
    if th.sem then
      match th.sel with
      | some sl => s.setThread t (pollFrom { th with sem := false } sl 0 0)
      | none => s
    else s.setThread t { th with pc := .selWait, waiting := true }
  | .selWait =>
    match th.sel with
    | some sl => s.setThread t (pollFrom { th with sem := false } sl 0 0)
    | none => s

/-- one scheduler step: `none` when the thread is not runnable -/
def step (s : State) (t : Tid) : Option State :=
  if runnable s t then some (exec s t) else none

/-- spurious wake-up of a thread blocked in `Cond.Wait` -/
def wake (s : State) (t : Tid) : Option State :=
  let th := s.thread t
  if t < s.threads.length ∧ th.waiting then some (s.setThread t { th with waiting := false }) else none

/-- a scheduler choice -/
inductive Choice
  | step (t : Tid)
  | wake (t : Tid)
deriving DecidableEq, Repr, Hashable

def apply (s : State) : Choice → Option State
  | .step t => step s t
  | .wake t => wake s t

def runSched (s : State) : List Choice → Option State
  | [] => some s
  | ch :: rest => match apply s ch with
    | some s' => runSched s' rest
    | none => none

/-- initial state: channels of the given capacities, one thread per program -/
def init (cfg : Cfg) (caps : List Nat) (progs : List (List Op)) : State :=
  { chans := caps.map (newChan cfg), owner := caps.map fun _ => none,
    threads := progs.map fun ops => { dfltThread with pc := .start, ops := ops } }

def allDone (s : State) : Bool := s.threads.all fun th => th.pc == .done
def noneRunnable (s : State) : Bool := (List.range s.threads.length).all fun t => !runnable s t

end LlgoVerif.Chan
