/-!
# Model of llgo's Python bridge (property C19): import guard, symbol loading, call marshalling

Everything modelled here is *emitted code* (ssa/python.go, cl/compile.go `compileBlock`, cl/instr.go,
internal/build/build.go + main_module.go); the tie is the regenerated IR facts (`Gen/C19Facts.lean`) and
whole compiled programs run against libpython.

## What llgo emits (read off the -O0 IR, see design/C19.md)

* A Go package whose `LLGoPackage` is `"py.<m>"` is a *binding package* for the Python module `<m>`.
  Its `init` is go/ssa's guarded initialiser, with the final jump replaced by (`compileBlock`, `pyModInit`)

      %v = load ptr, @__llgo_py.<m> ;  br (%v != null), exit, imp
      imp:  %r = call @PyImport_ImportModule("<m>") ;  store %r, @__llgo_py.<m> ;  br exit

  `@__llgo_py.<m>` is `linkonce` in the binding package and `external` in every user: ONE variable per
  Python module per program (not per Go package).  The body of the binding package's own `init`
  (variable initialisers, `init` functions) is emitted BEFORE this import, and `AfterInit` is not called
  for a binding package ("TODO(xsw): confirm pyMod don't need to call AfterInit").
* A package that calls Python functions (`//go:linkname F py.f` in a binding package) gets one
  `linkonce` variable `@__llgo_py.<m>.<f>` per function and, in its `init`, right after the calls of the
  imports' initialisers and before its own body (`Package.AfterInit`, `pyLoadModSyms`), one
  `llgoLoadPyModSyms(load @__llgo_py.<m>, "f", &@__llgo_py.<m>.<f>, …, NULL)` per module; the C helper
  stores `PyObject_GetAttrString(mod, name)` only `if (*pfunc == NULL)`.
* A call `F(a₁ … aₙ)` loads the symbol variable and calls `PyObject_CallNoArgs` (0 parameters),
  `PyObject_CallOneArg` (1 parameter, not variadic) or `PyObject_CallFunctionObjArgs(fn, a₁, …, aₙ, NULL)`.
* A Python variable (`//go:linkname X py.x` on a `var`) is `PyObject_GetAttrString(load @__llgo_py.<m>, "x")`
  at every use.
* The entry function calls `Py_Initialize` first iff some NON-binding package of the program has
  `NeedPyInit` (build.go `buildOne` does not propagate the flag from `PkgPyModule` packages).
* CPython: `PyImport_ImportModule` consults `sys.modules`; the module body is executed on a miss only.

Package initialisation order is C12's subject; here a program run takes the order in which the package
`init` bodies run as a parameter (`order`) that is only required to be `Consistent` with the import
graph; `initOrder` is the guarded depth-first initialiser of DESIGN.md Appendix A.2, proved consistent
in `Lemmas/PyInitOrder.lean` (from C12's theorems about `Init.initPkg`).
-/
namespace LlgoVerif.PyGuard

/-- Python module (index into the program's module table) -/
abbrev Mod := Nat
/-- Python attribute of a module: (module, name index) -/
abbrev Sym := Mod × Nat

/-- What Go code does with Python, as far as the guard is concerned. -/
inductive Use
  /-- call of a Python function through its symbol variable `__llgo_py.<m>.<f>` -/
  | call (y : Sym)
  /-- read of a Python variable: `PyObject_GetAttrString(load __llgo_py.<m>, name)` at the use -/
  | var (y : Sym)
  /-- `py.ImportModule(c.Str("<m>"))` written by the user (plain C call, not guarded by llgo) -/
  | explicitImport (m : Mod)
  deriving DecidableEq, Repr

def Use.isPy : Use → Bool
  | .call _ => true
  | .var _ => true
  | .explicitImport _ => false

def Use.callSym : Use → Option Sym
  | .call y => some y
  | _ => none

def Use.mod? : Use → Option Mod
  | .call y => some y.1
  | .var y => some y.1
  | .explicitImport _ => none

structure Pkg where
  /-- Go imports (packages whose `init` is called first) -/
  imports : List Nat := []
  /-- `some m` iff `LLGoPackage = "py.<m>"` -/
  binds : Option Mod := none
  /-- uses executed by the package's own `init` body (variable initialisers, `init` functions) -/
  initUses : List Use := []
  /-- uses inside functions (run after the package is initialised) -/
  uses : List Use := []
  /-- the `(name, &var)` pairs of the `llgoLoadPyModSyms` calls in the package's `init`, in emission order
      (`pyLoadModSyms`: the package's `pyobjs`, sorted by name and grouped by module) -/
  loads : List Sym := []
  /-- the package uses `py.List` / `py.Tuple` / `py.Str` (sets `NeedPyInit` too) -/
  intrinsics : Bool := false
  deriving Repr

abbrev Prog := Nat → Pkg

def Pkg.allUses (k : Pkg) : List Use := k.initUses ++ k.uses

/-- the Python functions the package calls (`p.pyobjs`, the table `funcOf` fills while compiling) -/
def Pkg.pyobjs (k : Pkg) : List Sym := k.allUses.filterMap Use.callSym

/-- `aPackage.NeedPyInit` as set by `pyFunc`/`PyNewFunc` while compiling the package -/
def Pkg.needsPy (k : Pkg) : Bool := k.intrinsics || k.allUses.any Use.isPy

/-- `needPyInit` of build.go: only packages compiled through the `default:` branch of `buildOne`
    contribute — binding packages (`PkgPyModule`) do not. -/
def needPyInit (P : Prog) (order : List Nat) : Bool :=
  order.any fun p => (P p).binds.isNone && (P p).needsPy

inductive Ev
  | pyInit
  /-- `PyImport_ImportModule("<m>")` executed by the `init` of binding package `p` -/
  | importCall (p : Nat) (m : Mod)
  /-- user-written import call in package `p` -/
  | explicitImport (p : Nat) (m : Mod)
  /-- CPython executes the body of module `m` (miss in `sys.modules`) -/
  | modBody (m : Mod)
  /-- `*pfunc = PyObject_GetAttrString(mod, name)` in the `init` of package `p` -/
  | loadSym (p : Nat) (y : Sym)
  /-- Python function called from package `p` -/
  | call (p : Nat) (y : Sym)
  /-- Python variable read from package `p` -/
  | getVar (p : Nat) (y : Sym)
  deriving DecidableEq, Repr

inductive Err
  /-- a C-API function that needs the interpreter ran before `Py_Initialize` -/
  | notInitialized
  /-- `PyObject_GetAttrString(NULL, …)`: module variable still nil -/
  | nilModule (m : Mod)
  /-- call through a symbol variable that is still NULL -/
  | nilSym (y : Sym)
  deriving DecidableEq, Repr

structure St where
  inited : Bool := false
  /-- `sys.modules` -/
  sysModules : List Mod := []
  /-- module variables `__llgo_py.<m>` that are non-nil -/
  modVar : List Mod := []
  /-- symbol variables `__llgo_py.<m>.<f>` that are non-nil -/
  symVar : List Sym := []
  trace : List Ev := []
  deriving Repr

def St.emit (s : St) (e : Ev) : St := { s with trace := s.trace ++ [e] }

/-- CPython's `PyImport_ImportModule(m)`: `imp m = false` models a module that cannot be imported
    (the call returns NULL).  Returns the new state and whether a module object was returned. -/
def cpyImport (imp : Mod → Bool) (m : Mod) (s : St) : Except Err (St × Bool) :=
  if !s.inited then .error .notInitialized
  else if m ∈ s.sysModules then .ok (s, true)
  else if imp m then .ok ({ (s.emit (.modBody m)) with sysModules := m :: s.sysModules }, true)
  else .ok (s, false)

/-- one `(name, &var)` pair of `llgoLoadPyModSyms` executed in `p.init` -/
def loadSym (p : Nat) (s : St) (y : Sym) : Except Err St :=
  if y ∈ s.symVar then .ok s
  else if y.1 ∈ s.modVar then .ok { (s.emit (.loadSym p y)) with symVar := y :: s.symVar }
  else .error (.nilModule y.1)

def doUse (imp : Mod → Bool) (p : Nat) (s : St) : Use → Except Err St
  | .call y => if y ∈ s.symVar then .ok (s.emit (.call p y)) else .error (.nilSym y)
  | .var y => if y.1 ∈ s.modVar then .ok (s.emit (.getVar p y)) else .error (.nilModule y.1)
  | .explicitImport m =>
    match cpyImport imp m (s.emit (.explicitImport p m)) with
    | .ok (s', _) => .ok s'
    | .error e => .error e

/-- the guarded import at the end of a binding package's `init` -/
def guardedImport (imp : Mod → Bool) (p : Nat) (m : Mod) (s : St) : Except Err St :=
  if m ∈ s.modVar then .ok s                                      -- `if mod != nil` → skip
  else
    match cpyImport imp m (s.emit (.importCall p m)) with
    | .ok (s', true) => .ok { s' with modVar := m :: s'.modVar }  -- store the module object
    | .ok (s', false) => .ok s'                                   -- store NULL
    | .error e => .error e

/-- the part of `p.init` after the guard store and the imports' initialisers -/
def initBody (P : Prog) (imp : Mod → Bool) (s : St) (p : Nat) : Except Err St :=
  match (P p).binds with
  | none =>
    match (P p).loads.foldlM (loadSym p) s with                    -- AfterInit: load the symbols …
    | .ok s1 => (P p).initUses.foldlM (doUse imp p) s1            -- … then the body
    | .error e => .error e
  | some m =>
    match (P p).initUses.foldlM (doUse imp p) s with              -- body first (no AfterInit) …
    | .ok s1 => guardedImport imp p m s1                          -- … then the guarded import
    | .error e => .error e

/-- A whole program: `Py_Initialize` (if `needPyInit`), the package `init` bodies in `order`, then the
    uses `calls` made from `main.main` on (pairs package × use). `pre` = `sys.modules` after
    `Py_Initialize` (site, encodings, …). -/
def run (P : Prog) (imp : Mod → Bool) (pre : List Mod) (order : List Nat) (calls : List (Nat × Use)) :
    Except Err St :=
  let s0 : St := if needPyInit P order then { inited := true, sysModules := pre, trace := [.pyInit] }
                 else { sysModules := pre }
  match order.foldlM (initBody P imp) s0 with
  | .ok s1 => calls.foldlM (fun s c => doUse imp c.1 s c.2) s1
  | .error e => .error e

/-! ## Initialisation order -/

/-- `order` lists each package once and every package after its imports. -/
def Consistent (P : Prog) (order : List Nat) : Prop :=
  order.Nodup ∧ ∀ l₁ p l₂, order = l₁ ++ p :: l₂ → ∀ q ∈ (P p).imports, q ∈ l₁

/-- executable form -/
def consistentB (P : Prog) : List Nat → List Nat → Bool
  | _, [] => true
  | done, p :: rest => !done.contains p && (P p).imports.all done.contains && consistentB P (done ++ [p]) rest

structure GSt where
  guard : List Nat := []
  trace : List Nat := []

/-- go/ssa's guarded initialiser as compiled by llgo (DESIGN.md A.2): test guard, set guard, call the
    imports' `init` in order, run the body. -/
def initPkg (P : Prog) : Nat → Nat → GSt → GSt
  | 0, _, s => s
  | fuel+1, p, s =>
    if p ∈ s.guard then s else
    let s1 : GSt := { s with guard := p :: s.guard }
    let s2 := (P p).imports.foldl (fun st q => initPkg P fuel q st) s1
    { s2 with trace := s2.trace ++ [p] }

/-- order in which the bodies run when the entry function calls `main.init` -/
def initOrder (P : Prog) (main : Nat) : List Nat := (initPkg P (main + 1) main {}).trace

/-- packages are numbered topologically (every acyclic import graph has such a numbering) -/
def Topo (P : Prog) : Prop := ∀ p q, q ∈ (P p).imports → q < p

/-! ## Hypotheses of the guard theorem (all decidable on a finite program) -/

/-- Go's scoping: a package can only name `q.F` / `q.X` if it is `q` or imports the binding package `q`. -/
def scopedPkg (P : Prog) (p : Nat) : Bool :=
  (P p).allUses.all fun u => match u.mod? with
    | some m => (P p).binds == some m || (P p).imports.any fun q => (P q).binds == some m
    | none => true

/-- binding packages contain declarations only (true of every package of github.com/goplus/lib/py) -/
def declOnlyPkg (P : Prog) (p : Nat) : Bool :=
  (P p).binds.isNone || ((P p).allUses.isEmpty && !(P p).intrinsics)

/-- `pyLoadModSyms` loads exactly the functions the package calls; a binding package loads nothing
    (`AfterInit` is not called for it) -/
def loadsOkPkg (P : Prog) (p : Nat) : Bool :=
  if (P p).binds.isSome then (P p).loads.isEmpty
  else (P p).loads.all (P p).pyobjs.contains && (P p).pyobjs.all (P p).loads.contains

def boundImportable (P : Prog) (imp : Mod → Bool) (p : Nat) : Bool :=
  match (P p).binds with
  | some m => imp m
  | none => true

def callsOk (P : Prog) (order : List Nat) (calls : List (Nat × Use)) : Bool :=
  calls.all fun c => order.contains c.1 && (P c.1).uses.contains c.2

/-- a finite program given as a table (driver, examples, regenerated facts) -/
def ofList (l : List Pkg) : Prog := fun p => l.getD p {}

/-! ## Argument marshalling -/

/-- what `pyCall` emits; `α` = run-time values of type `*py.Object` -/
inductive CCall (α : Type)
  | noArgs (fn : α)
  | oneArg (fn : α) (a : α)
  /-- `PyObject_CallFunctionObjArgs(fn, v₁, …, NULL)`: the C varargs as written, `none` = NULL -/
  | objArgs (fn : α) (va : List (Option α))
  deriving Repr, DecidableEq

/-- `Builder.pyCall`: dispatch on the number of declared parameters; `none` = the compiler panics
    (`args[0]` out of range). -/
def pyCall {α : Type} (nparams : Nat) (variadic : Bool) (fn : α) (args : List α) : Option (CCall α) :=
  match nparams with
  | 0 => some (.noArgs fn)
  | 1 =>
    if !variadic then
      match args with
      | a :: _ => some (.oneArg fn a)
      | [] => none
    else some (.objArgs fn (args.map some ++ [none]))
  | _ => some (.objArgs fn (args.map some ++ [none]))

/-- CPython's side: the positional-argument tuple the callable receives -/
def CCall.received {α : Type} : CCall α → List α
  | .noArgs _ => []
  | .oneArg _ a => [a]
  | .objArgs _ va => (va.takeWhile Option.isSome).filterMap id

def CCall.callee {α : Type} : CCall α → α
  | .noArgs f => f
  | .oneArg f _ => f
  | .objArgs f _ => f

/-- `PyTuple_New(n)` / `PyList_New(n)` followed by `SetItem(obj, i, PyVal(argᵢ))` for `i = 0 … n-1`
    (`Builder.PyTuple`, `Builder.PyList`); `none` = slot still NULL. -/
def buildSeq {α β : Type} (conv : α → β) (args : List α) : List (Option β) :=
  args.zipIdx.foldl (fun slots (a, i) => slots.set i (some (conv a))) (List.replicate args.length none)

/-! ## Values (`Builder.PyVal`) -/

/-- Go values that `PyVal` accepts (float32/complex are converted by LLVM `fpext`; not modelled) -/
inductive GoVal
  | int (w : Nat) (v : BitVec w)      -- int, int8 … int64  → sext to i64, PyLong_FromLongLong
  | uint (w : Nat) (v : BitVec w)     -- uint, uint8 … uintptr → zext to i64, PyLong_FromUnsignedLongLong
  | bool (b : Bool)                   -- PyBool_FromLong
  | f64 (bits : BitVec 64)            -- PyFloat_FromDouble
  | str (bytes : List UInt8)          -- PyUnicode_FromStringAndSize(data, len)
  | byteSlice (bytes : List UInt8)    -- PyByteArray_FromStringAndSize
  | byteArray (bytes : List UInt8)    -- PyBytes_FromStringAndSize
  deriving Repr

inductive PyObj
  | long (v : Int)
  | bool (b : Bool)
  | float (bits : BitVec 64)
  /-- `str`, as its UTF-8 bytes -/
  | str (bytes : List UInt8)
  | bytes (b : List UInt8)
  | bytearray (b : List UInt8)
  | list (l : List PyObj)
  | tuple (l : List PyObj)
  deriving Repr

def pyVal : GoVal → PyObj
  | .int _ v => .long (v.signExtend 64).toInt
  | .uint _ v => .long (v.setWidth 64).toNat
  | .bool b => .bool b
  | .f64 bits => .float bits
  | .str b => .str b
  | .byteSlice b => .bytearray b
  | .byteArray b => .bytes b

/-- `PyLong_AsLongLong`: `none` = OverflowError (the C function returns -1 with an exception set) -/
def asInt64 : PyObj → Option (BitVec 64)
  | .long v => if -(2^63 : Int) ≤ v ∧ v < 2^63 then some (BitVec.ofInt 64 v) else none
  | .bool b => some (if b then 1 else 0)
  | _ => none

/-- `PyLong_AsUnsignedLongLong` -/
def asUint64 : PyObj → Option (BitVec 64)
  | .long v => if 0 ≤ v ∧ v < 2^64 then some (BitVec.ofInt 64 v) else none
  | _ => none

def asFloat64 : PyObj → Option (BitVec 64)
  | .float b => some b
  | _ => none

end LlgoVerif.PyGuard
