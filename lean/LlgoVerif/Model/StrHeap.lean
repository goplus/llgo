import LlgoVerif.Model.Slice
/-!
Heap-aware model of the string side of `runtime/internal/runtime/z_string.go`: strings are `{data, len}` headers over
the byte heap `Mem` of `Model/Slice.lean` (addresses = block start + offset; a fresh block starts at `Mem.next`), so
that *which bytes are shared and which are copied* is part of the model:

`StringCat` (fresh `AllocU` block, two `Memcpy`), `StringSlice` (no allocation: `Advance` into the base),
`StringFrom` / `StringFromBytes` (fresh copy), `StringToBytes` (fresh `make([]byte, n)` + `Memcpy`),
`CStrCopy`, `CStrDup`, `StringFromCStr` (with `c.Strlen`).

`Model/Slice.lean` keeps the byte-list versions (`StringCat`, `StringSlice`, …) that the UTF-8 / ordering theorems
are about; `stringCat_heap` and `string_slice_shares` (`Props/C05.lean`) state that the heap versions compute those byte lists.

`c.Strlen` reads bytes until the first NUL.  Reading past allocated memory is undefined behaviour in C: the model
examines the allocated bytes `[p, Mem.next)` only and answers `Err.ub` when there is no NUL among them.
-/
namespace LlgoVerif.Slice

/-- `type String struct { data unsafe.Pointer; len int }` -/
structure Str where
  data : Nat
  len : Int
  deriving DecidableEq, Repr

/-- the bytes of a string -/
def strBytes (m : Mem) (s : Str) : List Nat := m.read s.data s.len.toNat

/-- `StringCat(a, b)` -/
def StringCatH (m : Mem) (a b : Str) : Except Err (Mem × Str) :=
  let n := a.len + b.len
  let r := allocU m (uintptr n)
  let dest := r.1
  match memcpy r.2 dest a.data (uintptr a.len) with
  | .error e => .error e
  | .ok m1 =>
    match memcpy m1 (advance dest a.len) b.data (uintptr b.len) with
    | .error e => .error e
    | .ok m2 => .ok (m2, ⟨dest, n⟩)

/-- `CStrCopy(dest, s)`: the bytes of `s`, then a NUL; returns `dest` -/
def CStrCopy (m : Mem) (dest : Nat) (s : Str) : Except Err (Mem × Nat) :=
  let n := s.len
  match memcpy m dest s.data (uintptr n) with
  | .error e => .error e
  | .ok m1 => .ok (m1.blit (advance dest n) [0], dest)

/-- `CStrDup(s)` -/
def CStrDup (m : Mem) (s : Str) : Except Err (Mem × Nat) :=
  let r := allocU m (uintptr (s.len + 1))
  CStrCopy r.2 r.1 s

/-- `StringSlice(base, i, j)`: no allocation, the result points into the base (for an empty suffix `i = len` the base
    pointer is kept so that the pointer never leaves the allocation) -/
def StringSliceH (base : Str) (i j : Int) : Except Err Str :=
  if i < 0 ∨ j < i ∨ j > base.len then .error .panic
  else if i < base.len then .ok ⟨advance base.data i, j - i⟩
  else .ok ⟨base.data, 0⟩

/-- `StringFrom(data, n)`: a fresh copy of `n` bytes (`n == 0`: the zero `String`) -/
def StringFrom (m : Mem) (data : Nat) (n : Int) : Except Err (Mem × Str) :=
  if n = 0 then .ok (m, ⟨0, 0⟩)
  else
    let r := allocU m (uintptr n)
    match memcpy r.2 r.1 data (uintptr n) with
    | .error e => .error e
    | .ok m1 => .ok (m1, ⟨r.1, n⟩)

/-- `StringFromBytes(b)` -/
def StringFromBytesH (m : Mem) (b : Slice) : Except Err (Mem × Str) := StringFrom m b.data b.len

/-- the loop of `strlen`: `fuel` allocated bytes are left to look at, `k` bytes were non-NUL so far -/
def strlenFrom (m : Mem) (p : Nat) : Nat → Nat → Option Nat
  | 0, _ => none
  | fuel + 1, k => if m.bytes (p + k) = 0 then some k else strlenFrom m p fuel (k + 1)

/-- `c.Strlen(p)` over the allocated bytes `[p, m.next)` -/
def strlen (m : Mem) (p : Nat) : Option Nat := strlenFrom m p (m.next - p) 0

/-- `StringFromCStr(cstr)` -/
def StringFromCStr (m : Mem) (cstr : Nat) : Except Err (Mem × Str) :=
  if cstr = 0 then .ok (m, ⟨0, 0⟩)
  else
    match strlen m cstr with
    | none => .error .ub
    | some n => StringFrom m cstr n

/-- `StringToBytes(s)`: `nil` for the empty string, else `make([]byte, s.len)` (compiled to `MakeSlice(len, len, 1)`)
    filled by `Memcpy` -/
def StringToBytesH (m : Mem) (s : Str) : Except Err (Mem × Slice) :=
  if s.len = 0 then .ok (m, ⟨0, 0, 0⟩)
  else
    match MakeSlice m s.len s.len 1 with
    | .error e => .error e
    | .ok (m1, d) =>
      match memcpy m1 d.data s.data (uintptr s.len) with
      | .error e => .error e
      | .ok m2 => .ok (m2, d)

end LlgoVerif.Slice
