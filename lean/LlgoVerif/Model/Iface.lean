/-!
# Model of the interface-satisfaction scans of `runtime/internal/runtime/z_face.go` — C07

A method table is a list of entries `(name, typ, ifn)`: `name` is the emitted name (bytes of
`Name_`: the bare name of an exported method, `pkgpath.name` of an unexported one), `typ` stands for the
`*FuncType` pointer (descriptors are merged at link time, so two pointers are equal iff the
func types have the same `TypeName`), `ifn` for the code pointer (`0` = stripped).

* `implScan` mirrors BOTH loops of `Implements` (interface operand and concrete operand run the
  same two-index scan; the indices `i`, `j` are rendered as "what is left of each table").
* `findMethod` mirrors `findMethod` (linear search that stops at the first name `>=` the wanted one).
* `newItabFuns` / `newItabOk` mirror the fill loop of `NewItab` and the `fun[0] != 0` test of `getitab`.
* `matchesClosure` mirrors the pointer tests of `MatchesClosure` (`EfaceEqual` is `DynEq.efaceEqual`, Model/DynEq.lean).
-/
namespace LlgoVerif.Face

structure Ent where
  name : List Nat     -- bytes of Name_
  typ  : Nat          -- *FuncType (pointer identity)
  ifn  : Nat := 1     -- Ifn_ (0 = nil)
  deriving DecidableEq, Repr

/-- do `(Name_, Mtyp_)` agree?  (`vm.Name_ == tm.Name_ && vm.Mtyp_ == tm.Typ_`) -/
def Ent.same (a b : Ent) : Bool := a.name == b.name && a.typ == b.typ

/-- Go's `<` on strings: bytewise lexicographic -/
def bytesLt : List Nat → List Nat → Bool
  | [], [] => false
  | [], _ :: _ => true
  | _ :: _, [] => false
  | a :: as, b :: bs => if a < b then true else if b < a then false else bytesLt as bs

/-- the loop of `Implements` after the `len(t.Methods) == 0` test: `t` = what is left of the
    interface's table from index `i`, `v` = what is left of the operand's table from index `j`.
    `[]` on the left is `i >= len(t.Methods)`: return true. -/
def scan : List Ent → List Ent → Bool
  | [], _ => true
  | _ :: _, [] => false
  | tm :: ts, vm :: vs => if vm.same tm then scan ts vs else scan (tm :: ts) vs

/-- `Implements(T, V)` for an interface `T` with table `t`; `v = none`: `V` has no uncommon type
    (concrete operand without methods) -/
def implScan (t : List Ent) (v : Option (List Ent)) : Bool :=
  if t.isEmpty then true
  else match v with
    | none => false
    | some v => scan t v

/-- `findMethod(mthds, im)` → `(Ifn_, matched)` -/
def findMethod : List Ent → Ent → Nat × Bool
  | [], _ => (0, false)
  | m :: ms, im =>
    if !bytesLt m.name im.name then            -- mName >= imName
      if m.name == im.name && m.typ == im.typ then (m.ifn, true) else (0, false)
    else findMethod ms im

/-- the fill loop of `NewItab`: `none` = some interface method is missing (`fun[0] = 0; break`);
    `some funs` = the function words written -/
def newItabFuns (t v : List Ent) : Option (List Nat) :=
  t.mapM fun im => let r := findMethod v im; if r.2 then some r.1 else none

/-- `getitab`'s success test `m.fun[0] != 0` (for a non-empty interface) -/
def newItabOk (t : List Ent) (v : Option (List Ent)) : Bool :=
  match v with
  | none => false
  | some v =>
    match newItabFuns t v with
    | some (f :: _) => f != 0
    | _ => false

/-- strictly increasing names -/
def sortedNames (l : List Ent) : Prop := l.Pairwise fun a b => bytesLt a.name b.name = true

/-- the specification both scans are supposed to decide: every interface entry `(name, typ)` occurs
    in the operand's table -/
def implSpec (t v : List Ent) : Prop := ∀ e ∈ t, ∃ m ∈ v, m.name = e.name ∧ m.typ = e.typ

/-- descriptor facts used by `MatchesClosure` -/
structure Desc where
  id : Nat               -- address
  closure : Bool := false
  field0 : Nat := 0      -- Fields[0].Typ (address), for struct types
  named : Bool := false  -- TFlagNamed (a defined func type `type F func()`)
  deriving DecidableEq, Repr

/-- `MatchesClosure(T, V)`; `v = none` is a nil `V`.  `namedFix = false` is the pinned tree: the NAME of
    a defined func type is ignored (`type F func() int` matches `func() int`, a listed finding);
    `namedFix = true` is `fixes/C07-3.diff`: a named closure type matches only itself. -/
def matchesClosure (namedFix : Bool) (t : Desc) (v : Option Desc) : Bool :=
  match v with
  | none => false       -- T == V is false for a nil V and non-nil T; `V == nil` → false
  | some v =>
    if t.id = v.id then true
    else if !v.closure then false
    else if namedFix && (t.named || v.named) then false
    else t.field0 = v.field0

end LlgoVerif.Face
