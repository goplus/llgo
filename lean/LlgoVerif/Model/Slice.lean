import LlgoVerif.Model.Utf8
/-!
Model of `runtime/internal/runtime/z_slice.go` (`NewSlice3`, `SliceAppend`, `GrowSlice`, `nextslicecap`,
`SliceCopy`, `MakeSlice`, `SliceClear`) and of `z_string.go` (`StringCat`, `StringSlice`, `StringEqual`,
`StringLess`, `StringIterNext`, `StringToBytes/Runes`, `StringFromBytes/Runes/Rune/Int64/Uint64`).

* Memory is a byte heap `Mem` (address → byte, plus the first never-allocated address `next`), so aliasing and
  overlapping windows are expressible.  Allocations are fresh (start at `next`) and disjoint from everything
  allocated before.  Address 0 is `nil`.
* `memmove` is always defined (all reads happen before all writes).  `memcpy` is C's `memcpy`: *undefined* when
  the two ranges overlap — the model returns `Err.ub` (the Go stand-in used by the correspondence check counts
  exactly the same calls: `n > 0`, `dst ≠ src`, ranges intersect).
* Go `int`s are mathematical integers; the model does not render wrap-around.  Its domain is: all lengths,
  capacities, indices and byte sizes inside `[-2^63, 2^63)` with no intermediate overflow (sizes that a real
  64-bit process can hold are far inside).  `MakeSlice` — whose logic *is* an overflow test — models the
  `uintptr` conversions explicitly.
* The code is mirrored branch by branch **including its defects**.  The two defects of the unchanged tree
  (DESIGN.md §8 #4, #5) are controlled by `Cfg`, so that the same model covers the tree before and after
  `fixes/C05-1.diff`; the check probes the real code to find out which configuration is live.
* The capacity chosen on growth is a parameter (`pol`, default `nextslicecap`): Go does not fix it, so the
  correspondence check feeds the capacity the real code chose and the theorems hold for every policy with
  `newLen ≤ pol newLen oldCap`.
* Strings are byte lists (a byte is a `Nat < 256`); runes are integers.
-/
namespace LlgoVerif.Slice

open LlgoVerif

/-- how an operation can fail -/
inductive Err where
  | panic   -- a Go run-time panic (bounds error, makeslice: len/cap out of range)
  | ub      -- undefined behaviour in C: `memcpy` on overlapping ranges
  deriving DecidableEq, Repr

/-! ## byte heap -/

structure Mem where
  bytes : Nat → Nat
  next : Nat

/-- nothing allocated; address 0 is nil -/
def Mem.empty : Mem := ⟨fun _ => 0, 1⟩

/-- the `n` bytes at `a` -/
def Mem.read (m : Mem) (a n : Nat) : List Nat := (List.range n).map fun i => m.bytes (a + i)

/-- store the bytes `bs` at `a` (the interpreter's element assignment `s[i] = v`) -/
def Mem.blit (m : Mem) (a : Nat) (bs : List Nat) : Mem :=
  { m with bytes := fun x => if a ≤ x ∧ x < a + bs.length then bs.getD (x - a) 0 else m.bytes x }

/-- C `memmove(dst, src, n)`: every byte is read from the memory *before* the call -/
def memmove (m : Mem) (dst src n : Nat) : Mem :=
  { m with bytes := fun x => if dst ≤ x ∧ x < dst + n then m.bytes (src + (x - dst)) else m.bytes x }

/-- the ranges `[dst,dst+n)` and `[src,src+n)` intersect (and are not the very same range) -/
def overlaps (dst src n : Nat) : Prop := 0 < n ∧ dst ≠ src ∧ dst < src + n ∧ src < dst + n

instance (dst src n : Nat) : Decidable (overlaps dst src n) := by unfold overlaps; infer_instance

/-- C `memcpy(dst, src, n)`: defined only for non-overlapping ranges -/
def memcpy (m : Mem) (dst src n : Nat) : Except Err Mem :=
  if overlaps dst src n then .error .ub else .ok (memmove m dst src n)

/-- C `memset(p, c, n)` -/
def memset (m : Mem) (p c n : Nat) : Mem :=
  { m with bytes := fun x => if p ≤ x ∧ x < p + n then c else m.bytes x }

/-- `AllocU(n)`: a fresh block with unspecified contents (`malloc`); even `malloc(0)` is a distinct address -/
def allocU (m : Mem) (n : Nat) : Nat × Mem := (m.next, { m with next := m.next + n + 1 })

/-- `AllocZ(n)`: `malloc` + `memset 0` -/
def allocZ (m : Mem) (n : Nat) : Nat × Mem :=
  let r := allocU m n
  (r.1, memset r.2 r.1 0 n)

/-- `c.Advance(p, off)` on an `unsafe.Pointer`: byte steps -/
def advance (p : Nat) (off : Int) : Nat := ((p : Int) + off).toNat

/-! ## slices -/

/-- `type Slice struct { data unsafe.Pointer; len, cap int }` -/
structure Slice where
  data : Nat
  len : Int
  cap : Int
  deriving DecidableEq, Repr

/-- which of the two repairs of `fixes/C05-1.diff` the modelled tree contains -/
structure Cfg where
  zeroSizeFix : Bool    -- `SliceAppend` no longer returns `src` unchanged when `etSize == 0`
  memmoveFix : Bool     -- `SliceAppend` copies the appended values with `Memmove` instead of `Memcpy`
  deriving DecidableEq, Repr

/-- the unchanged tree -/
def Cfg.current : Cfg := ⟨false, false⟩
/-- the tree with `fixes/C05-1.diff` applied -/
def Cfg.fixed : Cfg := ⟨true, true⟩

/-- `NewSlice3(base, eltSize, cap, i, j, k)` : `base[i:j:k]` -/
def NewSlice3 (base : Nat) (eltSize cap i j k : Int) : Except Err Slice :=
  if k < 0 ∨ k > cap then .error .panic
  else if j < 0 ∨ j > k then .error .panic
  else if i < 0 ∨ i > j then .error .panic
  else .ok { len := j - i, cap := k - i,
             data := if k - i > 0 then advance base (i * eltSize) else base }

/-- the `for { … }` loop of `nextslicecap`: `newcap += (newcap + 3*threshold) >> 2` until
    `uint(newcap) >= uint(newLen)`.  On the model's domain (`0 ≤ newcap`, `0 < newLen`, no overflow) the unsigned
    comparison is the signed one (`uint_cmp_domain` in `Props/C05.lean`; for the loop itself `capLoop64_eq`); `>> 2` on an
    `int` is floor division by 4.
    The loop is entered only with `newcap ≥ 256`; the guard `0 ≤ newcap` is what the termination proof uses:
    every iteration adds at least `(0 + 768) / 4 = 192`. -/
def capLoop (newLen newcap : Int) : Int :=
  let nc := newcap + (newcap + 768) / 4
  if _h : 0 ≤ newcap ∧ nc < newLen then capLoop newLen nc else nc
termination_by (newLen - newcap).toNat
decreasing_by omega

/-- `nextslicecap(newLen, oldCap)` -/
def nextslicecap (newLen oldCap : Int) : Int :=
  let newcap := oldCap
  let doublecap := newcap + newcap
  if newLen > doublecap then newLen
  else if oldCap < 256 then doublecap
  else
    let newcap := capLoop newLen newcap
    if newcap ≤ 0 then newLen else newcap

/-- `GrowSlice(src, num, etSize)`; `pol` chooses the new capacity (`nextslicecap` in the code) -/
def GrowSlice (pol : Int → Int → Int) (m : Mem) (src : Slice) (num etSize : Int) : Except Err (Mem × Slice) :=
  let oldLen := src.len
  let newLen := oldLen + num
  if newLen > src.cap then
    let newCap := pol newLen src.cap
    let r := allocZ m (newCap * etSize).toNat
    let p := r.1
    match (if oldLen ≠ 0 then memcpy r.2 p src.data (oldLen * etSize).toNat else .ok r.2) with
    | .error e => .error e
    | .ok m2 => .ok (m2, { data := p, len := newLen, cap := newCap })
  else .ok (m, { src with len := newLen })

/-- `SliceAppend(src, data, num, etSize)` -/
def SliceAppend (cfg : Cfg) (pol : Int → Int → Int) (m : Mem) (src : Slice) (data : Nat) (num etSize : Int) :
    Except Err (Mem × Slice) :=
  if etSize = 0 ∧ cfg.zeroSizeFix = false then .ok (m, src)       -- `if etSize == 0 { return src }`  (defect #4)
  else
    let oldLen := src.len
    match GrowSlice pol m src num etSize with
    | .error e => .error e
    | .ok (m1, s1) =>
      let dst := advance s1.data (oldLen * etSize)
      let n := (num * etSize).toNat
      if cfg.memmoveFix then .ok (memmove m1 dst data n, s1)
      else match memcpy m1 dst data n with                       -- `c.Memcpy` on possibly overlapping ranges (defect #5)
        | .error e => .error e
        | .ok m2 => .ok (m2, s1)

/-- `SliceCopy(dst, data, num, etSize)` : returns the element count -/
def SliceCopy (m : Mem) (dst : Slice) (data : Nat) (num etSize : Int) : Mem × Int :=
  let n := if dst.len > num then num else dst.len
  if n > 0 then (memmove m dst.data data (n * etSize).toNat, n) else (m, n)

def maxAlloc : Nat := 2 ^ 48
/-- `uintptr(x)` of an `int` -/
def uintptr (x : Int) : Nat := (x % 2 ^ 64).toNat

/-- `math.MulUintptr(a, b)` : product (mod 2^64) and overflow flag -/
def mulUintptr (a b : Nat) : Nat × Bool :=
  if (a < 2 ^ 32 ∧ b < 2 ^ 32) ∨ a = 0 then (a * b % 2 ^ 64, false)
  else (a * b % 2 ^ 64, b > (2 ^ 64 - 1) / a)

/-- `MakeSlice(len, cap, etSize)` (both panics are `Err.panic`; the texts differ: len / cap out of range) -/
def MakeSlice (m : Mem) (len cap etSize : Int) : Except Err (Mem × Slice) :=
  let r := mulUintptr (uintptr etSize) (uintptr cap)
  if r.2 ∨ r.1 > maxAlloc ∨ len < 0 ∨ len > cap then .error .panic
  else
    let a := allocZ m r.1
    .ok (a.2, { data := a.1, len := len, cap := cap })

/-- `SliceClear(t, s)` : `memset(s.data, 0, uintptr(s.len) * t.Elem.Size())` -/
def SliceClear (m : Mem) (s : Slice) (elemSize : Nat) : Mem :=
  memset m s.data 0 (uintptr s.len * elemSize % 2 ^ 64)

/-- the bytes of the elements `s[0:len]` -/
def view (m : Mem) (s : Slice) (etSize : Int) : List Nat := m.read s.data (s.len * etSize).toNat

/-! ## strings (byte lists) -/

/-- `StringCat(a, b)`: both parts are copied into a fresh `AllocU(a.len + b.len)` block -/
def StringCat (a b : List Nat) : List Nat := a ++ b

/-- `StringSlice(base, i, j)` -/
def StringSlice (base : List Nat) (i j : Int) : Except Err (List Nat) :=
  if i < 0 ∨ j < i ∨ j > base.length then .error .panic
  else if i < base.length then .ok ((base.drop i.toNat).take (j - i).toNat)
  else .ok []

/-- the `for i := 0; i < x.len; i++` loop of `StringEqual` over the paired bytes -/
def eqLoop : List (Nat × Nat) → Bool
  | [] => true
  | (a, b) :: rest => if a ≠ b then false else eqLoop rest

/-- `StringEqual(x, y)` (the `x.data != y.data` shortcut is not observable) -/
def StringEqual (x y : List Nat) : Bool :=
  if x.length ≠ y.length then false else eqLoop (x.zip y)

/-- the loop of `StringLess` over the first `min(x.len, y.len)` byte pairs: `some b` = decided inside the loop -/
def lessLoop : List (Nat × Nat) → Option Bool
  | [] => none
  | (ix, iy) :: rest => if ix < iy then some true else if ix > iy then some false else lessLoop rest

/-- `StringLess(x, y)` -/
def StringLess (x y : List Nat) : Bool :=
  match lessLoop (x.zip y) with
  | some b => b
  | none => x.length < y.length

/-- `StringToBytes(s)` : a fresh copy -/
def StringToBytes (s : List Nat) : List Nat := s
/-- `StringFromBytes(b)` : a fresh copy of the slice's bytes -/
def StringFromBytes (m : Mem) (b : Slice) : List Nat := m.read b.data b.len.toNat

/-- `uint32(r)` of a rune (`int32`; any integer is reduced the same way) -/
def u32 (r : Int) : Nat := (r % 2 ^ 32).toNat

/-- `StringToRunes(s)` : the decode loop (ASCII fast path, else `decoderune`) -/
def StringToRunes (s : List Nat) : List Nat := Utf8.toRunes s

/-- `StringFromRunes(rs)` -/
def StringFromRunes (rs : List Int) : List Nat := Utf8.fromRunes (rs.map u32)

/-- `StringFromRune(r)` -/
def StringFromRune (r : Int) : List Nat := Utf8.encodeRune (u32 r)

/-- `StringFromInt64(r)` : `string(i)` for a signed integer -/
def StringFromInt64 (r : Int) : List Nat :=
  if r < 0 ∨ r > Utf8.maxRune then StringFromRune Utf8.runeError else StringFromRune r

/-- `StringFromUint64(r)` : `string(u)` for an unsigned integer -/
def StringFromUint64 (r : Nat) : List Nat :=
  if r > Utf8.maxRune then StringFromRune Utf8.runeError else StringFromRune r

/-- `StringIterNext(it)` with `it = {s, pos}`: `none` when exhausted, else `(k, v, pos')` -/
def StringIterNext (s : List Nat) (pos : Nat) : Option (Nat × Nat × Nat) :=
  if pos ≥ s.length then none
  else
    let c := s.getD pos 0
    if c < 0x80 then some (pos, c, pos + 1)
    else
      let d := Utf8.decodeRune (s.drop pos)
      some (pos, d.1, pos + d.2)

/-- `for k, v := range s`: call `StringIterNext` until it reports `ok = false`
    (`fuel` bounds the number of calls; `iterFrom_enumerates` shows `s.length` calls always suffice) -/
def iterFrom (s : List Nat) : Nat → Nat → List (Nat × Nat)
  | 0, _ => []
  | fuel + 1, pos =>
    match StringIterNext s pos with
    | none => []
    | some (k, v, pos') => (k, v) :: iterFrom s fuel pos'

def iterAll (s : List Nat) : List (Nat × Nat) := iterFrom s s.length 0

end LlgoVerif.Slice
