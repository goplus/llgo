import LlgoVerif.Lemmas.Chan
/-! A step changes the pc of the acting thread and the owner of one mutex, never puts another thread to sleep (`Eff`) and leaves
    the other thread records alone up to the sleep bit and `sem` (`SameBut`) and a `Memcpy` (`rvAfter`); what it does is said by
    the pc of the actor (`exec_cases`: `AtStep`, `NotifyStep`, `OtherStep`).  A step from a point is the critical section
    followed by what a step from inside `notifyOps` does, so the two share their end (`Tail`). -/
namespace LlgoVerif.Chan

@[simp] theorem thread_setOwner (s : State) (c : Cid) (o : Option Tid) (t : Tid) : (s.setOwner c o).thread t = s.thread t := rfl
@[simp] theorem thread_setChan (s : State) (c : Cid) (ch : Chan) (t : Tid) : (s.setChan c ch).thread t = s.thread t := rfl
@[simp] theorem own_setThread (s : State) (t : Tid) (th : Thread) (c : Cid) : (s.setThread t th).own c = s.own c := rfl
@[simp] theorem own_setChan (s : State) (c' : Cid) (ch : Chan) (c : Cid) : (s.setChan c' ch).own c = s.own c := rfl

theorem thread_setThread_ne (s : State) (t t' : Tid) (th : Thread) (h : t ≠ t') : (s.setThread t th).thread t' = s.thread t' :=
  getD_set_other _ _ _ _ _ h

theorem thread_setThread_self (s : State) (t : Tid) (th : Thread) (h : t < s.threads.length) : (s.setThread t th).thread t = th :=
  getD_set_self _ _ _ _ h

theorem own_setOwner_ne (s : State) (c c' : Cid) (o : Option Tid) (h : c ≠ c') : (s.setOwner c o).own c' = s.own c' :=
  getD_set_other _ _ _ _ _ h

theorem own_setOwner_self (s : State) (c : Cid) (o : Option Tid) (h : c < s.owner.length) : (s.setOwner c o).own c = o :=
  getD_set_self _ _ _ _ h

theorem own_setOwner_none_self (s : State) (c : Cid) : (s.setOwner c none).own c = none := by
  by_cases hl : c < s.owner.length
  · exact own_setOwner_self _ _ _ hl
  · simp [State.own, State.setOwner, List.getD, Nat.le_of_not_lt hl]

theorem own_setOwner_none (s : State) (c c' : Cid) (h : s.own c' = none) : (s.setOwner c none).own c' = none := by
  by_cases hc : c = c'
  · subst hc; exact own_setOwner_none_self s c
  · rw [own_setOwner_ne _ _ _ _ hc]; exact h

theorem thread_setThread_cases (s : State) (x t' : Tid) (th : Thread) :
    (x = t' ∧ (s.setThread x th).thread t' = th) ∨ (s.setThread x th).thread t' = s.thread t' := by
  rcases getD_set_cases s.threads x t' th dfltThread with ⟨e, e1⟩ | e1
  · exact Or.inl ⟨e, e1⟩
  · exact Or.inr e1

theorem pc_setThread_same (s : State) (x t' : Tid) (th : Thread) (h : th.pc = (s.thread x).pc) :
    ((s.setThread x th).thread t').pc = (s.thread t').pc := by
  rcases thread_setThread_cases s x t' th with ⟨rfl, e⟩ | e <;> rw [e]
  exact h

def PC.inCS : PC → Cid → Bool
  | .notify c' _ _, c => c' == c
  | _, _ => false

def PC.outside : PC → Bool
  | .notify .. => false
  | .at p => !p.isWait
  | _ => true

theorem PC.outside_notCS {pc : PC} (h : pc.outside = true) (c : Cid) : pc.inCS c = false := by
  cases pc with
  | notify => cases h
  | _ => rfl

theorem PC.outside_notWait {q : Point} (h : (PC.at q).outside = true) : q.isWait = false := by
  simpa [PC.outside] using h

theorem PC.notCS_of_not_notify {pc : PC} (h : ∀ c l k, pc ≠ .notify c l k) (c : Cid) : pc.inCS c = false := by
  cases pc with
  | notify c' l k => exact absurd rfl (h c' l k)
  | _ => rfl

theorem pollPoint_outside (sl : Sel) (i : Nat) (cs : Case) : (PC.at (pollPoint sl i cs)).outside = true := by
  unfold pollPoint; split <;> (try split) <;> rfl

theorem startOps_outside (th : Thread) (ops : List Op) : (startOps th ops).pc.outside = true := by
  induction ops generalizing th with
  | nil => rfl
  | cons op rest ih =>
    cases op with
    | send c' v => rfl
    | recv c' => rfl
    | close c' => rfl
    | select cases blocking =>
      cases blocking with
      | true => simp only [startOps]; split <;> rfl
      | false =>
        simp only [startOps]
        split
        · exact ih _
        · exact pollPoint_outside _ _ _

theorem finishOp_outside (th : Thread) (r : Res) : (finishOp th r).pc.outside = true :=
  startOps_outside _ _

theorem pollFrom_outside (th : Thread) (sl : Sel) (pass i : Nat) : (pollFrom th sl pass i).pc.outside = true := by
  unfold pollFrom
  split
  · split
    · exact pollPoint_outside _ _ _
    · split
      · split
        · exact pollPoint_outside _ _ _
        · rfl
      · rfl
  · split
    · exact pollPoint_outside _ _ _
    · exact finishOp_outside _ _

theorem commitSel_outside (th : Thread) (sl : Sel) (ok : Bool) : (commitSel th sl ok).pc.outside = true := by
  unfold commitSel
  dsimp only
  split
  · split
    · rfl
    · exact finishOp_outside _ _
  · exact finishOp_outside _ _

theorem onRet_outside (th : Thread) (r : Ret) : (onRet th r).pc.outside = true := by
  unfold onRet
  split
  · split <;> exact finishOp_outside _ _
  · split
    · split
      · rfl
      · exact pollFrom_outside _ _ _ _
    · split
      · exact commitSel_outside _ _ _
      · exact pollFrom_outside _ _ _ _
    · split
      · exact commitSel_outside _ _ _
      · exact pollFrom_outside _ _ _ _
    · split
      · rfl
      · exact finishOp_outside _ _
    · exact finishOp_outside _ _

theorem broadcast_length (c : Cid) (ths : List Thread) : (broadcast c ths).length = ths.length := by
  simp [broadcast]

theorem broadcast_getD (c : Cid) (ths : List Thread) (t : Tid) :
    ∃ w, (broadcast c ths).getD t dfltThread = { ths.getD t dfltThread with waiting := w } ∧
      (w = true → (ths.getD t dfltThread).waiting = true) ∧
      (∀ p, (ths.getD t dfltThread).pc = .at p → p.isWait = true → p.chan = c → w = false) := by
  simp only [broadcast, List.getD, List.getElem?_map]
  cases ths[t]? with
  | none => exact ⟨false, rfl, nofun, fun _ _ _ _ => rfl⟩
  | some th =>
    simp only [Option.map_some, Option.getD_some]
    split
    · rename_i p hp
      split
      · exact ⟨false, rfl, nofun, fun _ _ _ _ => rfl⟩
      · rename_i hn
        refine ⟨th.waiting, rfl, id, fun p' hp' hw hc => ?_⟩
        rw [hp] at hp'; cases hp'
        cases hwt : th.waiting with
        | false => rfl
        | true => exact absurd ⟨hwt, hw, hc⟩ hn
    · rename_i hnp
      exact ⟨th.waiting, rfl, id, fun p hp _ _ => absurd hp (hnp p)⟩

theorem notifyThread_pc (th : Thread) : (notifyThread th).pc = th.pc := rfl

/-- all fields the select-free invariants read (not `waiting`, not `sem`) -/
structure SameBut (a b : Thread) : Prop where
  pc : a.pc = b.pc
  res : a.res = b.res
  rv : a.rv = b.rv
  sel : a.sel = b.sel
  ops : a.ops = b.ops

theorem SameBut.refl (a : Thread) : SameBut a a := ⟨rfl, rfl, rfl, rfl, rfl⟩
theorem SameBut.trans {a b c : Thread} (h1 : SameBut a b) (h2 : SameBut b c) : SameBut a c :=
  ⟨h1.pc.trans h2.pc, h1.res.trans h2.res, h1.rv.trans h2.rv, h1.sel.trans h2.sel, h1.ops.trans h2.ops⟩

structure Eff (s s' : State) (t : Tid) (c : Cid) : Prop where
  pcs : ∀ t', t' ≠ t → (s'.thread t').pc = (s.thread t').pc
  tlen : s'.threads.length = s.threads.length
  olen : s'.owner.length = s.owner.length
  owns : ∀ c', c' ≠ c → s'.own c' = s.own c'
  /-- other threads are never put to sleep by somebody else's step -/
  wts : ∀ t', t' ≠ t → (s'.thread t').waiting = true → (s.thread t').waiting = true

theorem Eff.refl (s : State) (t : Tid) (c : Cid) : Eff s s t c :=
  ⟨fun _ _ => rfl, rfl, rfl, fun _ _ => rfl, fun _ _ h => h⟩

theorem Eff.trans {s1 s2 s3 : State} {t : Tid} {c : Cid} (a : Eff s1 s2 t c) (b : Eff s2 s3 t c) : Eff s1 s3 t c :=
  ⟨fun t' h => (b.pcs t' h).trans (a.pcs t' h), b.tlen.trans a.tlen, b.olen.trans a.olen,
   fun c' h => (b.owns c' h).trans (a.owns c' h), fun t' h w => a.wts t' h (b.wts t' h w)⟩

theorem eff_setThread (s : State) (t : Tid) (c : Cid) (th : Thread) : Eff s (s.setThread t th) t c :=
  ⟨fun t' h => by rw [thread_setThread_ne _ _ _ _ (Ne.symm h)], by simp [State.setThread], rfl, fun _ _ => rfl,
   fun t' h w => by rwa [thread_setThread_ne _ _ _ _ (Ne.symm h)] at w⟩

theorem eff_setThread_same (s : State) (x t : Tid) (c : Cid) (th : Thread) (h : th.pc = (s.thread x).pc)
    (hw : th.waiting = true → (s.thread x).waiting = true) :
    Eff s (s.setThread x th) t c :=
  ⟨fun t' _ => pc_setThread_same s x t' th h, by simp [State.setThread], rfl, fun _ _ => rfl,
   fun t' _ w => by
    by_cases hx : x = t'
    · subst hx
      rcases thread_setThread_cases s x x th with ⟨_, e⟩ | e
      · rw [e] at w; exact hw w
      · rwa [e] at w
    · rwa [thread_setThread_ne _ _ _ _ hx] at w⟩

theorem eff_setOwner (s : State) (t : Tid) (c : Cid) (o : Option Tid) : Eff s (s.setOwner c o) t c :=
  ⟨fun _ _ => rfl, rfl, by simp [State.setOwner], fun c' h => own_setOwner_ne _ _ _ _ (Ne.symm h), fun _ _ h => h⟩

theorem eff_setChan (s : State) (t : Tid) (c c' : Cid) (ch : Chan) : Eff s (s.setChan c' ch) t c :=
  ⟨fun _ _ => rfl, rfl, rfl, fun _ _ => rfl, fun _ _ h => h⟩

def rvAfter (d : Option (Target × Val)) (t' : Tid) (rv : List Val) : List Val :=
  match d with
  | some (tg, v) => if tg.tid = t' then rv.set tg.slot v else rv
  | none => rv

theorem rvAfter_self (u : Tid) (sl : Nat) (v : Val) (rv : List Val) : rvAfter (some (⟨u, sl⟩, v)) u rv = rv.set sl v :=
  if_pos rfl

theorem rvAfter_ne {u t' : Tid} (h : u ≠ t') (sl : Nat) (v : Val) (rv : List Val) : rvAfter (some (⟨u, sl⟩, v)) t' rv = rv :=
  if_neg h

theorem rvAfter_length (d : Option (Target × Val)) (t : Tid) (rv : List Val) : (rvAfter d t rv).length = rv.length := by
  unfold rvAfter
  split
  · split <;> simp
  · rfl

/-- unconditional on purpose: a `Memcpy` to a thread that does not exist is lost (`setThread` beyond the list is the identity and
    `thread` reads `dfltThread`), which the right-hand side says too -/
theorem applyDeliver_thread (s : State) (d : Option (Target × Val)) (t' : Tid) :
    (applyDeliver s d).thread t' = { s.thread t' with rv := rvAfter d t' (s.thread t').rv } := by
  cases d with
  | none => rfl
  | some x =>
    obtain ⟨tg, v⟩ := x
    simp only [applyDeliver, rvAfter]
    by_cases h : tg.tid = t'
    · subst h
      simp only [if_true]
      by_cases hl : tg.tid < s.threads.length
      · rw [thread_setThread_self _ _ _ hl]
      · have hle : s.threads.length ≤ tg.tid := Nat.le_of_not_lt hl
        have hno : s.setThread tg.tid { s.thread tg.tid with rv := (s.thread tg.tid).rv.set tg.slot v } = s := by
          simp only [State.setThread]
          rw [List.set_eq_of_length_le hle]
        have hd : s.thread tg.tid = dfltThread := by
          simp [State.thread, List.getD, List.getElem?_eq_none hle]
        rw [hno, hd]; rfl
    · simp only [h, if_false]
      rw [thread_setThread_ne _ _ _ _ h]

theorem eff_applyDeliver (s : State) (t : Tid) (c : Cid) (d : Option (Target × Val)) : Eff s (applyDeliver s d) t c := by
  cases d with
  | none => exact Eff.refl ..
  | some x => exact eff_setThread_same s x.1.tid t c _ rfl (fun h => h)

/-- `none`: the critical section panicked (`Unlock`, no `Broadcast`, the thread is done) -/
def bcastOf : Option After → Bool
  | some (.finish bc _) => bc
  | _ => false

def threadAfter (k : Option After) (c : Cid) (th : Thread) : Thread :=
  match k with
  | some (.wait q) => { th with pc := .at q, waiting := true }
  | some (.finish _ (.ret r)) => onRet th r
  | some (.finish _ (.recv2 b seq)) => { th with pc := .at (.recv2Lock c b seq) }
  | none => { th with pc := .done, ops := [], sel := none, res := th.res ++ [.panic] }

theorem threadAfter_pc (k : Option After) (c : Cid) (th : Thread) :
    (∃ q, k = some (.wait q) ∧ (threadAfter k c th).pc = .at q) ∨ (threadAfter k c th).pc.outside = true := by
  match k with
  | some (.wait q) => exact Or.inl ⟨q, rfl, rfl⟩
  | some (.finish _ (.ret r)) => exact Or.inr (onRet_outside _ _)
  | some (.finish _ (.recv2 b seq)) => exact Or.inr rfl
  | none => exact Or.inr rfl

/-- `Unlock; [Broadcast]`: the state in which `leaveDone` installs the acting thread's new record -/
def afterUnlock (s : State) (c : Cid) (bc : Bool) : State :=
  if bc then { (s.setOwner c none) with threads := broadcast c (s.setOwner c none).threads } else s.setOwner c none

def leaveDone (s : State) (t : Tid) (c : Cid) (k : Option After) : State :=
  (afterUnlock s c (bcastOf k)).setThread t (threadAfter k c ((afterUnlock s c (bcastOf k)).thread t))

theorem doAfter_eq (s : State) (t : Tid) (c : Cid) (k : After) : doAfter s t c k = leaveDone s t c (some k) := by
  match k with
  | .wait q => rfl
  | .finish _ (.ret r) => rfl
  | .finish _ (.recv2 b seq) => rfl

/-- `Unlock; [Broadcast]` as seen by one thread: its sleep bit may be cleared, and is if it waits on `c` and there is a
    `Broadcast` -/
theorem afterUnlock_thread (s : State) (c : Cid) (bc : Bool) (t' : Tid) :
    ∃ w, (afterUnlock s c bc).thread t' = { s.thread t' with waiting := w } ∧ (w = true → (s.thread t').waiting = true) ∧
      (bc = true → ∀ p, (s.thread t').pc = .at p → p.isWait = true → p.chan = c → w = false) := by
  cases bc with
  -- structure eta, after `cases`: a bare `rfl` unfolds `thread` first and is slow
  | false => exact ⟨(s.thread t').waiting, by show s.thread t' = _; cases s.thread t'; rfl, id, nofun⟩
  | true =>
    obtain ⟨w, e, h⟩ := broadcast_getD c (s.setOwner c none).threads t'
    exact ⟨w, e, h.1, fun _ => h.2⟩

theorem eff_afterUnlock (s : State) (t : Tid) (c : Cid) (bc : Bool) : Eff s (afterUnlock s c bc) t c := by
  refine (eff_setOwner s t c none).trans
    ⟨fun t' _ => ?_, by cases bc with | false => rfl | true => exact broadcast_length _ _, by cases bc <;> rfl,
     fun c' _ => by cases bc <;> rfl, fun t' _ w' => ?_⟩ <;>
    obtain ⟨w, e, hw, _⟩ := afterUnlock_thread s c bc t'
  · rw [e]; rfl
  · rw [e] at w'; exact hw w'

theorem afterUnlock_sameBut (s : State) (c : Cid) (bc : Bool) (t' : Tid) :
    SameBut ((afterUnlock s c bc).thread t') (s.thread t') := by
  obtain ⟨w, e, _⟩ := afterUnlock_thread s c bc t'
  rw [e]; exact ⟨rfl, rfl, rfl, rfl, rfl⟩

theorem afterUnlock_own (s : State) (c : Cid) (bc : Bool) : (afterUnlock s c bc).own c = none := by
  unfold afterUnlock
  split <;> exact own_setOwner_none_self s c

def WokenAll (s : State) (t : Tid) (c : Cid) : Prop :=
  ∀ t' p, t' ≠ t → (s.thread t').pc = .at p → p.isWait = true → p.chan = c → (s.thread t').waiting = false

theorem afterUnlock_woken (s : State) (c : Cid) (t' : Tid) (p : Point) (hp : ((afterUnlock s c true).thread t').pc = .at p)
    (hw : p.isWait = true) (hc : p.chan = c) : ((afterUnlock s c true).thread t').waiting = false := by
  obtain ⟨w, e, _, hwk⟩ := afterUnlock_thread s c true t'
  rw [e] at hp ⊢; exact hwk rfl p hp hw hc

structure Ran (s s' : State) (t : Tid) (c : Cid) (k : Option After) : Prop where
  eff : Eff s s' t c
  chans : s'.chans = s.chans
  free : s'.own c = none
  notNotify : ∀ c' l k', (s'.thread t).pc ≠ .notify c' l k'
  sleeps : ∀ q, (s'.thread t).pc = .at q → q.isWait = true → k = some (.wait q)
  wakes : ∀ n, k = some (.finish true n) → WokenAll s' t c
  others : ∀ u, u ≠ t → SameBut (s'.thread u) (s.thread u)
  /-- `th0`: after the `Broadcast`, which is not known here to spare the actor's `waiting` -/
  self : ∃ th0, SameBut th0 (s.thread t) ∧ s'.thread t = threadAfter k c th0

theorem leaveDone_ran (s : State) (t : Tid) (c : Cid) (k : Option After) (ht : t < s.threads.length) :
    Ran s (leaveDone s t c k) t c k := by
  unfold leaveDone
  have e1 := eff_afterUnlock s t c (bcastOf k)
  have hth := thread_setThread_self (afterUnlock s c (bcastOf k)) t (threadAfter k c ((afterUnlock s c (bcastOf k)).thread t))
    (by rw [e1.tlen]; exact ht)
  have hoth : ∀ u, u ≠ t →
      ((afterUnlock s c (bcastOf k)).setThread t (threadAfter k c ((afterUnlock s c (bcastOf k)).thread t))).thread u =
      (afterUnlock s c (bcastOf k)).thread u := fun u hne => thread_setThread_ne _ _ _ _ (Ne.symm hne)
  have hpc := threadAfter_pc k c ((afterUnlock s c (bcastOf k)).thread t)
  rw [← hth] at hpc
  exact
    { eff := e1.trans (eff_setThread ..)
      chans := by cases bcastOf k <;> rfl
      free := afterUnlock_own s c (bcastOf k)
      notNotify := fun c' l k' h => by
        rcases hpc with ⟨q, _, e⟩ | ho
        · rw [e] at h; cases h
        · rw [h] at ho; cases ho
      sleeps := fun q hq hw => by
        rcases hpc with ⟨q', rfl, e⟩ | ho
        · rw [e] at hq; cases hq; rfl
        · rw [hq] at ho; rw [PC.outside_notWait ho] at hw; cases hw
      wakes := fun n hn t' p hne hp hw hc => by
        cases hn
        rw [hoth t' hne] at hp ⊢
        exact afterUnlock_woken s c t' p hp hw hc
      others := fun u hne => by rw [hoth u hne]; exact afterUnlock_sameBut s c (bcastOf k) u
      self := ⟨_, afterUnlock_sameBut s c (bcastOf k) t, hth⟩ }

/-- where the acting thread stands when its step is over, having held the mutex of `c` with `k` to follow `notifyOps` (`none`:
    the critical section panicked): still inside `notifyOps`, or `k` has run.  Shared by the steps from a point and from
    inside `notifyOps`. -/
structure Tail (s' : State) (t : Tid) (c : Cid) (k : Option After) : Prop where
  cs : ∀ c', (s'.thread t).pc.inCS c' = true → c' = c
  nk : ∀ c' l k', (s'.thread t).pc = .notify c' l k' → k = some k'
  next : (∃ l k', k = some k' ∧ (s'.thread t).pc = .notify c l k') ∨
    ((∀ q, (s'.thread t).pc = .at q → q.isWait = true → k = some (.wait q)) ∧
      (∀ n, k = some (.finish true n) → WokenAll s' t c))

theorem Tail.stay {s' : State} {t : Tid} {c : Cid} {l : List Tid} {k : After} (h : (s'.thread t).pc = .notify c l k) :
    Tail s' t c (some k) where
  cs := fun c' hc => by rw [h] at hc; exact (beq_iff_eq.mp hc).symm
  nk := fun c' l' k' hk => by rw [h] at hk; cases hk; rfl
  next := Or.inl ⟨l, k, rfl, h⟩

theorem Ran.notCS {s s' : State} {t : Tid} {c : Cid} {k : Option After} (r : Ran s s' t c k) (c' : Cid) :
    (s'.thread t).pc.inCS c' ≠ true := by
  rw [PC.notCS_of_not_notify r.notNotify]; exact Bool.false_ne_true

theorem Ran.tail {s s' : State} {t : Tid} {c : Cid} {k : Option After} (r : Ran s s' t c k) : Tail s' t c k :=
  ⟨fun c' hc => absurd hc (r.notCS c'), fun c' l k' hk => absurd hk (r.notNotify c' l k'), Or.inr ⟨r.sleeps, r.wakes⟩⟩

theorem eff_notifyThread (s : State) (x t : Tid) (c : Cid) : Eff s (s.setThread x (notifyThread (s.thread x))) t c :=
  eff_setThread_same s x t c _ rfl (fun h => by
    simp only [notifyThread] at h
    split at h
    · cases h
    · exact h)

theorem applyDeliver_own (s : State) (d : Option (Target × Val)) (c : Cid) : (applyDeliver s d).own c = s.own c := by
  cases d with
  | none => rfl
  | some x => rfl

/-- first half of the `.at p` arm of `exec`; `leave` is the second half (the `match r.out` of the model); glued by
    `exec_at_eq` -/
def afterBody (s : State) (t : Tid) (p : Point) : State :=
  applyDeliver ((s.setChan p.chan (body p t (s.chan p.chan)).ch).setOwner p.chan (some t))
    (body p t (s.chan p.chan)).deliver

theorem eff_afterBody (s : State) (t : Tid) (p : Point) : Eff s (afterBody s t p) t p.chan :=
  ((eff_setChan s t p.chan p.chan _).trans (eff_setOwner _ t p.chan (some t))).trans (eff_applyDeliver _ t p.chan _)

theorem afterBody_chans (s : State) (t : Tid) (p : Point) :
    (afterBody s t p).chans = s.chans.set p.chan (body p t (s.chan p.chan)).ch := by
  simp [afterBody]

theorem afterBody_own (s : State) (t : Tid) (p : Point) (hc : p.chan < s.owner.length) :
    (afterBody s t p).own p.chan = some t := by
  unfold afterBody
  rw [applyDeliver_own]
  exact own_setOwner_self _ _ _ (by simpa using hc)

theorem afterBody_thread (s : State) (t : Tid) (p : Point) (u : Tid) :
    (afterBody s t p).thread u = { s.thread u with rv := rvAfter (body p t (s.chan p.chan)).deliver u (s.thread u).rv } :=
  applyDeliver_thread _ _ u

def leave (s : State) (t : Tid) (c : Cid) : Out → State
  | .wait p' => (s.setOwner c none).setThread t { s.thread t with pc := .at p', waiting := true }
  | .notify k => doNotify s t c k
  | .unlock ret => (s.setOwner c none).setThread t (onRet (s.thread t) ret)
  | .panic =>
    (s.setOwner c none).setThread t { s.thread t with pc := .done, ops := [], sel := none, res := (s.thread t).res ++ [.panic] }

theorem exec_at_eq {s : State} {t : Tid} {p : Point} (hpc : (s.thread t).pc = .at p) :
    exec s t = leave (afterBody s t p) t p.chan (body p t (s.chan p.chan)).out := by
  unfold exec
  simp only [hpc]
  rfl

/-- the model does `notifyOps` only where the critical section asks for it, but an empty `notifyOps` is no step: what follows
    is `Out.after` in every case -/
theorem leave_cases (s : State) (t : Tid) (c : Cid) (out : Out) :
    (∃ k, out = .notify k ∧ (s.chan c).sops ≠ [] ∧
      leave s t c out = s.setThread t { s.thread t with pc := .notify c (s.chan c).sops k }) ∨
    leave s t c out = leaveDone s t c out.after := by
  cases out with
  | panic => exact Or.inr rfl
  | wait p => exact Or.inr rfl
  | unlock r => exact Or.inr rfl
  | notify k =>
    cases hs : (s.chan c).sops with
    | nil => exact Or.inr (by simp only [leave, doNotify, hs, doAfter_eq, Out.after])
    | cons x l => exact Or.inl ⟨k, rfl, List.cons_ne_nil _ _, by simp only [leave, doNotify, hs]⟩

theorem leave_plain {s : State} {t : Tid} {c : Cid} (out : Out) (hs : (s.chan c).sops = []) :
    leave s t c out = leaveDone s t c out.after :=
  (leave_cases s t c out).resolve_left fun ⟨_, _, hne, _⟩ => hne hs

structure NotifyStep (s s' : State) (t : Tid) (c : Cid) (k : Option After) : Prop where
  eff : Eff s s' t c
  chans : s'.chans = s.chans
  own : (s'.thread t).pc.inCS c = true → s'.own c = s.own c
  tail : Tail s' t c k

theorem notifyStep_done {s s1 : State} {t : Tid} {c : Cid} {k : Option After} (e1 : Eff s s1 t c) (hch : s1.chans = s.chans)
    (ht : t < s1.threads.length) : NotifyStep s (leaveDone s1 t c k) t c k :=
  have r := leaveDone_ran s1 t c k ht
  ⟨e1.trans r.eff, by rw [r.chans, hch], fun hc => absurd hc (r.notCS _), r.tail⟩

theorem notifyStep_stay {s s1 : State} {t : Tid} {c : Cid} {k : After} (e1 : Eff s s1 t c) (hch : s1.chans = s.chans)
    (ho : s1.own c = s.own c) (ht : t < s1.threads.length) (l : List Tid) :
    NotifyStep s (s1.setThread t { s1.thread t with pc := .notify c l k }) t c (some k) :=
  ⟨e1.trans (eff_setThread ..), hch, fun _ => ho, .stay (l := l) (by rw [thread_setThread_self _ _ _ ht])⟩

theorem exec_notify (s : State) (t : Tid) (c : Cid) (rest : List Tid) (k : After) (ht : t < s.threads.length)
    (hpc : (s.thread t).pc = .notify c rest k) : NotifyStep s (exec s t) t c (some k) := by
  unfold exec
  simp only [hpc, doAfter_eq]
  cases rest with
  | nil => exact notifyStep_done (Eff.refl ..) rfl ht
  | cons x xs =>
    have e1 := eff_notifyThread s x t c
    have hl1 : t < (s.setThread x (notifyThread (s.thread x))).threads.length := by rw [e1.tlen]; exact ht
    cases xs with
    | nil => exact notifyStep_done e1 rfl hl1
    | cons y ys => exact notifyStep_stay e1 rfl rfl hl1 _

structure AtStep (s s' : State) (t : Tid) (p : Point) : Prop where
  eff : Eff s s' t p.chan
  chans : s'.chans = s.chans.set p.chan (body p t (s.chan p.chan)).ch
  own : (s'.thread t).pc.inCS p.chan = true → p.chan < s.owner.length → s'.own p.chan = some t
  tail : Tail s' t p.chan (body p t (s.chan p.chan)).out.after

/-- the critical section, then what a step from inside `notifyOps` does -/
theorem exec_at (s : State) (t : Tid) (p : Point) (ht : t < s.threads.length) (hpc : (s.thread t).pc = .at p) :
    AtStep s (exec s t) t p := by
  rw [exec_at_eq hpc]
  have e2 := eff_afterBody s t p
  have hl2 : t < (afterBody s t p).threads.length := by rw [e2.tlen]; exact ht
  have hch2 := afterBody_chans s t p
  have hown := afterBody_own s t p
  generalize afterBody s t p = s2 at e2 hl2 hch2 hown
  have ns : NotifyStep s2 (leave s2 t p.chan (body p t (s.chan p.chan)).out) t p.chan (body p t (s.chan p.chan)).out.after := by
    rcases leave_cases s2 t p.chan (body p t (s.chan p.chan)).out with ⟨k, ho, _, e⟩ | e <;> rw [e]
    · rw [ho]; exact notifyStep_stay (Eff.refl ..) rfl rfl hl2 _
    · exact notifyStep_done (Eff.refl ..) rfl hl2
  exact ⟨e2.trans ns.eff, by rw [ns.chans, hch2], fun hc hlen => (ns.own hc).trans (hown hlen), ns.tail⟩

structure OtherStep (s s' : State) (t : Tid) : Prop where
  eff : ∀ c, Eff s s' t c
  owner : s'.owner = s.owner
  chans : s'.chans = s.chans
  outside : (s'.thread t).pc.outside = true

theorem exec_other (s : State) (t : Tid) (ht : t < s.threads.length)
    (h1 : ∀ p, (s.thread t).pc ≠ .at p) (h2 : ∀ c r k, (s.thread t).pc ≠ .notify c r k) : OtherStep s (exec s t) t := by
  have hset : ∀ th : Thread, th.pc.outside = true → OtherStep s (s.setThread t th) t := fun th ho =>
    ⟨fun c => eff_setThread s t c th, rfl, rfl, by rw [thread_setThread_self _ _ _ ht]; exact ho⟩
  have hsame : (s.thread t).pc.outside = true → OtherStep s s t := fun ho => ⟨fun c => Eff.refl s t c, rfl, rfl, ho⟩
  unfold exec
  dsimp only
  cases hpc : (s.thread t).pc with
  | «at» p => exact absurd hpc (h1 p)
  | notify c r k => exact absurd hpc (h2 c r k)
  | done => exact hsame (by rw [hpc]; rfl)
  | start => exact hset _ (startOps_outside _ _)
  | selLock =>
    dsimp only
    split
    · split
      · exact hset _ (pollFrom_outside _ _ _ _)
      · exact hsame (by rw [hpc]; rfl)
    · exact hset _ rfl
  | selWait =>
    dsimp only
    split
    · exact hset _ (pollFrom_outside _ _ _ _)
    · exact hsame (by rw [hpc]; rfl)

def MutexInv (s : State) : Prop :=
  ∀ t c, (s.thread t).pc.inCS c = true → c < s.owner.length → s.own c = some t

theorem runnable_lt {s : State} {t : Tid} (h : runnable s t = true) : t < s.threads.length := by
  simp only [runnable, Bool.and_eq_true, decide_eq_true_eq] at h
  exact h.1.1.1

theorem runnable_free {s : State} {t : Tid} {p : Point} (h : runnable s t = true) (hpc : (s.thread t).pc = .at p) :
    s.own p.chan = none := by
  simp only [runnable, Bool.and_eq_true, hpc, wantedChan] at h
  simpa using h.2

theorem runnable_pc {s : State} {t : Tid} (h : runnable s t = true) : (s.thread t).pc ≠ .done ∧ (s.thread t).waiting = false := by
  simp only [runnable, Bool.and_eq_true, bne_iff_ne, ne_eq, Bool.not_eq_true', decide_eq_true_eq] at h
  exact ⟨h.1.1.2, h.1.2⟩

theorem pc_cases (pc : PC) :
    (∃ p, pc = .at p) ∨ (∃ c r k, pc = .notify c r k) ∨ ((∀ p, pc ≠ .at p) ∧ ∀ c r k, pc ≠ .notify c r k) := by
  cases pc with
  | «at» p => exact Or.inl ⟨p, rfl⟩
  | notify c r k => exact Or.inr (Or.inl ⟨c, r, k, rfl⟩)
  | _ => exact Or.inr (Or.inr (And.intro (fun _ h => nomatch h) (fun _ _ _ h => nomatch h)))

theorem exec_cases {s : State} {t : Tid} (hr : runnable s t = true) :
    (∃ p, (s.thread t).pc = .at p ∧ AtStep s (exec s t) t p) ∨
    (∃ c r k, (s.thread t).pc = .notify c r k ∧ NotifyStep s (exec s t) t c (some k)) ∨
    ((∀ c r k, (s.thread t).pc ≠ .notify c r k) ∧ OtherStep s (exec s t) t) := by
  have ht := runnable_lt hr
  rcases pc_cases (s.thread t).pc with ⟨p, hpc⟩ | ⟨c, r, k, hpc⟩ | ⟨h1, h2⟩
  · exact Or.inl ⟨p, hpc, exec_at s t p ht hpc⟩
  · exact Or.inr (Or.inl ⟨c, r, k, hpc, exec_notify s t c r k ht hpc⟩)
  · exact Or.inr (Or.inr ⟨h2, exec_other s t ht h1 h2⟩)

theorem exec_eff {s : State} {t : Tid} (hr : runnable s t = true) : ∃ c, Eff s (exec s t) t c := by
  rcases exec_cases hr with ⟨_, _, st⟩ | ⟨_, _, _, _, st⟩ | ⟨_, st⟩
  · exact ⟨_, st.eff⟩
  · exact ⟨_, st.eff⟩
  · exact ⟨0, st.eff 0⟩  -- any `c`: the users read `olen`, `pcs`, `wts` only

/-- a step leaves alone every channel whose mutex another thread holds: a critical section starts with the mutex free, and
    `notifyOps` runs under the mutex of its own channel -/
theorem exec_locked {s : State} {t u : Tid} {c : Cid} (h : MutexInv s) (hr : runnable s t = true) (hc : c < s.owner.length)
    (ho : s.own c = some u) (hu : u ≠ t) : (exec s t).chan c = s.chan c ∧ (exec s t).own c = some u := by
  rcases exec_cases hr with ⟨p, hpc, st⟩ | ⟨c0, r, k, hpc, st⟩ | ⟨_, st⟩
  · have hne : c ≠ p.chan := by rintro rfl; rw [runnable_free hr hpc] at ho; cases ho
    exact ⟨chan_set_ne st.chans hne, by rw [st.eff.owns c hne]; exact ho⟩
  · have hne : c ≠ c0 := by
      rintro rfl
      rw [h t c (by rw [hpc]; simp [PC.inCS]) hc] at ho
      exact hu (Option.some.inj ho).symm
    exact ⟨chan_congr st.chans c, by rw [st.eff.owns c hne]; exact ho⟩
  · exact ⟨chan_congr st.chans c, by simp only [State.own, st.owner]; exact ho⟩

theorem exec_mutexInv {s : State} {t : Tid} (h : MutexInv s) (hr : runnable s t = true) : MutexInv (exec s t) := by
  obtain ⟨_, e⟩ := exec_eff hr
  intro t' c hcs hlen
  rw [e.olen] at hlen
  by_cases htt : t' = t
  · subst htt
    rcases exec_cases hr with ⟨p, _, st⟩ | ⟨c0, r, k, hpc, st⟩ | ⟨_, st⟩
    · obtain rfl := st.tail.cs c hcs
      exact st.own hcs hlen
    · obtain rfl := st.tail.cs c hcs
      rw [st.own hcs]; exact h t' c (by rw [hpc]; simp [PC.inCS]) hlen
    · rw [PC.outside_notCS st.outside] at hcs; cases hcs
  · rw [e.pcs t' htt] at hcs
    exact (exec_locked h hr hlen (h t' c hcs hlen) htt).2

theorem init_mutexInv (cfg : Cfg) (caps : List Nat) (progs : List (List Op)) : MutexInv (init cfg caps progs) := by
  intro t c hcs _
  rcases init_thread_pc cfg caps progs t with hpc | hpc <;> rw [hpc] at hcs <;> cases hcs

theorem wake_sameBut (s : State) (t t' : Tid) :
    SameBut ((s.setThread t { s.thread t with waiting := false }).thread t') (s.thread t') := by
  rcases thread_setThread_cases s t t' { s.thread t with waiting := false } with ⟨rfl, e⟩ | e <;> rw [e]
  · exact ⟨rfl, rfl, rfl, rfl, rfl⟩
  · exact .refl _

theorem wake_waiting {s : State} {t t' : Tid}
    (h : ((s.setThread t { s.thread t with waiting := false }).thread t').waiting = true) : (s.thread t').waiting = true := by
  rcases thread_setThread_cases s t t' { s.thread t with waiting := false } with ⟨_, e⟩ | e <;> rw [e] at h
  · cases h
  · exact h

theorem wake_mutexInv {s : State} (h : MutexInv s) (t : Tid) :
    MutexInv (s.setThread t { s.thread t with waiting := false }) := by
  intro t' c hcs hlen
  rw [(wake_sameBut s t t').pc] at hcs
  exact h t' c hcs hlen

theorem reachable_mutexInv {cfg : Cfg} {caps : List Nat} {progs : List (List Op)} {s : State}
    (h : Reachable (init cfg caps progs) s) : MutexInv s :=
  h.induct (init_mutexInv cfg caps progs) (fun _ _ _ ih hr => exec_mutexInv ih hr) (fun _ t ih => wake_mutexInv ih t)

/-- a step rewrites at most one channel record, and only through a critical-section body -/
theorem exec_chans {s : State} {t : Tid} (hr : runnable s t = true) :
    (exec s t).chans = s.chans ∨ ∃ p, (exec s t).chans = s.chans.set p.chan (body p t (s.chan p.chan)).ch := by
  rcases exec_cases hr with ⟨p, _, st⟩ | ⟨_, _, _, _, st⟩ | ⟨_, st⟩
  · exact Or.inr ⟨p, st.chans⟩
  · exact Or.inl st.chans
  · exact Or.inl st.chans

def GInv (s : State) : Prop := ∀ c, ChanInv (s.chan c)

theorem exec_ginv {s : State} {t : Tid} (h : GInv s) (hr : runnable s t = true) : GInv (exec s t) := by
  intro c
  rcases exec_chans hr with he | ⟨p, he⟩
  · rw [chan_congr he]; exact h c
  · exact chan_after_body he (fun hp => body_inv hp p t) (h c)

theorem init_ginv (cfg : Cfg) (caps : List Nat) (progs : List (List Op)) : GInv (init cfg caps progs) := by
  intro c
  obtain ⟨cfg', cap, e, _⟩ := init_chan cfg caps progs c
  rw [e]; exact newChan_inv cfg' cap

theorem reachable_ginv {cfg : Cfg} {caps : List Nat} {progs : List (List Op)} {s : State}
    (h : Reachable (init cfg caps progs) s) : GInv s :=
  h.induct (init_ginv cfg caps progs) (fun _ _ _ ih hr => exec_ginv ih hr) (fun _ _ ih => ih)

/-- Programs may name channels beyond `caps`; such an id reads as `dfltChan` (of the current variant, owner `none`) and writes
    to it are lost, hence the guard here and in `MutexInv`, `WaitInv`, `ArmInv`, `HistInv` (on `owner.length` in the first
    two: equal to `chans.length` in reachable states, but no invariant says so, so some theorems ask for both bounds) -/
def FixInv (b : Bool) (s : State) : Prop := ∀ c, c < s.chans.length → (s.chan c).fixed = b

theorem exec_fixInv {b : Bool} {s : State} {t : Tid} (h : FixInv b s) (hr : runnable s t = true) : FixInv b (exec s t) := by
  rcases exec_chans hr with he | ⟨p, he⟩
  · intro c hc
    rw [chan_congr he]; exact h c (by rw [he] at hc; exact hc)
  · intro c hc
    rw [chans_length_set he] at hc
    exact chan_after_body (P := fun ch => ch.fixed = b) he (by rw [body_fixed]; exact id) (h c hc)

theorem reachable_fixInv {cfg : Cfg} {caps : List Nat} {progs : List (List Op)} {s : State}
    (h : Reachable (init cfg caps progs) s) : FixInv cfg.recvseqFix s := by
  refine h.induct (P := FixInv cfg.recvseqFix) ?_ (fun _ _ _ ih hr => exec_fixInv ih hr) (fun _ _ ih => ih)
  intro c hc
  obtain ⟨cfg', cap, e, hcfg⟩ := init_chan cfg caps progs c
  rw [e, hcfg hc]; rfl

end LlgoVerif.Chan
