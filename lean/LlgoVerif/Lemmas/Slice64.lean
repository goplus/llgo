import LlgoVerif.Model.Slice64
import LlgoVerif.Lemmas.Slice
/-!
Lemmas for the machine-integer layer (`Model/Slice64.lean`): the int64 loop of `nextslicecap` terminates and returns a
representable capacity `≥ newLen`, and on sizes a process can hold the int64 functions coincide with the
mathematical-integer model of `Model/Slice.lean`.  `GrowLegit` and `GrowLenFull` are what the int64 theorems of
`Props/C05.lean` are stated with.
-/
namespace LlgoVerif.Slice

/-- a negative result is the "overflowed" signal -/
theorem capLoop64_spec (L c : Int) (hL : 0 < L ∧ L < 2 ^ 63) (hc : 0 ≤ c ∧ c < 2 ^ 63) :
    ∃ r, capLoop64 L c = some r ∧ InI64 r ∧ (r < 0 ∨ L ≤ r) := by
  fun_induction capLoop64 L c with
  | case1 c nc hx => exact ⟨_, rfl, wrap_inI64 _, (toU_wrap_ge_iff _ L hL).1 hx⟩
  | case2 c nc hx hg ih =>
    have := (wrap_inI64 (c + wrap (c + 768) / 4)).2
    rw [toU_wrap_ge_iff _ L hL] at hx
    exact ih ⟨by omega, this⟩
  | case3 c nc hx hg => omega

theorem nextslicecap64_big (L c : Int) (h : L > wrap (c + c)) : nextslicecap64 L c = some L := by
  unfold nextslicecap64; simp only; rw [if_pos h]

theorem nextslicecap64_small (L c : Int) (h1 : ¬ L > wrap (c + c)) (h2 : c < 256) :
    nextslicecap64 L c = some (wrap (c + c)) := by
  unfold nextslicecap64; simp only; rw [if_neg h1, if_pos h2]

theorem nextslicecap64_loop (L c r : Int) (h1 : ¬ L > wrap (c + c)) (h2 : ¬ c < 256) (hr : capLoop64 L c = some r) :
    nextslicecap64 L c = some (if r ≤ 0 then L else r) := by
  unfold nextslicecap64; simp only; rw [if_neg h1, if_neg h2, hr]
  simp only; split <;> rfl

theorem nextslicecap64_some (L c : Int) (hL : 0 < L ∧ L < 2 ^ 63) (hc : 0 ≤ c ∧ c < 2 ^ 63) :
    ∃ r, nextslicecap64 L c = some r ∧ L ≤ r ∧ r < 2 ^ 63 := by
  by_cases h1 : L > wrap (c + c)
  · exact ⟨L, nextslicecap64_big L c h1, Int.le_refl L, hL.2⟩
  · by_cases h2 : c < 256
    · refine ⟨_, nextslicecap64_small L c h1 h2, ?_⟩
      rw [wrap_id _ (by omega)] at h1 ⊢; omega
    · obtain ⟨r, hr, hin, hdis⟩ := capLoop64_spec L c hL hc
      refine ⟨_, nextslicecap64_loop L c r h1 h2 hr, ?_⟩
      have := hin.2
      split <;> omega

theorem capStep_small (L c : Int) (hL : 0 < L ∧ L ≤ 2 ^ 62) (hc : 0 ≤ c ∧ c < L) :
    wrap (c + wrap (c + 768) / 4) = c + (c + 768) / 4 ∧
    (toU (c + (c + 768) / 4) ≥ toU L ↔ ¬ c + (c + 768) / 4 < L) := by
  rw [wrap_id (c + 768) (by omega), wrap_id _ (by omega), toU_nonneg L (by omega), toU_nonneg _ (by omega)]
  exact ⟨rfl, Int.not_lt.symm⟩

/-- `2^62` is not tight, but under it `c + (c + 768) / 4 < 2^63` for every `c < newLen` needs no argument -/
theorem capLoop64_eq (L c : Int) (hL : 0 < L ∧ L ≤ 2 ^ 62) (hc : 0 ≤ c ∧ c < L) :
    capLoop64 L c = some (capLoop L c) := by
  fun_induction capLoop L c with
  | case1 c nc hx ih =>
    obtain ⟨h1, h2⟩ := capStep_small L c hL hc
    rw [capLoop64, h1, dif_neg (fun h => h2.1 h hx.2), dif_pos ⟨hL.1, by omega, hc.1, by omega⟩]
    exact ih ⟨by omega, hx.2⟩
  | case2 c nc hx =>
    obtain ⟨h1, h2⟩ := capStep_small L c hL hc
    rw [capLoop64, h1, dif_pos (h2.2 fun h => hx ⟨hc.1, h⟩)]

theorem nextslicecap64_eq_math (L c : Int) (hL : 0 < L ∧ L ≤ 2 ^ 62) (hc : 0 ≤ c ∧ c < L) :
    nextslicecap64 L c = some (nextslicecap L c) := by
  have hw := wrap_id (c + c) (by omega)
  by_cases h1 : L > c + c
  · rw [nextslicecap_big L c h1, nextslicecap64_big L c (by rwa [hw])]
  · by_cases h2 : c < 256
    · rw [nextslicecap_small L c h1 h2, nextslicecap64_small L c (by rwa [hw]) h2, hw]
    · rw [nextslicecap_loop L c h1 h2, nextslicecap64_loop L c _ (by rwa [hw]) h2 (capLoop64_eq L c hL hc)]

/-- what holds of a slice that exists in a process and of `num` appended values that exist; the byte sizes are bounded by
    what a 64-bit address space can hold (`2^60` is far above `maxAlloc = 2^48`; for zero-size elements they are 0, and
    `len`, `cap`, `num` are only bounded by int64) -/
def GrowLegit (s : Slice) (num esz : Int) : Prop :=
  0 ≤ s.len ∧ s.len ≤ s.cap ∧ s.cap < 2 ^ 63 ∧ 0 ≤ num ∧ num < 2 ^ 63 ∧ 0 ≤ esz ∧
  s.cap * esz ≤ 2 ^ 60 ∧ num * esz ≤ 2 ^ 60

instance (s : Slice) (num esz : Int) : Decidable (GrowLegit s num esz) := by unfold GrowLegit; infer_instance

/-- the statement Go makes about growing (for every slice and count as in `GrowLegit`, in allocated memory): the call
    panics and the true new length `len + num` is not representable, or it succeeds with exactly that length and enough
    capacity — a wrapped (negative) length is never returned -/
def GrowLenFull (lenCheck : Bool) : Prop :=
  ∀ (m : Mem) (s : Slice) (num esz : Int), GrowLegit s num esz → WF m s esz →
    (GrowSlice64 lenCheck m s num esz = .error .panic ∧ 2 ^ 63 ≤ s.len + num) ∨
    (∃ m' s', GrowSlice64 lenCheck m s num esz = .ok (m', s') ∧ s'.len = s.len + num ∧ s'.len ≤ s'.cap)

variable {s : Slice} {num esz : Int}

theorem GrowLegit.len_nonneg (h : GrowLegit s num esz) : 0 ≤ s.len := h.1
theorem GrowLegit.len_le_cap (h : GrowLegit s num esz) : s.len ≤ s.cap := h.2.1
theorem GrowLegit.cap_lt (h : GrowLegit s num esz) : s.cap < 2 ^ 63 := h.2.2.1
theorem GrowLegit.num_nonneg (h : GrowLegit s num esz) : 0 ≤ num := h.2.2.2.1
theorem GrowLegit.num_lt (h : GrowLegit s num esz) : num < 2 ^ 63 := h.2.2.2.2.1
theorem GrowLegit.esz_nonneg (h : GrowLegit s num esz) : 0 ≤ esz := h.2.2.2.2.2.1
theorem GrowLegit.capBytes (h : GrowLegit s num esz) : s.cap * esz ≤ 2 ^ 60 := h.2.2.2.2.2.2.1
theorem GrowLegit.numBytes (h : GrowLegit s num esz) : num * esz ≤ 2 ^ 60 := h.2.2.2.2.2.2.2

theorem GrowLegit.lenBytes (h : GrowLegit s num esz) : 0 ≤ s.len * esz ∧ s.len * esz ≤ 2 ^ 60 :=
  ⟨Int.mul_nonneg h.len_nonneg h.esz_nonneg,
   Int.le_trans (Int.mul_le_mul_of_nonneg_right h.len_le_cap h.esz_nonneg) h.capBytes⟩

theorem GrowLegit.newBytes (h : GrowLegit s num esz) : 0 ≤ num * esz ∧ (s.len + num) * esz ≤ 2 ^ 61 := by
  have := h.lenBytes
  have := h.numBytes
  rw [Int.add_mul]
  exact ⟨Int.mul_nonneg h.num_nonneg h.esz_nonneg, by omega⟩

theorem GrowLegit.newLen_le (h : GrowLegit s num esz) (he : 1 ≤ esz) : s.len + num ≤ 2 ^ 61 := by
  have a5 : 0 ≤ (s.len + num) * (esz - 1) := Int.mul_nonneg (Int.add_nonneg h.len_nonneg h.num_nonneg) (by omega)
  have := h.newBytes.2
  rw [Int.mul_sub, Int.mul_one] at a5
  omega

/-- While nothing wraps, the int64 routine computes what the mathematical one computes, with the capacity `r` that the int64
    policy chose. -/
theorem growSlice64_sim (lc : Bool) (m : Mem) (s : Slice) (num esz r : Int) (h : GrowLegit s num esz)
    (hsum : s.len + num < 2 ^ 63)
    (hr : s.cap < s.len + num → nextslicecap64 (s.len + num) s.cap = some r ∧ 0 ≤ r * esz ∧ r * esz < 2 ^ 63) :
    GrowSlice64 lc m s num esz = lift64 (GrowSlice (fun _ _ => r) m s num esz) := by
  have hL := h.lenBytes
  have := Int.add_nonneg h.len_nonneg h.num_nonneg
  unfold GrowSlice64 GrowSlice
  simp only
  rw [wrap_id (s.len + num) (by omega), if_neg (by omega)]
  split
  · obtain ⟨hr, hC⟩ := hr ‹_›
    rw [hr]
    simp only
    rw [wrap_id _ (by omega), uintptr_nonneg _ (by omega), wrap_id (s.len * esz) (by omega),
      uintptr_nonneg (s.len * esz) (by omega)]
    generalize (if s.len ≠ 0 then _ else _ : Except Err Mem) = X
    cases X <;> rfl
  · rfl

/-- No product wraps: for `esz ≥ 1` the new length is at most `2^61`, so `r` is `nextslicecap`'s answer, below `3·newLen`, and
    `r * esz ≤ 3·2^61 < 2^63`; for `esz = 0` every byte size is 0. -/
theorem growSlice64_pol (lc : Bool) (m : Mem) (s : Slice) (num esz : Int) (h : GrowLegit s num esz)
    (hsum : s.len + num < 2 ^ 63) :
    ∃ r, GrowSlice64 lc m s num esz = lift64 (GrowSlice (fun _ _ => r) m s num esz) ∧ s.len + num ≤ r ∧ r < 2 ^ 63 ∧
      (s.cap < s.len + num → s.len + num ≤ 2 ^ 62 → r = nextslicecap (s.len + num) s.cap) := by
  by_cases hg : s.cap < s.len + num
  · have hesz := h.esz_nonneg
    have hc : 0 ≤ s.cap ∧ s.cap < s.len + num := ⟨Int.le_trans h.len_nonneg h.len_le_cap, hg⟩
    obtain ⟨r, hr, hrL, hr63⟩ := nextslicecap64_some (s.len + num) s.cap ⟨by omega, hsum⟩ ⟨hc.1, h.cap_lt⟩
    have heq : s.len + num ≤ 2 ^ 62 → r = nextslicecap (s.len + num) s.cap := fun hL => by
      rw [nextslicecap64_eq_math _ _ ⟨by omega, hL⟩ hc] at hr
      exact (Option.some.inj hr).symm
    have hb : r * esz ≤ 3 * 2 ^ 61 := by
      by_cases hz : esz = 0
      · rw [hz, Int.mul_zero]; decide
      · have hle := Int.mul_le_mul_of_nonneg_right ((nextslicecap_bounds _ s.cap).2 hc) hesz
        have := h.newBytes.2
        rw [← heq (by have := h.newLen_le (by omega); omega), Int.mul_assoc] at hle
        omega
    exact ⟨r, growSlice64_sim lc m s num esz r h hsum fun _ => ⟨hr, Int.mul_nonneg (by omega) hesz, by omega⟩,
      hrL, hr63, fun _ => heq⟩
  · exact ⟨_, growSlice64_sim lc m s num esz _ h hsum fun hc => absurd hc hg, Int.le_refl _, hsum, fun hc => absurd hc hg⟩

theorem sliceAppend64_of_grow (lc : Bool) (pol : Int → Int → Int) (m : Mem) (s : Slice) (data : Nat) (num esz : Int)
    (h : GrowLegit s num esz) (hg : GrowSlice64 lc m s num esz = lift64 (GrowSlice pol m s num esz)) :
    SliceAppend64 lc m s data num esz = lift64 (SliceAppend Cfg.fixed pol m s data num esz) := by
  have hLb := h.lenBytes
  have hNb := h.newBytes.1
  have := h.numBytes
  unfold SliceAppend64 SliceAppend
  rw [hg, if_neg (by simp [Cfg.fixed])]
  simp only [Cfg.fixed]
  rw [wrap_id (s.len * esz) (by omega), wrap_id (num * esz) (by omega), uintptr_nonneg (num * esz) (by omega)]
  cases GrowSlice pol m s num esz with
  | error e => rfl
  | ok p => rfl

theorem append64_ok (lc : Bool) (m : Mem) (s : Slice) (data : Nat) (num esz : Int) (h : GrowLegit s num esz)
    (hsum : s.len + num < 2 ^ 63) (hwf : WF m s esz) (hsrc : data + (num * esz).toNat ≤ m.next) :
    ∃ r, SliceAppend64 lc m s data num esz = lift64 (SliceAppend Cfg.fixed (fun _ _ => r) m s data num esz) ∧
      AppendSpec Cfg.fixed (fun _ _ => r) m s data num esz := by
  obtain ⟨r, hg, hrL, _⟩ := growSlice64_pol lc m s num esz h hsum
  exact ⟨r, sliceAppend64_of_grow lc _ m s data num esz h hg,
    append_ok Cfg.fixed _ m s data num esz hrL h.esz_nonneg h.num_nonneg hwf hsrc (.inl rfl) (.inl rfl)⟩

end LlgoVerif.Slice
