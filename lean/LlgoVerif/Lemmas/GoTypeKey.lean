import LlgoVerif.Lemmas.GoType
/-!
What `TypeName` writes for a named type: the key (`renderKey`) and, between name and scope indices, the argument list (`argsPart`);
`argStr` keeps an argument free of newlines, `$`, commas and unbalanced brackets.
-/
namespace LlgoVerif.Types

def keyStem : Key → Str
  | (none, name, _) => name
  | (some p, name, _) => p ++ '.' :: name

/-- what `TypeName` writes after `_llgo_` for a named type: the type arguments stand between name and scope indices -/
def renderNamed (k : Key) (args : Str) : Str := keyStem k ++ args ++ scopeIdx k.2.2

def renderKey (k : Key) : Str := keyStem k ++ scopeIdx k.2.2

theorem key_name (pkg : Option Str) (name : Str) (sc : Scope) : (keyOf pkg name sc).2.1 = name := by
  cases pkg <;> rfl

theorem Coherent.named {E : List (Nat × Key)} (hE : Coherent E) {d d' : Nat} {pkg pkg' : Option Str} {name name' : Str} {sc sc' : Scope}
    {targs targs' : TList} (s : declKeys (.named d pkg name sc targs) ⊆ E) (s' : declKeys (.named d' pkg' name' sc' targs') ⊆ E) :
    d = d' ↔ keyOf pkg name sc = keyOf pkg' name' sc' :=
  hE (d, keyOf pkg name sc) (s (by simp [declKeys])) (d', keyOf pkg' name' sc') (s' (by simp [declKeys]))

theorem scopeIdx_cons (i : Nat) (r : List Nat) : scopeIdx (i :: r) = '.' :: dec i ++ scopeIdx r := by
  simp [scopeIdx]

theorem splitOn_name_scope : ∀ (idx : List Nat) (name : Str), '.' ∉ name →
    (name ++ scopeIdx idx).splitOn '.' = name :: idx.map dec
  | [], name, h => by simp [scopeIdx, List.splitOn_eq_singleton h]
  | i :: r, name, h => by
    rw [scopeIdx_cons, List.cons_append, List.splitOn_append_cons_self_of_not_mem h,
      splitOn_name_scope r (dec i) (dec_notin i (by decide))]
    rfl

def headDigit (s : Str) : Prop := ∃ c r, s = c :: r ∧ isDigit c = true

theorem headDigit_dec (i : Nat) : headDigit (dec i) := by
  cases h : dec i with
  | nil => exact absurd h (dec_ne_nil i)
  | cons c r => exact ⟨c, r, rfl, dec_isDigit i c (by simp [h])⟩

theorem not_headDigit_ident {s : Str} (h : identOk s = true) : ¬ headDigit s := by
  rintro ⟨c, r, rfl, hd⟩
  simp [identOk, hd] at h

theorem map_dec_inj {a b : List Nat} (h : a.map dec = b.map dec) : a = b :=
  (List.map_inj_right fun _ _ => dec_inj_iff.1).1 h

def KeyOk (k : Key) : Prop :=
  identOk k.2.1 = true ∧
  match k.1 with
  | none => k.2.2 = [] ∧ reserved.contains k.2.1 = false
  | some p => Clean p

theorem keyOk_of {pkg : Option Str} {name : Str} (sc : Scope) (hn : identOk name = true) (hp : namedPkgOk pkg name = true) :
    KeyOk (keyOf pkg name sc) := by
  cases pkg with
  | none => exact ⟨hn, rfl, show reserved.contains name = false by simpa [namedPkgOk] using hp⟩
  | some p => exact ⟨hn, pathOf_chars (pathOk_chars (namedPkgOk_some hp).1)⟩

theorem keyStem_clean {k : Key} (h : KeyOk k) : Clean (keyStem k) := by
  obtain ⟨p, n, i⟩ := k
  cases p with
  | none => exact identOk_clean h.1
  | some p => exact all_append h.2 (all_cons (by decide) (identOk_clean h.1))

theorem renderKey_clean {k : Key} (h : KeyOk k) : Clean (renderKey k) := all_append (keyStem_clean h) (scopeIdx_clean _)

def pathSegs : Option Str → List Str
  | none => []
  | some p => p.splitOn '.'

theorem pathSegs_inj : ∀ {p q : Option Str}, pathSegs p = pathSegs q → p = q
  | none, none, _ => rfl
  | none, some q, h => absurd h.symm (List.splitOn_ne_nil _ _)
  | some p, none, h => absurd h (List.splitOn_ne_nil _ _)
  | some p, some q, h => by
    rw [← List.intercalate_splitOn (xs := p) '.', show p.splitOn '.' = q.splitOn '.' from h, List.intercalate_splitOn]

theorem splitOn_renderKey {k : Key} (h : KeyOk k) : (renderKey k).splitOn '.' = pathSegs k.1 ++ k.2.1 :: k.2.2.map dec := by
  obtain ⟨p, n, i⟩ := k
  have hn := splitOn_name_scope i n (identOk_notin h.1 (by decide))
  cases p with
  | none => simpa [renderKey, keyStem, pathSegs] using hn
  | some p => rw [renderKey, keyStem, List.append_assoc, List.cons_append, List.splitOn_append_cons_self, hn]; rfl

/-- `path.Name.1.2`, and the path may contain dots: of the dot segments, read from the end, the digit-headed ones are the scope
    indices, the next is the name, the rest re-joins to the path (none without a package) -/
theorem renderKey_iff {k₁ k₂ : Key} (h1 : KeyOk k₁) (h2 : KeyOk k₂) : renderKey k₁ = renderKey k₂ ↔ k₁ = k₂ := by
  refine ⟨fun h => ?_, congrArg renderKey⟩
  have hr := congrArg List.reverse (congrArg (List.splitOn '.') h)
  rw [splitOn_renderKey h1, splitOn_renderKey h2] at hr
  simp only [List.reverse_append, List.reverse_cons, List.append_assoc, List.singleton_append] at hr
  have digits : ∀ (i : List Nat), ∀ d ∈ (i.map dec).reverse, headDigit d := by
    intro i d hd; simp at hd; obtain ⟨j, _, rfl⟩ := hd; exact headDigit_dec j
  obtain ⟨hD, hN, hA⟩ := split_at_first_not headDigit (digits _) (digits _) (not_headDigit_ident h1.1) (not_headDigit_ident h2.1) hr
  exact Prod.ext (pathSegs_inj (List.reverse_inj.1 hA)) (Prod.ext hN (map_dec_inj (List.reverse_inj.1 hD)))

theorem scopeStr_eq (pkg : Option Str) (name : Str) {sc : Scope} (h : scOk sc = true) :
    scopeStr pkg sc = scopeIdx (keyOf pkg name sc).2.2 := by
  cases pkg with
  | none => rfl
  | some p =>
    cases sc with
    | pos q => cases h
    | _ => rfl

theorem renderNamed_argInv {k : Key} {a : Str} (h : KeyOk k) (ha : ArgInv a) : ArgInv (llgoPrefix ++ renderNamed k a) :=
  argInv_append (argInv_clean (all_lit _ (by decide)))
    (argInv_append (argInv_append (argInv_clean (keyStem_clean h)) ha) (argInv_clean (scopeIdx_clean _)))

theorem renderNamed_iff {k₁ k₂ : Key} {a₁ a₂ : Str} (h1 : KeyOk k₁) (h2 : KeyOk k₂) (s1 : ArgsShape a₁) (s2 : ArgsShape a₂) :
    renderNamed k₁ a₁ = renderNamed k₂ a₂ ↔ k₁ = k₂ ∧ a₁ = a₂ := by
  refine ⟨fun h => ?_, fun ⟨ek, ea⟩ => by rw [ek, ea]⟩
  have nob : ∀ {s : Str}, Clean s → '[' ∉ s := fun c => not_mem_of_all c (by decide)
  obtain ⟨hk, ha⟩ := args_split (nob (keyStem_clean h1)) (nob (keyStem_clean h2)) (nob (scopeIdx_clean _)) (nob (scopeIdx_clean _)) s1 s2 h
  exact ⟨(renderKey_iff h1 h2).1 hk, ha⟩

theorem argStr_named (d : Nat) (pkg : Option Str) (name : Str) (sc : Scope) (targs : TList)
    (h : wfArg (.named d pkg name sc targs) = true) :
    argStr (.named d pkg name sc targs) = renderKey (keyOf pkg name sc) ∧ KeyOk (keyOf pkg name sc) ∧ targs = .nil ∧
      (∀ p, pkg = some p → pathOf p ≠ litUnsafeName) := by
  simp only [wfArg, Bool.and_eq_true] at h
  obtain ⟨⟨⟨ht, hn⟩, hs⟩, hp⟩ := h
  have htn := (TList.isNil_iff _).1 ht
  subst htn
  refine ⟨?_, keyOk_of sc hn hp, rfl, fun p e => by subst e; exact (namedPkgOk_some hp).2⟩
  simp only [argStr, TList.isNil, if_true, List.append_nil, scopeStr_eq pkg name hs]
  cases pkg <;> simp [keyOf, renderKey, keyStem]

theorem argStr_inv (t : GoType) (h : wfArg t = true) : ArgInv (argStr t) ∧ ',' ∉ argStr t := by
  fun_induction wfArg t with
  | case1 _ a ih => simpa [argStr] using ih h
  | case2 k =>
    rw [argStr]
    exact ⟨argInv_clean (basicString_clean k).1, not_mem_of_all (basicString_clean k).1 (by decide)⟩
  | case3 e ih =>
    obtain ⟨i, c⟩ := ih h
    simp only [argStr]
    refine ⟨?_, by simp [c]⟩
    have : ArgInv ['*'] := ⟨inv_lit _ (by decide), by decide⟩
    exact argInv_append this i
  | case4 e ih =>
    obtain ⟨i, c⟩ := ih h
    simp only [argStr]
    refine ⟨?_, by simp [c]⟩
    exact argInv_append (argInv_brackets (argInv_clean all_nil)) i
  | case5 d pkg name sc targs =>
    obtain ⟨e, hk, _, _⟩ := argStr_named d pkg name sc targs h
    have hc := renderKey_clean hk
    rw [e]
    exact ⟨argInv_clean hc, not_mem_of_all hc (by decide)⟩
  | case6 => cases h

theorem argStrs_inv : ∀ (l : TList), wfArgs l = true → ArgInv (argStrs l)
  | .nil, _ => by simp only [argStrs]; exact argInv_clean all_nil
  | .cons t r, h => by
    simp only [wfArgs, Bool.and_eq_true] at h
    have it := (argStr_inv t h.1).1
    have ir := argStrs_inv r h.2
    simp only [argStrs]
    split
    · exact it
    · have : ArgInv [','] := ⟨inv_lit _ (by decide), by decide⟩
      have := argInv_append it (argInv_append this ir)
      simpa using this

theorem argsPart_inv (targs : TList) (h : wfArgs targs = true) : ArgInv (argsPart targs) := by
  unfold argsPart
  split
  · exact argInv_clean all_nil
  · exact argInv_brackets (argStrs_inv targs h)

theorem argsPart_shape {targs : TList} (h : wfArgs targs = true) : ArgsShape (argsPart targs) := by
  unfold argsPart
  split
  · exact Or.inl rfl
  · exact Or.inr ⟨_, rfl, (argStrs_inv targs h).bal⟩

end LlgoVerif.Types
