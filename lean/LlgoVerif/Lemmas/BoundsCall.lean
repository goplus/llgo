import LlgoVerif.Model.BoundsCall
import LlgoVerif.Lemmas.Arith
import LlgoVerif.Lemmas.Slice
/-!
Lemmas for C03's bound operands: the value the compiler hands to a run-time check (`fit s a`, read as an `int`)
versus the value of the source operand at ITS type (`GoArith.val s a`): `Handed`; the run-time routines
(`NewSlice3`, `StringSlice`, `MakeSlice` from C05's model; `NewChan` from `Model/BoundsCall.lean`)
evaluated on handed values; the IR shapes with a branch, `s2a_core` and `nil_core` (called from `bndgen.py`'s output).
-/
namespace LlgoVerif.BoundsCall
open LlgoVerif LlgoVerif.LLVM LlgoVerif.Slice

/-- `h` (read as the `int` the runtime receives) stands for the source value `v`: it IS `v`, or `v` does not fit an `int`
    (only a `uint64`/`uint`/`uintptr` operand `≥ 2^63` can do that) and `h` is negative — out of range for every bound,
    since lengths and capacities are below `2^63`. -/
def Handed (h : BitVec 64) (v : Int) : Prop := h.toInt = v ∨ (h.toInt < 0 ∧ 2 ^ 63 ≤ v)

theorem fit_eq_conv (s : Bool) (a : BitVec w) : fit s a = GoArith.conv s 64 a := by
  cases s
  · exact (Arith.conv_unsigned a).symm
  · rfl

theorem val_fit (s : Bool) (a : BitVec w) (hw : w ≤ 64) : GoArith.val s (fit s a) = GoArith.val s a :=
  fit_eq_conv s a ▸ Arith.val_conv_of_le s a hw

theorem fit_unsigned_toNat (a : BitVec w) (hw : w ≤ 64) : (fit false a).toNat = a.toNat :=
  Int.ofNat_inj.1 (val_fit false a hw)

@[simp] theorem fit_64 (s : Bool) (a : BitVec 64) : fit s a = a := by
  rw [fit_eq_conv, GoArith.conv, Arith.ofInt_val]

theorem toInt_lt (x : BitVec 64) : x.toInt < 2 ^ 63 := @BitVec.toInt_lt 64 x

theorem handed_toNat (h : BitVec 64) : Handed h h.toNat := by
  unfold Handed
  rw [BitVec.toInt_eq_toNat_cond]
  split <;> omega

/-- `operand_handed` of Props/C03.lean with `Handed` folded -/
theorem handed_fit (s : Bool) (a : BitVec w) (hw : w ≤ 64) : Handed (fit s a) (GoArith.val s a) := by
  cases s
  · rw [Arith.val_false, ← fit_unsigned_toNat a hw]; exact handed_toNat _
  · exact Or.inl (val_fit true a hw)

theorem Handed.eq_of_lt {h : BitVec 64} {v : Int} (H : Handed h v) (hv : v < 2 ^ 63) : h.toInt = v :=
  H.elim id fun ⟨_, h2⟩ => absurd hv (Int.not_lt.2 h2)

theorem Handed.eq_of_nonneg {h : BitVec 64} {v : Int} (H : Handed h v) (h0 : 0 ≤ h.toInt) : h.toInt = v :=
  H.elim id fun ⟨h1, _⟩ => absurd h1 (Int.not_lt.2 h0)

theorem Handed.neg_of_bad {h : BitVec 64} {v : Int} (H : Handed h v) (hv : v < 0 ∨ 2 ^ 63 ≤ v) : h.toInt < 0 :=
  H.elim (fun e => hv.elim (fun h0 => e ▸ h0) fun h1 => absurd (e ▸ toInt_lt h) (Int.not_lt.2 h1)) (·.1)

/-- `base[i:j:k]` through the compiler's operands: the runtime sees `hi hj hk`, the program wrote `vi vj vk` -/
theorem newSlice3_handed (base : Nat) (esz : Int) (cap hi hj hk : BitVec 64) (vi vj vk : Int)
    (hI : Handed hi vi) (hJ : Handed hj vj) (hK : Handed hk vk) :
    NewSlice3 base esz cap.toInt hi.toInt hj.toInt hk.toInt =
      if 0 ≤ vi ∧ vi ≤ vj ∧ vj ≤ vk ∧ vk ≤ cap.toInt then
        .ok { data := if vk - vi > 0 then advance base (vi * esz) else base, len := vj - vi, cap := vk - vi }
      else .error .panic := by
  split
  · rename_i hr
    have hk := Int.lt_of_le_of_lt hr.2.2.2 (toInt_lt cap)
    have hj := Int.lt_of_le_of_lt hr.2.2.1 hk
    rw [hI.eq_of_lt (Int.lt_of_le_of_lt hr.2.1 hj), hJ.eq_of_lt hj, hK.eq_of_lt hk]
    exact slice3_ok base esz cap.toInt vi vj vk hr
  · rename_i hr
    refine slice3_panic _ _ _ _ _ _ fun hh => hr ?_
    have h0 := Int.le_trans hh.1 hh.2.1
    have h1 := Int.le_trans h0 hh.2.2.1
    rwa [hI.eq_of_nonneg hh.1, hJ.eq_of_nonneg h0, hK.eq_of_nonneg h1] at hh

theorem stringSlice_handed (base : List Nat) (len hi hj : BitVec 64) (vi vj : Int)
    (hlen : len.toInt = base.length) (hI : Handed hi vi) (hJ : Handed hj vj) :
    StringSlice base hi.toInt hj.toInt =
      if 0 ≤ vi ∧ vi ≤ vj ∧ vj ≤ base.length then .ok ((base.drop vi.toNat).take (vj - vi).toNat)
      else .error .panic := by
  rw [stringSlice_spec']
  by_cases hr : 0 ≤ vi ∧ vi ≤ vj ∧ vj ≤ (base.length : Int)
  · have hj := Int.lt_of_le_of_lt hr.2.2 (hlen ▸ toInt_lt len)
    rw [hI.eq_of_lt (Int.lt_of_le_of_lt hr.2.1 hj), hJ.eq_of_lt hj]
  · rw [if_neg hr]
    refine if_neg fun hh => hr ?_
    have h0 := Int.le_trans hh.1 hh.2.1
    rwa [hI.eq_of_nonneg hh.1, hJ.eq_of_nonneg h0] at hh

theorem uintptr_of_neg (x : Int) (h0 : x < 0) (h1 : -2 ^ 64 ≤ x) : uintptr x = (x + 2 ^ 64).toNat := by
  rw [uintptr, Int.emod_eq_add_self_emod, Int.emod_eq_of_lt (by omega) (by omega)]

theorem uintptr_neg (x : Int) (h0 : x < 0) (h1 : -2 ^ 63 ≤ x) : uintptr x = (x + 2 ^ 64).toNat :=
  uintptr_of_neg x h0 (Int.le_trans (by decide) h1)

/-- the byte-size test shared by `MakeSlice` and the fixed `NewChan` -/
def sizeBad (esz n : Int) : Prop :=
  (mulUintptr (uintptr esz) (uintptr n)).2 = true ∨ (mulUintptr (uintptr esz) (uintptr n)).1 > maxAlloc

instance (esz n : Int) : Decidable (sizeBad esz n) := by unfold sizeBad; infer_instance

theorem sizeBad_iff (esz n : Int) (hesz : 0 ≤ esz ∧ esz < 2 ^ 63) (hn : 0 ≤ n ∧ n < 2 ^ 63) :
    sizeBad esz n ↔ ¬ n * esz ≤ 2 ^ 48 :=
  (mulUintptr_size esz n hesz hn).1

/-- `make_slice_spec` of Props/C03.lean on `Handed` operands -/
theorem makeSlice_handed (m : Mem) (esz : Int) (hl hc : BitVec 64) (vl vc : Int)
    (hesz : 0 ≤ esz ∧ esz < 2 ^ 63) (hL : Handed hl vl) (hC : Handed hc vc) :
    MakeSlice m hl.toInt hc.toInt esz = .error .panic ↔ ¬ (0 ≤ vl ∧ vl ≤ vc ∧ vc < 2 ^ 63 ∧ vc * esz ≤ 2 ^ 48) := by
  have b1 := toInt_lt hc
  rw [makeSlice_panics_iff m hl.toInt hc.toInt esz hesz b1]
  refine not_congr ⟨fun hh => ?_, fun hh => ?_⟩
  · have e1 := hL.eq_of_nonneg hh.1
    have e2 := hC.eq_of_nonneg (by omega)
    rw [e1, e2] at hh; rw [e2] at b1
    exact ⟨hh.1, hh.2.1, b1, hh.2.2⟩
  · rw [hC.eq_of_lt hh.2.2.1, hL.eq_of_lt (by omega)]
    exact ⟨hh.1, hh.2.1, hh.2.2.2⟩

/-- the sizes Go accepts for `make(chan T, n)`; `2^48` is `maxAlloc` -/
def chanOK (esz n : Int) : Prop := 0 ≤ n ∧ n * esz ≤ 2 ^ 48

instance (esz n : Int) : Decidable (chanOK esz n) := by unfold chanOK; infer_instance

theorem newChan_eq (cfg : BCfg) (esz n : Int) :
    NewChan cfg esz n =
      if (cfg.chanSizeFix = true ∧ sizeBad esz n) ∨ n < 0 then .error .panic
      else .ok (if n > 0 then ⟨n, uintptr (n * esz)⟩ else ⟨0, 0⟩) := by
  unfold NewChan sizeBad
  cases cfg.chanSizeFix with
  | false => simp only [Bool.false_eq_true, if_false, false_and, false_or, apply_ite Except.ok]
  | true => simp only [if_true, true_and, or_assoc, apply_ite Except.ok]

theorem newChan_fix_panics_iff (cfg : BCfg) (hfix : cfg.chanSizeFix = true) (esz n : Int) (hesz : 0 ≤ esz ∧ esz < 2 ^ 63)
    (hn : n < 2 ^ 63) : NewChan cfg esz n = .error .panic ↔ ¬ chanOK esz n := by
  rw [newChan_eq, ite_error_iff (x := .ok _) nofun]
  simp only [hfix, true_and]
  by_cases hneg : n < 0
  · exact iff_of_true (Or.inr hneg) fun h => absurd h.1 (Int.not_le.2 hneg)
  · rw [sizeBad_iff esz n hesz ⟨Int.not_lt.1 hneg, hn⟩]; unfold chanOK; omega

theorem newChan_nofix_panics_iff (cfg : BCfg) (hfix : cfg.chanSizeFix = false) (esz n : Int) :
    NewChan cfg esz n = .error .panic ↔ n < 0 := by
  rw [newChan_eq, ite_error_iff (x := .ok _) nofun]
  simp [hfix]

theorem newChan_in_range (cfg : BCfg) (esz n : Int) (hesz : 0 ≤ esz ∧ esz < 2 ^ 63) (h : chanOK esz n) :
    NewChan cfg esz n = .ok ⟨n, (n * esz).toNat⟩ := by
  obtain ⟨h0, h1⟩ := h
  have hbuf : uintptr (n * esz) = (n * esz).toNat := uintptr_nonneg _ ⟨Int.mul_nonneg h0 hesz.1, by omega⟩
  have hgood : ¬ sizeBad esz n := by
    by_cases he : esz = 0   -- `chanOK 0 n` leaves `n` unbounded, and `sizeBad_iff` wants `n < 2^63`
    · subst he; simp [sizeBad, mulUintptr, show uintptr 0 = 0 from rfl]
    · -- `n ≤ n * esz ≤ 2^48`, so `n` is in the range where the size test is exact
      have : n * 1 ≤ n * esz := Int.mul_le_mul_of_nonneg_left (by omega) h0
      exact fun hb => (sizeBad_iff esz n hesz ⟨h0, by omega⟩).1 hb h1
  rw [newChan_eq, if_neg (fun hc => hc.elim (fun h => hgood h.2) (Int.not_lt.2 h0)), hbuf]
  split
  · rfl
  · have : n = 0 := by omega
    subst this; simp

theorem bassert_some (t : BTrap) (c : BitVec 1) : bassert t (some c) = if c = 1#1 then .error t else .ok () := rfl
theorem bassert_decide (t : BTrap) (p : Prop) [Decidable p] :
    bassert t (some (ofBool (decide p))) = if p then .error t else .ok () := by
  simp only [bassert_some, Arith.ofBool_eq_one, decide_eq_true_eq]

/-- `SliceToArrayPointer`: `icmp slt len, N` guarding `PanicSliceConvert` -/
theorem s2a_core (len c : BitVec 64) (n : Int) (hc : c.toInt = n) :
    (do let v3 := icmp .slt (some len) (some c)
        bassert .sliceConvert v3
        pure (RtCall.arrayPtr .srcData) : BM RtCall) =
      if len.toInt < n then .error .sliceConvert else .ok (.arrayPtr .srcData) := by
  simp only [Arith.icmp_slt, bassert_decide, hc]
  split <;> rfl

/-- `AssertNilDeref(p == nil)` in front of the rest `k` of the function -/
theorem nil_core (p z : BitVec 64) (k : BM RtCall) (hz : z = 0#64) :
    (do let v1 := icmp .eq (some p) (some z)
        bassert .nilDeref v1
        k : BM RtCall) =
      if p = 0#64 then .error .nilDeref else k := by
  simp only [hz, Arith.icmp_eq, bassert_decide]
  split <;> rfl

end LlgoVerif.BoundsCall
