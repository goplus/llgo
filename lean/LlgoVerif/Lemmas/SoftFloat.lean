import LlgoVerif.Model.SoftFloat
namespace LlgoVerif.SoftFloat

theorem cmpInt_self (v : Int) : cmpInt v v = .eq := by
  unfold cmpInt; rw [if_neg (Int.lt_irrefl v), if_pos rfl]

theorem cmpFV_self (a : FV) : cmpFV a a = (if a = .nan then .un else .eq) := by
  cases a <;> simp [cmpFV, cmpInt_self]

theorem decode_nan_iff (F : Fmt) (b : Nat) : decode F b = .nan ↔ isNaN F b = true := by
  rw [isNaN, Bool.and_eq_true, beq_iff_eq, bne_iff_ne]
  simp only [decode]
  constructor
  · intro h
    split at h
    · split at h
      · cases h
      · exact ⟨‹_›, ‹_›⟩
    · split at h <;> cases h
  · rintro ⟨hE, hM⟩
    rw [if_pos hE, if_neg hM]

theorem cmp_self (F : Fmt) (a : Nat) : cmp F a a = if isNaN F a then .un else .eq := by
  rw [cmp, cmpFV_self]
  simp only [decode_nan_iff]

end LlgoVerif.SoftFloat
