import LlgoVerif.Model.CAbiCall
/-!
# C09 — lemmas about the call-site model (`Model/CAbiCall.lean`): cells, the simulation (`run_sim`), the initial state (`init_sim`),
`Decidable (Safe …)`, the witnesses for `Props/C09.lean`
-/
namespace LlgoVerif.CAbiCall

theorem Cells.set_eq (m : Cells) (a v : Nat) : m.set a v a = v := by simp [Cells.set]

theorem Cells.set_ne (m : Cells) (a v x : Nat) (h : x ≠ a) : m.set a v x = m x := by simp [Cells.set, h]

theorem writeCells_apply (l : List Nat) : ∀ (m : Cells) (a x : Nat),
    writeCells m a l x = if a ≤ x ∧ x < a + l.length then l.getD (x - a) 0 else m x := by
  induction l with
  | nil => intro m a x; rw [if_neg (by simp only [List.length_nil]; omega)]; rfl
  | cons v r ih =>
    intro m a x
    rw [writeCells, ih, List.length_cons]
    by_cases hx : x = a
    · rw [if_neg (by omega), if_pos (by omega), hx, Cells.set_eq, Nat.sub_self]; rfl
    · rw [Cells.set_ne _ _ _ _ hx]
      by_cases hin : a + 1 ≤ x ∧ x < a + 1 + r.length
      · rw [if_pos hin, if_pos (by omega), show x - a = (x - (a + 1)) + 1 by omega]; rfl
      · rw [if_neg hin, if_neg (by omega)]

theorem writeCells_out (l : List Nat) (m : Cells) (a x : Nat) (h : x < a ∨ a + l.length ≤ x) : writeCells m a l x = m x := by
  rw [writeCells_apply, if_neg (by omega)]

theorem writeCells_in (l : List Nat) (m : Cells) (a i : Nat) (h : i < l.length) : writeCells m a l (a + i) = l.getD i 0 := by
  rw [writeCells_apply, if_pos (by omega), Nat.add_sub_cancel_left]

theorem readCells_eq_map (m : Cells) : ∀ (n a : Nat), readCells m a n = (List.range n).map fun i => m (a + i) := by
  intro n
  induction n with
  | zero => intro a; rfl
  | succ n ih =>
    intro a
    rw [readCells, ih, List.range_succ_eq_map, List.map_cons, List.map_map]
    exact congrArg _ (List.map_congr_left fun i _ => by simp only [Function.comp]; rw [Nat.add_assoc, Nat.add_comm 1])

theorem readCells_length (m : Cells) (n a : Nat) : (readCells m a n).length = n := by
  rw [readCells_eq_map, List.length_map, List.length_range]

theorem readCells_getD (m : Cells) (n a i : Nat) (h : i < n) : (readCells m a n).getD i 0 = m (a + i) := by
  rw [readCells_eq_map, List.getD_eq_getElem?_getD, List.getElem?_map, List.getElem?_range h]; rfl

theorem readCells_congr (m m' : Cells) (n a a' : Nat) (h : ∀ i, i < n → m (a + i) = m' (a' + i)) :
    readCells m a n = readCells m' a' n := by
  rw [readCells_eq_map, readCells_eq_map]
  exact List.map_congr_left fun i hi => h i (List.mem_range.mp hi)

theorem readCells_writeCells (l : List Nat) : ∀ (m : Cells) (a : Nat), readCells (writeCells m a l) a l.length = l := by
  induction l with
  | nil => intro m a; rfl
  | cons v r ih =>
    intro m a
    simp only [List.length_cons, readCells, writeCells]
    rw [writeCells_out r (m.set a v) (a + 1) a (by omega), Cells.set_eq, ih]

theorem readCells_copy (m : Cells) (b p n : Nat) : readCells (writeCells m b (readCells m p n)) b n = readCells m p n := by
  have := readCells_writeCells (readCells m p n) m b
  rwa [readCells_length] at this

theorem writeCells_congr (l : List Nat) (m m' : Cells) (a x : Nat) (h : ¬ (a ≤ x ∧ x < a + l.length) → m x = m' x) :
    writeCells m a l x = writeCells m' a l x := by
  rw [writeCells_apply, writeCells_apply]
  split
  · rfl
  · next hx => exact h hx

theorem writeCells_readCells_self (m : Cells) (a n x : Nat) : writeCells m a (readCells m a n) x = m x := by
  rw [writeCells_apply, readCells_length]
  split
  · next hx => rw [readCells_getD _ _ _ _ (by omega), show a + (x - a) = x by omega]
  · rfl

theorem privCells_eq_readCells (p : Priv) (k : Nat) : ∀ (n off : Nat), privCells p k off n = readCells (p k) off n := by
  intro n
  induction n with
  | zero => intro off; rfl
  | succ n ih => intro off; simp only [privCells, readCells, ih]

/-- nothing is said of `a.mem` inside the placed ranges: `Safe` keeps main-memory accesses out of them -/
structure Sim (P : Placing) (a : StA) (c : StC) : Prop where
  regs : a.regs = c.regs
  out : ∀ x, ¬ InRanges P x → a.mem x = c.mem x
  inn : ∀ k, k < P.n → ∀ off, off < P.size k → a.priv k off = c.mem (P.base k + off)

theorem inRanges_of (P : Placing) (k off : Nat) (hk : k < P.n) (ho : off < P.size k) : InRanges P (P.base k + off) :=
  ⟨k, hk, by omega, by omega⟩

theorem cell_inj (P : Placing) (hd : Disjoint P) (k k' off off' : Nat) (hk : k < P.n) (hk' : k' < P.n)
    (ho : off < P.size k) (ho' : off' < P.size k') (h : P.base k' + off' = P.base k + off) : k' = k ∧ off' = off := by
  by_cases hkk : k' = k
  · subst hkk; exact ⟨rfl, by omega⟩
  · rcases hd k' hk' k hk hkk with h1 | h1 <;> omega

theorem Sim.store_main {P : Placing} {a : StA} {c : StC} (hs : Sim P a c) {x : Nat} (v : Nat) (h : ¬ InRanges P x) :
    Sim P { a with mem := a.mem.set x v } { c with mem := c.mem.set x v } := by
  refine ⟨hs.regs, fun y hy => ?_, fun k hk off hoff => ?_⟩
  · simp only [Cells.set]
    split
    · rfl
    · exact hs.out y hy
  · show a.priv k off = (c.mem.set x v) (P.base k + off)
    rw [Cells.set_ne _ _ _ _ (by intro e; exact h (e ▸ inRanges_of P k off hk hoff))]
    exact hs.inn k hk off hoff

theorem Sim.read {P : Placing} {a : StA} {c : StC} (hs : Sim P a c) {l : Ref} (h : RefSafe P l a.regs) :
    readA a l = c.mem (l.addrC P a.regs) := by
  cases l with
  | priv k off => exact hs.inn k h.1 off h.2
  | abs x => exact hs.out x h
  | ind r off => exact hs.out _ h

/-- a write the abstract run may make keeps the relation: the cell of a private object is no main-memory cell the abstract
    machine looks at, and no cell of another object (`cell_inj`) -/
theorem Sim.write {P : Placing} (hd : Disjoint P) {a : StA} {c : StC} (hs : Sim P a c) {l : Ref} (v : Nat)
    (h : RefSafe P l a.regs) : Sim P (writeA a l v) { c with mem := c.mem.set (l.addrC P a.regs) v } := by
  cases l with
  | abs x => exact hs.store_main v h
  | ind r off => exact hs.store_main v h
  | priv k off =>
    obtain ⟨hk, hoff⟩ := h
    refine ⟨hs.regs, fun x hx => ?_, fun k' hk' off' ho' => ?_⟩
    · exact (hs.out x hx).trans (Cells.set_ne _ _ _ _ fun e : x = P.base k + off => hx (e ▸ inRanges_of P k off hk hoff)).symm
    · show Priv.set a.priv k off v k' off' = c.mem.set (P.base k + off) v (P.base k' + off')
      by_cases e : k' = k ∧ off' = off
      · rw [Priv.set, if_pos e, e.1, e.2, Cells.set_eq]
      · rw [Priv.set, if_neg e, Cells.set_ne _ _ _ _ fun he => e (cell_inj P hd k k' off off' hk hk' hoff ho' he)]
        exact hs.inn k' hk' off' ho'

theorem step_sim (P : Placing) (hd : Disjoint P) (o : Op) (a : StA) (c : StC) (hs : Sim P a c) (ho : OpSafe P o a) :
    Sim P (stepA o a) (stepC P o c) := by
  obtain ⟨regs, mem⟩ := c
  obtain rfl : a.regs = regs := hs.regs
  cases o with
  | const r v => exact ⟨rfl, hs.out, hs.inn⟩
  | add r x y => exact ⟨rfl, hs.out, hs.inn⟩
  | load r l => exact ⟨congrArg (a.regs.set r) (hs.read ho), hs.out, hs.inn⟩
  | store l r => exact hs.write hd _ ho

theorem Sim.readCells {P : Placing} {a : StA} {c : StC} (h : Sim P a c) (k : Nat) (hk : k < P.n) :
    readCells c.mem (P.base k) (P.size k) = privCells a.priv k 0 (P.size k) := by
  rw [privCells_eq_readCells]
  exact readCells_congr _ _ _ _ _ fun i hi => by rw [Nat.zero_add]; exact (h.inn k hk i hi).symm

theorem run_sim (P : Placing) (hd : Disjoint P) (f : Prog) :
    ∀ (a : StA) (c : StC), Sim P a c → Safe P f a → Sim P (runA f a) (runC P f c) := by
  induction f with
  | done => intro a c hs _; exact hs
  | seq o k ih =>
    intro a c hs hsafe
    exact ih _ _ (step_sim P hd o a c hs hsafe.1) hsafe.2
  | ifz r t e iht ihe =>
    intro a c hs hsafe
    simp only [runA, runC, Safe] at hsafe ⊢
    rw [← hs.regs]
    by_cases h : a.regs r = 0
    · simp only [if_pos h] at hsafe ⊢; exact iht _ _ hs hsafe
    · simp only [if_neg h] at hsafe ⊢; exact ihe _ _ hs hsafe

theorem storeByvals_out (frame : Frame) (l : List (List Nat × Nat)) :
    ∀ (k0 : Nat) (m : Cells) (x : Nat),
      (∀ j, j < l.length → x < frame (k0 + j) ∨ frame (k0 + j) + (l.getD j ([], 0)).1.length ≤ x) →
      storeByvals frame l k0 m x = m x := by
  induction l with
  | nil => intro k0 m x _; rfl
  | cons hd r ih =>
    intro k0 m x h
    obtain ⟨vals, s⟩ := hd
    simp only [storeByvals]
    rw [ih (k0 + 1) _ x (fun j hj => by
      have := h (j + 1) (by simp only [List.length_cons]; omega)
      simp only [List.getD_cons_succ] at this
      rw [show k0 + 1 + j = k0 + (j + 1) by omega]
      exact this)]
    have := h 0 (by simp)
    simp only [List.getD_cons_zero, Nat.add_zero] at this
    exact writeCells_out vals m (frame k0) x this

/-- a cell of the `j`-th copy that no later copy covers holds the value of the `j`-th argument when the call starts -/
theorem storeByvals_in (frame : Frame) (l : List (List Nat × Nat)) :
    ∀ (k0 : Nat) (m : Cells) (j : Nat), j < l.length → ∀ off, off < (l.getD j ([], 0)).1.length →
      (∀ i, j < i → i < l.length → frame (k0 + j) + off < frame (k0 + i) ∨
        frame (k0 + i) + (l.getD i ([], 0)).1.length ≤ frame (k0 + j) + off) →
      storeByvals frame l k0 m (frame (k0 + j) + off) = (l.getD j ([], 0)).1.getD off 0 := by
  induction l with
  | nil => intro k0 m j hj; cases hj
  | cons hd r ih =>
    intro k0 m j hj off hoff later
    obtain ⟨vals, s⟩ := hd
    have tail : ∀ i, j < i + 1 → i < r.length → frame (k0 + j) + off < frame (k0 + 1 + i) ∨
        frame (k0 + 1 + i) + (r.getD i ([], 0)).1.length ≤ frame (k0 + j) + off := fun i hji hi => by
      rw [Nat.add_right_comm k0 1 i]
      exact later (i + 1) hji (Nat.succ_lt_succ hi)
    simp only [storeByvals]
    cases j with
    | zero =>
      rw [storeByvals_out frame r (k0 + 1) _ _ fun i hi => tail i (Nat.succ_pos i) hi]
      exact writeCells_in vals m (frame k0) off hoff
    | succ j =>
      rw [show k0 + (j + 1) = k0 + 1 + j from (Nat.add_right_comm k0 1 j).symm] at tail ⊢
      exact ih (k0 + 1) _ j (Nat.lt_of_succ_lt_succ hj) off hoff fun i hji hi => tail i (Nat.succ_lt_succ hji) hi

theorem bvContents_temp (m : Cells) (bv : List (List Nat × Nat)) : bvContents .temp m bv = bv :=
  List.map_id'' (fun _ => rfl) bv

/-- when nothing was stored to the sources between the loads and the call, copying the sources is copying the values -/
theorem bvContents_source (m : Cells) (bv : List (List Nat × Nat)) (h : ∀ vs ∈ bv, readCells m vs.2 vs.1.length = vs.1) :
    bvContents .source m bv = bv := by
  unfold bvContents
  induction bv with
  | nil => rfl
  | cons a r ih =>
    simp only [List.map_cons]
    rw [ih (fun vs hvs => h vs (List.mem_cons_of_mem _ hvs)), h a List.mem_cons_self]

theorem placement_base_succ (slot : Slot) (frame : Frame) (c : CallSite) (j : Nat) :
    (placement slot frame c).base (1 + j) = frame (1 + j) := if_neg (by omega)

theorem placement_size_succ (slot : Slot) (frame : Frame) (c : CallSite) (j : Nat) :
    (placement slot frame c).size (1 + j) = ((byvals c.args).getD j ([], 0)).1.length := by
  simp only [placement, bvVals, if_neg (show 1 + j ≠ 0 by omega), Nat.add_sub_cancel_left]

/-- the indeterminate initial contents (`junk`) of the result object are taken to be what the chosen memory holds there -/
theorem init_sim (slot : Slot) (frame : Frame) (c : CallSite) (m : Cells)
    (hd : Disjoint (placement slot frame c)) :
    Sim (placement slot frame c)
      (initA (fun off => m ((placement slot frame c).base 0 + off)) c m) (initC .temp frame c m) := by
  have hn : (placement slot frame c).n = 1 + (byvals c.args).length := rfl
  have hbv : ∀ x, (∀ j, j < (byvals c.args).length → ¬ ((placement slot frame c).base (1 + j) ≤ x ∧
        x < (placement slot frame c).base (1 + j) + (placement slot frame c).size (1 + j))) →
      storeByvals frame (byvals c.args) 1 m x = m x := fun x h =>
    storeByvals_out frame _ 1 m x fun j hj => by
      have := h j hj
      rw [placement_base_succ, placement_size_succ] at this
      omega
  refine ⟨rfl, fun x hx => ?_, fun k hk off hoff => ?_⟩
  · simp only [initA, initC, bvContents_temp]
    exact (hbv x fun j hj h => hx ⟨1 + j, by omega, h⟩).symm
  · simp only [initA, initC, privInit, bvContents_temp]
    rcases Nat.eq_zero_or_pos k with rfl | hk0
    · rw [if_pos rfl]
      exact (hbv _ fun j hj h => by
        rcases hd 0 hk (1 + j) (by omega) (by omega) with h' | h' <;> omega).symm
    · obtain ⟨j, rfl⟩ : ∃ j, k = 1 + j := ⟨k - 1, by omega⟩
      rw [if_neg (by omega), placement_base_succ, bvVals, Nat.add_sub_cancel_left]
      rw [placement_size_succ] at hoff
      refine (storeByvals_in frame (byvals c.args) 1 m j (by omega) off hoff fun i hji hi => ?_).symm
      have := hd (1 + j) hk (1 + i) (by omega) (by omega)
      simp only [placement_base_succ, placement_size_succ] at this
      omega

theorem safeB_iff (P : Placing) (f : Prog) : ∀ s, safeB P f s = true ↔ Safe P f s := by
  induction f with
  | done => intro s; simp [safeB, Safe]
  | seq o k ih => intro s; simp [safeB, Safe, ih]
  | ifz r t e iht ihe =>
    intro s
    simp only [safeB, Safe]
    split
    · exact iht s
    · exact ihe s

instance (P : Placing) (f : Prog) (s : StA) : Decidable (Safe P f s) :=
  decidable_of_iff _ (safeB_iff P f s)

/-- `v = rotate(&v)` with `rotate` writing its result piecemeal while it reads `*p`: (1,2,3) must become (2,3,1) -/
def rotate : Prog :=
  .seq (.load 1 (.ind 0 1)) <| .seq (.store (.priv 0 0) 1) <|
  .seq (.load 1 (.ind 0 2)) <| .seq (.store (.priv 0 1) 1) <|
  .seq (.load 1 (.ind 0 0)) <| .seq (.store (.priv 0 2) 1) .done

def mem123 : Cells := fun a => if a = 100 then 1 else if a = 101 then 2 else if a = 102 then 3 else 0

def frame1000 : Frame := fun k => 1000 + 100 * k

/-- a callee that publishes the first cell of its by-value parameter in the global 300 -/
def leakParam : Prog := .seq (.load 1 (.priv 1 0)) <| .seq (.store (.abs 300) 1) .done

/-- the memory of `mem123` after `p.X = 7` -/
def mem723 : Cells := fun a => if a = 100 then 7 else if a = 101 then 2 else if a = 102 then 3 else 0

end LlgoVerif.CAbiCall
