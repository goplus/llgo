import LlgoVerif.Lemmas.ChanBody
/-! C10, the channel record: the ring of a buffered channel holds, in order, what was sent and not yet received, and an
    unbuffered hand-off reaches exactly one armed receiver (`ChanInv`, kept by every critical section: `body_inv`); the states
    an interleaving can reach (`Reachable`, `Reachable.induct`) and the initial one. -/
namespace LlgoVerif.Chan

theorem ringFrom_eq_map (data : List Val) (cap : Nat) :
    ∀ (n g : Nat), ringFrom data cap g n = (List.range n).map fun i => data.getD ((g + i) % cap) 0 := by
  intro n
  induction n with
  | zero => intro g; rfl
  | succ n ih =>
    intro g
    rw [ringFrom, ih (g + 1), List.range_succ_eq_map, List.map_cons, List.map_map]
    congr 1
    exact List.map_congr_left fun i _ => by simp only [Function.comp]; rw [Nat.add_assoc, Nat.add_comm 1 i]

theorem ringFrom_length (data : List Val) (cap n g : Nat) : (ringFrom data cap g n).length = n := by
  rw [ringFrom_eq_map, List.length_map, List.length_range]

theorem ringFrom_congr (data : List Val) (cap n g1 g2 : Nat) (h : g1 % cap = g2 % cap) :
    ringFrom data cap g1 n = ringFrom data cap g2 n := by
  rw [ringFrom_eq_map, ringFrom_eq_map]
  exact List.map_congr_left fun i _ => by rw [Nat.add_mod, h, ← Nat.add_mod]

theorem ringFrom_snoc (data : List Val) (cap n g : Nat) :
    ringFrom data cap g (n + 1) = ringFrom data cap g n ++ [data.getD ((g + n) % cap) 0] := by
  rw [ringFrom_eq_map, ringFrom_eq_map, List.range_succ, List.map_append]; rfl

theorem ringFrom_set_irrelevant (data : List Val) (cap k : Nat) (v : Val) (n g : Nat) (h : ∀ i, i < n → (g + i) % cap ≠ k) :
    ringFrom (data.set k v) cap g n = ringFrom data cap g n := by
  rw [ringFrom_eq_map, ringFrom_eq_map]
  exact List.map_congr_left fun i hi => by simp [List.getD, (h i (List.mem_range.mp hi)).symm]

/-- two ring positions less than `cap` apart are different cells -/
theorem ring_cells_distinct {cap g i n : Nat} (hi : i < n) (hn : n < cap) : (g + i) % cap ≠ (g + n) % cap := by
  intro h
  have h1 := Nat.sub_mod_eq_zero_of_mod_eq h.symm
  have h2 : g + n - (g + i) = n - i := by omega
  rw [h2, Nat.mod_eq_of_lt (by omega)] at h1
  omega

theorem ringFrom_push (data : List Val) (cap g n : Nat) (v : Val) (hlen : data.length = cap) (hn : n < cap) :
    ringFrom (data.set ((g + n) % cap) v) cap g (n + 1) = ringFrom data cap g n ++ [v] := by
  rw [ringFrom_snoc, ringFrom_set_irrelevant data cap _ v n g (fun i hi => ring_cells_distinct hi hn)]
  congr 2
  have : (g + n) % cap < data.length := by rw [hlen]; exact Nat.mod_lt _ (by omega)
  simp [List.getD, this]

theorem ringFrom_pop (data : List Val) (cap g n : Nat) (hg : g < cap) :
    ringFrom data cap g (n + 1) = data.getD g 0 :: ringFrom data cap ((g + 1) % cap) n := by
  rw [ringFrom, Nat.mod_eq_of_lt hg]
  congr 1
  exact ringFrom_congr data cap n _ _ (by simp)

/-- `getp` is the read index of the ring of a buffered channel and the flag `chanHasRecv` / `chanNoSendRecv` of an
    unbuffered one (hence `getp_lt` only for `0 < cap`).  `unb_armed` is what lets a hand-off append to `recvd`: without a
    slot `Chan.handOff` appends to `sent` only and `unb_hist` would break. -/
structure ChanInv (ch : Chan) : Prop where
  dlen : ch.data.length = ch.cap
  lenle : ch.len ≤ ch.cap
  getp_lt : 0 < ch.cap → ch.getp < ch.cap
  fifo : 0 < ch.cap → ch.sent = ch.recvd ++ ch.contents
  unb_len : ch.cap = 0 → ch.len = 0
  unb_hist : ch.cap = 0 → ch.sent = ch.recvd
  unb_armed : ch.cap = 0 → ch.getp = hasRecv → ch.slot.isSome
  sent_by : ch.sentBy.map (·.2) = ch.sent
  recv_by : ch.recvBy.map (·.2) = ch.recvd

theorem ChanInv.sent_eq {ch : Chan} (h : ChanInv ch) : ch.sent = ch.recvd ++ ch.contents := by
  by_cases hcap : ch.cap = 0
  · rw [h.unb_hist hcap, Chan.contents, h.unb_len hcap, ringFrom, List.append_nil]
  · exact h.fifo (Nat.pos_of_ne_zero hcap)

theorem newChan_inv (cfg : Cfg) (cap : Nat) : ChanInv (newChan cfg cap) := by
  constructor <;> simp [newChan, Chan.contents, ringFrom, hasRecv]

theorem push_inv {ch : Chan} (h : ChanInv ch) (hcap : ch.cap ≠ 0) (hlt : ch.len ≠ ch.cap) (t : Tid) (v : Val) :
    ChanInv (ch.push t v) :=
  have hlen := h.lenle
  { dlen := by simp [Chan.push, h.dlen]
    lenle := by simp only [Chan.push]; omega
    getp_lt := fun _ => h.getp_lt (by omega)
    fifo := fun hc => by
      simp only [Chan.push, Chan.contents]
      rw [ringFrom_push _ _ _ _ _ h.dlen (by omega), h.fifo hc]
      simp [Chan.contents]
    unb_len := fun hc => absurd hc hcap
    unb_hist := fun hc => absurd hc hcap
    unb_armed := fun hc => absurd hc hcap
    sent_by := by simp [Chan.push, h.sent_by]
    recv_by := by simp [Chan.push, h.recv_by] }

theorem pop_inv {ch : Chan} (h : ChanInv ch) (hcap : ch.cap ≠ 0) (hne : ch.len ≠ 0) (r : Tid) : ChanInv (ch.pop r) :=
  have hlen := h.lenle
  have hg := h.getp_lt (by omega)
  { dlen := by simp [Chan.pop, h.dlen]
    lenle := by simp only [Chan.pop]; omega
    getp_lt := fun hc => by simp only [Chan.pop]; exact Nat.mod_lt _ hc
    fifo := fun hc => by
      simp only [Chan.pop, Chan.contents, Chan.front]
      have hfifo := h.fifo hc
      simp only [Chan.contents] at hfifo
      obtain ⟨m, hm⟩ : ∃ m, ch.len = m + 1 := ⟨ch.len - 1, by omega⟩
      rw [hm, ringFrom_pop _ _ _ _ hg] at hfifo
      rw [hm, hfifo]
      simp
    unb_len := fun hc => absurd hc hcap
    unb_hist := fun hc => absurd hc hcap
    unb_armed := fun hc => absurd hc hcap
    sent_by := by simp [Chan.pop, h.sent_by]
    recv_by := by simp [Chan.pop, h.recv_by, Chan.front] }

theorem handOff_inv {ch : Chan} (h : ChanInv ch) (hcap : ch.cap = 0) (hg : ch.getp = hasRecv) (t : Tid) (v : Val) :
    ChanInv (ch.handOff t v).1 := by
  obtain ⟨tg, htg⟩ := Option.isSome_iff_exists.mp (h.unb_armed hcap hg)
  simp only [Chan.handOff, htg]
  exact
    { dlen := h.dlen
      lenle := h.lenle
      getp_lt := fun hc => by simp [hcap] at hc
      fifo := fun hc => by simp [hcap] at hc
      unb_len := h.unb_len
      unb_hist := fun _ => by simp [h.unb_hist hcap]
      unb_armed := fun _ hgp => by simp [noSendRecv, hasRecv] at hgp
      sent_by := by simp [h.sent_by]
      recv_by := by simp [h.recv_by] }

theorem ChanInv.book {ch : Chan} (h : ChanInv ch) (n m : Nat) (l : List Tid) (b : Bool) :
    ChanInv { ch with sends := n, selsends := m, sops := l, closed := b } :=
  ⟨h.dlen, h.lenle, h.getp_lt, h.fifo, h.unb_len, h.unb_hist, h.unb_armed, h.sent_by, h.recv_by⟩

theorem arm_inv {ch : Chan} (h : ChanInv ch) (hcap : ch.cap = 0) (tg : Target) :
    ChanInv { ch with getp := hasRecv, slot := some tg } :=
  { dlen := h.dlen
    lenle := h.lenle
    getp_lt := fun hc => by simp [hcap] at hc
    fifo := fun hc => by simp [hcap] at hc
    unb_len := h.unb_len
    unb_hist := h.unb_hist
    unb_armed := fun _ _ => rfl
    sent_by := h.sent_by
    recv_by := h.recv_by }

theorem body_inv {ch : Chan} (h : ChanInv ch) (p : Point) (t : Tid) : ChanInv (body p t ch).ch := by
  have hs := body_crit p t ch
  generalize body p t ch = r at hs
  cases hs with
  | @sendHandOff _ _ v n _ _ hcap hg =>
    exact handOff_inv (h.book n _ _ _) hcap hg t v
  | @sendPush _ _ v n _ _ hcap hl =>
    exact push_inv (h.book n _ _ _) hcap hl t v
  | trySendHandOff hcap hg => exact handOff_inv h hcap hg t _
  | trySendPush hcap hl => exact push_inv h hcap hl t _
  | recvArm _ hcap | tryRecvArm hcap => exact arm_inv h hcap _
  | recvPop _ hcap hl | tryRecvPop hcap hl => exact pop_inv h hcap hl t
  | _ => exact h.book _ _ _ _

@[simp] theorem setThread_chans (s : State) (t : Tid) (th : Thread) : (s.setThread t th).chans = s.chans := rfl
@[simp] theorem setOwner_chans (s : State) (c : Cid) (o : Option Tid) : (s.setOwner c o).chans = s.chans := rfl
@[simp] theorem setChan_chans (s : State) (c : Cid) (ch : Chan) : (s.setChan c ch).chans = s.chans.set c ch := rfl
@[simp] theorem setThread_owner (s : State) (t : Tid) (th : Thread) : (s.setThread t th).owner = s.owner := rfl
@[simp] theorem setChan_owner (s : State) (c : Cid) (ch : Chan) : (s.setChan c ch).owner = s.owner := rfl
@[simp] theorem setChan_threads (s : State) (c : Cid) (ch : Chan) : (s.setChan c ch).threads = s.threads := rfl
@[simp] theorem setOwner_threads (s : State) (c : Cid) (o : Option Tid) : (s.setOwner c o).threads = s.threads := rfl

@[simp] theorem applyDeliver_chans (s : State) (d : Option (Target × Val)) : (applyDeliver s d).chans = s.chans := by
  cases d with
  | none => rfl
  | some x => rfl

@[simp] theorem doAfter_chans (s : State) (t : Tid) (c : Cid) (k : After) : (doAfter s t c k).chans = s.chans := by
  cases k with
  | wait p => rfl
  | finish bc n => cases n <;> cases bc <;> rfl

@[simp] theorem doNotify_chans (s : State) (t : Tid) (c : Cid) (k : After) : (doNotify s t c k).chans = s.chans := by
  unfold doNotify
  split
  · exact doAfter_chans ..
  · rfl

theorem getD_set_cases {α : Type} (l : List α) (i j : Nat) (x d : α) :
    (i = j ∧ (l.set i x).getD j d = x) ∨ (l.set i x).getD j d = l.getD j d := by
  by_cases hij : i = j
  · subst hij
    by_cases hl : i < l.length
    · exact Or.inl ⟨rfl, by simp [List.getD, hl]⟩
    · rw [List.set_eq_of_length_le (Nat.le_of_not_lt hl)]; exact Or.inr rfl
  · exact Or.inr (by simp [List.getD, hij])

theorem getD_set_self {α : Type} (l : List α) (i : Nat) (x d : α) (h : i < l.length) : (l.set i x).getD i d = x := by
  simp [List.getD, h]

theorem getD_set_other {α : Type} (l : List α) (i j : Nat) (x d : α) (h : i ≠ j) : (l.set i x).getD j d = l.getD j d := by
  simp [List.getD, h]

theorem chan_after_set (s s' : State) (c0 : Cid) (ch' : Chan) (h : s'.chans = s.chans.set c0 ch') (c : Cid) :
    s'.chan c = s.chan c ∨ (c = c0 ∧ s'.chan c = ch') := by
  unfold State.chan
  rw [h]
  rcases getD_set_cases s.chans c0 c ch' dfltChan with ⟨e, e1⟩ | e1
  · exact Or.inr ⟨e.symm, e1⟩
  · exact Or.inl e1

theorem chan_set_self {s s' : State} {c0 : Cid} {ch' : Chan} (h : s'.chans = s.chans.set c0 ch')
    (hl : c0 < s.chans.length) : s'.chan c0 = ch' := by
  unfold State.chan; rw [h]; exact getD_set_self _ _ _ _ hl

theorem chan_set_ne {s s' : State} {c0 c : Cid} {ch' : Chan} (h : s'.chans = s.chans.set c0 ch') (hne : c ≠ c0) :
    s'.chan c = s.chan c :=
  (chan_after_set s s' c0 ch' h c).resolve_right fun e => hne e.1

theorem chan_after_body {P : Chan → Prop} {s s' : State} {t : Tid} {p : Point}
    (hch : s'.chans = s.chans.set p.chan (body p t (s.chan p.chan)).ch)
    (hb : P (s.chan p.chan) → P (body p t (s.chan p.chan)).ch) {c : Cid} (h : P (s.chan c)) : P (s'.chan c) := by
  rcases chan_after_set s s' p.chan _ hch c with e | ⟨rfl, e⟩ <;> rw [e]
  · exact h
  · exact hb h

theorem chans_length_set {s s' : State} {c0 : Cid} {ch' : Chan} (h : s'.chans = s.chans.set c0 ch') :
    s'.chans.length = s.chans.length := by
  rw [h, List.length_set]

theorem chan_congr {s s' : State} (h : s'.chans = s.chans) (c : Cid) : s'.chan c = s.chan c := by
  unfold State.chan; rw [h]

theorem chan_of_ge {s : State} {c : Cid} (h : s.chans.length ≤ c) : s.chan c = dfltChan := by
  simp [State.chan, List.getD, List.getElem?_eq_none h]

theorem init_thread (cfg : Cfg) (caps : List Nat) (progs : List (List Op)) (t : Tid) :
    (∃ ops, ops ∈ progs ∧ (init cfg caps progs).thread t = { dfltThread with pc := .start, ops := ops }) ∨
    (init cfg caps progs).thread t = dfltThread := by
  simp only [State.thread, init, List.getD, List.getElem?_map]
  cases hp : progs[t]? with
  | none => exact Or.inr rfl
  | some ops => exact Or.inl ⟨ops, List.mem_of_getElem? hp, rfl⟩

theorem init_thread_pc (cfg : Cfg) (caps : List Nat) (progs : List (List Op)) (t : Tid) :
    ((init cfg caps progs).thread t).pc = .start ∨ ((init cfg caps progs).thread t).pc = .done := by
  rcases init_thread cfg caps progs t with ⟨ops, _, e⟩ | e <;> rw [e]
  · exact Or.inl rfl
  · exact Or.inr rfl

/-- one shape for both cases: beyond `caps` the record is `dfltChan = newChan Cfg.current 0` -/
theorem init_chan (cfg : Cfg) (caps : List Nat) (progs : List (List Op)) (c : Cid) :
    ∃ cfg' cap, (init cfg caps progs).chan c = newChan cfg' cap ∧ (c < (init cfg caps progs).chans.length → cfg' = cfg) := by
  simp only [State.chan, init, List.getD, List.getElem?_map, List.length_map]
  cases hc : caps[c]? with
  | none => exact ⟨Cfg.current, 0, rfl, fun h => absurd (List.getElem?_eq_none_iff.mp hc) (Nat.not_le_of_lt h)⟩
  | some cap => exact ⟨cfg, cap, rfl, fun _ => rfl⟩

theorem init_own (cfg : Cfg) (caps : List Nat) (progs : List (List Op)) (c : Cid) : (init cfg caps progs).own c = none := by
  simp only [State.own, init, List.getD, List.getElem?_map]
  cases caps[c]? <;> rfl

/-- reachability under every scheduler choice (steps of runnable threads and spurious wake-ups) -/
inductive Reachable (s0 : State) : State → Prop
  | init : Reachable s0 s0
  | next {s s' : State} (ch : Choice) : Reachable s0 s → apply s ch = some s' → Reachable s0 s'

/-- `hwake` is asked of every thread, asleep or not, in range or not: no invariant needs the difference -/
theorem Reachable.induct {s0 : State} {P : State → Prop} (h0 : P s0)
    (hstep : ∀ s t, Reachable s0 s → P s → runnable s t = true → P (exec s t))
    (hwake : ∀ s t, P s → P (s.setThread t { s.thread t with waiting := false }))
    {s : State} (h : Reachable s0 s) : P s := by
  induction h with
  | init => exact h0
  | next ch hr hs ih =>
    cases ch with
    | step t =>
      simp only [apply, step] at hs
      split at hs
      · rename_i hrun; cases hs; exact hstep _ t hr ih hrun
      · cases hs
    | wake t =>
      simp only [apply, wake] at hs
      split at hs
      · cases hs; exact hwake _ t ih
      · cases hs

theorem reachable_runSched {s0 s1 s : State} (h0 : Reachable s0 s1) :
    ∀ (l : List Choice), runSched s1 l = some s → Reachable s0 s := by
  intro l
  induction l generalizing s1 with
  | nil => intro h; simp only [runSched] at h; cases h; exact h0
  | cons ch rest ih =>
    intro h
    simp only [runSched] at h
    cases ha : apply s1 ch with
    | none => rw [ha] at h; cases h
    | some s2 => rw [ha] at h; exact ih (Reachable.next ch h0 ha) h

end LlgoVerif.Chan
