import LlgoVerif.Model.Sema
import LlgoVerif.Lemmas.Total
/-! Thread-local predicates are functions of the program counter, `Step` gives what an action does to its thread
    (`stepThread`, or a spurious wake-up) as rules between program counters, each clause of an invariant has its lemma
    about `Step`. -/
namespace LlgoVerif.Sema

theorem reachable_induction {cfg : Cfg} {s0 : State} (P : State → Prop) (h0 : P s0)
    (hstep : ∀ s s' a, P s → next cfg s a = some s' → P s') : ∀ s, Reachable cfg s0 s → P s := by
  intro s hr
  induction hr with
  | refl => exact h0
  | step a _ hn ih => exact hstep _ _ a ih hn

/-- an invariant `J` that a step preserves under an invariant `I` and a guard `G` which, once lost, stays lost -/
theorem reachable_guarded {cfg : Cfg} {s0 s : State} {I J G : State → Prop} (hI0 : I s0) (hJ0 : G s0 → J s0)
    (hI : ∀ s s' a, I s → next cfg s a = some s' → I s' ∧ (G s' → G s))
    (hJ : ∀ s s' a, I s → G s → J s → next cfg s a = some s' → J s') (hr : Reachable cfg s0 s) : G s → J s :=
  (reachable_induction (fun s => I s ∧ (G s → J s)) ⟨hI0, hJ0⟩
    (fun _ _ a ⟨hi, hj⟩ hn =>
      have ⟨hi', down⟩ := hI _ _ a hi hn
      ⟨hi', fun hg => hJ _ _ a hi (down hg) (hj (down hg)) hn⟩) s hr).2

theorem run_reachable {cfg : Cfg} {s0 : State} : ∀ (as : List Action) (s s' : State),
    Reachable cfg s0 s → run cfg s as = some s' → Reachable cfg s0 s' := by
  intro as s s' hr h
  fun_induction run cfg s as with
  | case1 => cases h; exact hr
  | case2 _ a _ _ hn ih => exact ih (.step a hr hn) h
  | case3 => cases h

def total (m : Thread → Nat) : List Thread → Nat
  | [] => 0
  | t :: l => m t + total m l

theorem total_eq (m : Thread → Nat) (l : List Thread) : total m l = (l.map m).sum := by
  induction l with
  | nil => rfl
  | cons a l ih => simp only [total, ih, List.map_cons, List.sum_cons]

theorem less32_eq {a b : Nat} (h1 : b ≤ a + 2147483648) (h2 : a < b + 2147483648) : less32 a b = decide (a < b) := by
  unfold less32 W32; exact decide_eq_decide.mpr (by omega)

theorem keepWaiting_eq {cfg : Cfg} {n t : Nat} (hc : cfg.ticketLess = true) (h1 : n ≤ t + 2147483648)
    (h2 : t < n + 2147483648) : keepWaiting cfg n t = decide (n ≤ t) := by
  simp only [keepWaiting, hc, if_true, less32_eq h1 h2, ← decide_not, Nat.not_lt]

theorem keepWaiting_of_eq {cfg : Cfg} {n t : Nat} (hc : cfg.ticketLess = false) :
    keepWaiting cfg n t = (n % W32 == t % W32) := by
  simp only [keepWaiting, hc, Bool.false_eq_true, if_false]

theorem mod_ne_iff_lt {n w : Nat} (h : n ≤ w) (hb : w < n + W32) : n % W32 ≠ w % W32 ↔ n < w := by
  unfold W32 at *; omega

/-- `v != 0 && CAS(addr, v, v-1)`: the count a pending CAS remembers is not zero; `b` bounds it -/
def Saw (b : Nat) : Pc → Prop
  | .aCas1 v | .aCas2 v => v ≠ 0 ∧ v ≤ b
  | _ => True

/-- blocked in the semaphore's `Cond.Wait` -/
def Pc.mWt : Pc → Nat
  | .aWait => 1
  | _ => 0

/-- counted in `st.waiters` (between `waiters++` and `waiters--`); only to phrase `waiters_counted`, proofs use `Pc.mW` -/
def mW (t : Thread) : Nat := match t.pc with | .aWait | .aWoken => 1 | _ => 0

def Pc.mW : Pc → Nat
  | .aWait | .aWoken => 1
  | _ => 0

/-- a wake-up or a re-check is pending: a releaser between its `Add` and its `Signal`, a woken waiter, or the
    mutex holder about to (re-)read the count (it takes a permit or, without `casRetry`, may go to sleep beside one) -/
def Pc.mP : Pc → Nat
  | .rGet | .rLock | .aWoken | .aLoad2 | .aCas2 _ => 1
  | _ => 0

/-- between `st.mu.Lock()` and `Unlock` of the notify list; these are also the only program counters whose `NlLocal`
    speaks of `notify` -/
def Pc.holdsN : Pc → Bool
  | .wLoad _ | .naLoadWait | .naStore _ | .n1LoadNotify | .n1LoadWait _ | .n1Add => true
  | _ => false

/-- what a thread knows about the TRUE ticket counters -/
def NlLocal (c0 : Nat) (sh : Shared) : Pc → Prop
  | .wGet tk | .wLock tk | .wLoad tk | .wWait tk | .wWoken tk => c0 ≤ tk ∧ tk < sh.wait
  | .naStore w => sh.notify ≤ w ∧ w ≤ sh.wait
  | .n1LoadWait n => n = sh.notify
  | .n1Add => sh.notify < sh.wait
  | _ => True

def NoStale (n : Nat) (pc : Pc) : Prop := ∀ tk, pc = .wWait tk → n ≤ tk

def Fresh (pc : Pc) : Prop := pc = .done ∨ ∃ o, pc = firstPc o

theorem finish_fresh (t : Thread) : Fresh t.finish.pc := by
  unfold Thread.finish
  split
  · exact .inl rfl
  · exact .inr ⟨_, rfl⟩

theorem start_fresh (p : List Op) : Fresh (Thread.start p).pc := by
  unfold Thread.start
  split
  · exact .inl rfl
  · exact .inr ⟨_, rfl⟩

structure Idle (pc : Pc) : Prop where
  saw : ∀ b, Saw b pc
  notAsleep : pc.mWt = 0
  notCounted : pc.mW = 0
  nothingPending : pc.mP = 0
  noStale : ∀ n, NoStale n pc
  nl : ∀ c0 sh, NlLocal c0 sh pc
  noMutex : pc.holdsN = false

theorem Fresh.idle {pc : Pc} (h : Fresh pc) : Idle pc := by
  have done : Idle .done := ⟨fun _ => trivial, rfl, rfl, rfl, fun _ _ => nofun, fun _ _ => trivial, rfl⟩
  rcases h with rfl | ⟨o, rfl⟩
  · exact done
  · cases o <;> exact ⟨fun _ => trivial, rfl, rfl, rfl, fun _ _ => nofun, fun _ _ => trivial, rfl⟩

theorem sum_start (m : Pc → Nat) (h : ∀ pc, Fresh pc → m pc = 0) (progs : List (List Op)) :
    ((progs.map Thread.start).map fun t => m t.pc).sum = 0 := by
  refine List.sum_eq_zero_iff_forall_eq_nat.mpr ?_
  simp only [List.mem_map]
  rintro _ ⟨_, ⟨p, _, rfl⟩, rfl⟩
  exact h _ (start_fresh p)

theorem saw_mono {n n' : Nat} (h : n ≤ n') {pc : Pc} (ht : Saw n pc) : Saw n' pc := by
  unfold Saw at *
  split <;> simp_all <;> omega

theorem mWt_le_mW (pc : Pc) : pc.mWt ≤ pc.mW := by cases pc <;> exact Nat.le_of_ble_eq_true rfl

theorem nlLocal_frame {c0 : Nat} {sh sh' : Shared} {pc : Pc} (h : NlLocal c0 sh pc) (hw : sh.wait ≤ sh'.wait)
    (hn : sh'.notify = sh.notify ∨ pc.holdsN = false) : NlLocal c0 sh' pc := by
  cases pc with
  | wGet | wLock | wLoad | wWait | wWoken => exact ⟨h.1, Nat.lt_of_lt_of_le h.2 hw⟩
  | naStore => rw [NlLocal, hn.resolve_right nofun]; exact ⟨h.1, Nat.le_trans h.2 hw⟩
  | n1LoadWait => rw [NlLocal, hn.resolve_right nofun]; exact h
  | n1Add => rw [NlLocal, hn.resolve_right nofun]; exact Nat.lt_of_lt_of_le h hw
  | _ => trivial

theorem wake_saw {b : Nat} {t : Thread} : Saw b t.pc → Saw b t.wake.pc := by
  obtain ⟨pc, _, _⟩ := t; cases pc <;> exact id

theorem wake_mW (t : Thread) : t.wake.pc.mW = t.pc.mW := by
  obtain ⟨pc, _, _⟩ := t; cases pc <;> rfl

theorem wake_noStale (n : Nat) (t : Thread) : NoStale n t.wake.pc := by
  obtain ⟨pc, _, _⟩ := t; cases pc <;> exact fun _ h => nomatch h

theorem wake_list_measures {t : Thread} (h : t.listWaiting = true) :
    t.wake.pc.mWt = t.pc.mWt ∧ t.wake.pc.mP = t.pc.mP := by
  obtain ⟨pc, _, _⟩ := t; cases pc <;> first | exact ⟨rfl, rfl⟩ | cases h

theorem wake_sem_measures {t : Thread} (h : t.semWaiting = true) :
    t.pc.mWt = 1 ∧ t.wake.pc.mWt = 0 ∧ t.pc.mP = 0 ∧ t.wake.pc.mP = 1 := by
  obtain ⟨pc, _, _⟩ := t; cases (of_decide_eq_true h : pc = .aWait); exact ⟨rfl, rfl, rfl, rfl⟩

/-- `stepThread` as rules between program counters, in the order of its branches, the event dropped; a call that
    returns lands on any `Fresh` program counter.  A spurious wake-up is a step of the woken thread (the last two rules). -/
inductive Step (cfg : Cfg) (i : Nat) (sh : Shared) : Pc → Shared → Pc → Wake → Prop
  | aLoad1 : sh.val ≠ 0 → Step cfg i sh .aLoad1 sh (.aCas1 sh.val) .none
  | aLoad1Zero : sh.val = 0 → Step cfg i sh .aLoad1 sh .aGet .none
  | aCas1 {v pc'} : sh.val = v → Fresh pc' → Step cfg i sh (.aCas1 v)
      { sh with val := v - 1, acquired := sh.acquired + 1, acqSaw := sh.val :: sh.acqSaw } pc' .none
  | aCas1Lost {v} : sh.val ≠ v → Step cfg i sh (.aCas1 v) sh .aGet .none
  | aGet : Step cfg i sh .aGet sh .aLock .none
  | aLock : sh.mu = none → Step cfg i sh .aLock { sh with mu := some i } .aLoad2 .none
  | aLoad2 : sh.val ≠ 0 → Step cfg i sh .aLoad2 sh (.aCas2 sh.val) .none
  | aLoad2Zero : sh.val = 0 → Step cfg i sh .aLoad2 { sh with waiters := sh.waiters + 1, mu := none } .aWait .none
  | aCas2 {v pc'} : sh.val = v → Fresh pc' → Step cfg i sh (.aCas2 v)
      { sh with val := v - 1, mu := none, acquired := sh.acquired + 1, acqSaw := sh.val :: sh.acqSaw } pc' .none
  | aRetry {v} : sh.val ≠ v → cfg.casRetry = true → Step cfg i sh (.aCas2 v) sh .aLoad2 .none
  | aCas2Lost {v} : sh.val ≠ v → cfg.casRetry = false →
      Step cfg i sh (.aCas2 v) { sh with waiters := sh.waiters + 1, mu := none } .aWait .none
  | aWoken : sh.mu = none → Step cfg i sh .aWoken { sh with mu := some i, waiters := sh.waiters - 1 } .aLoad2 .none
  | rAdd : Step cfg i sh .rAdd
      { sh with val := sh.val + 1, released := sh.released + 1, maxVal := max sh.maxVal (sh.val + 1) } .rGet .none
  | rGet : Step cfg i sh .rGet sh .rLock .none
  | rLock {pc' w} : Fresh pc' → sh.mu = none → w = (if sh.waiters ≠ 0 then .semOne else .none) →
      Step cfg i sh .rLock sh pc' w
  | wAdd : Step cfg i sh .wAdd { sh with wait := sh.wait + 1 } (.wGet sh.wait) .none
  | wGet {tk} : Step cfg i sh (.wGet tk) sh (.wLock tk) .none
  | wLock {tk} : sh.nmu = none → Step cfg i sh (.wLock tk) { sh with nmu := some i } (.wLoad tk) .none
  | wSleep {tk} : keepWaiting cfg sh.notify tk = true →
      Step cfg i sh (.wLoad tk) { sh with nmu := none } (.wWait tk) .none
  | wRet {tk pc'} : Fresh pc' → keepWaiting cfg sh.notify tk = false →
      Step cfg i sh (.wLoad tk) { sh with nmu := none, rets := (i, tk, sh.notify) :: sh.rets } pc' .none
  | wWoken {tk} : sh.nmu = none → Step cfg i sh (.wWoken tk) { sh with nmu := some i } (.wLoad tk) .none
  | naGet : Step cfg i sh .naGet sh .naLock .none
  | naLock : sh.nmu = none → Step cfg i sh .naLock { sh with nmu := some i } .naLoadWait .none
  | naLoadWait : Step cfg i sh .naLoadWait sh (.naStore sh.wait) .none
  | naStore {w pc'} : Fresh pc' → Step cfg i sh (.naStore w) { sh with notify := w, nmu := none } pc' .listAll
  | n1Get : Step cfg i sh .n1Get sh .n1Lock .none
  | n1Lock : sh.nmu = none → Step cfg i sh .n1Lock { sh with nmu := some i } .n1LoadNotify .none
  | n1LoadNotify : Step cfg i sh .n1LoadNotify sh (.n1LoadWait sh.notify) .none
  | n1LoadWait {n} : n % W32 ≠ sh.wait % W32 → Step cfg i sh (.n1LoadWait n) sh .n1Add .none
  | n1Skip {n pc'} : Fresh pc' → n % W32 = sh.wait % W32 → Step cfg i sh (.n1LoadWait n) { sh with nmu := none } pc' .none
  | n1Add {pc' w} : Fresh pc' → w = (if cfg.oneBroadcast then .listAll else .listOne) →
      Step cfg i sh .n1Add { sh with notify := sh.notify + 1, nmu := none } pc' w
  | semSpurious : Step cfg i sh .aWait sh .aWoken .none
  | listSpurious {tk} : Step cfg i sh (.wWait tk) sh (.wWoken tk) .none

variable {cfg : Cfg} {c0 i : Nat} {sh sh' : Shared} {pc pc' : Pc} {w : Wake}

theorem stepThread_step {t t' : Thread} {ev : Option Event}
    (h : stepThread cfg i sh t = some (sh', t', w, ev)) : Step cfg i sh t.pc sh' t'.pc w := by
  have hf := finish_fresh t
  revert h
  fun_cases stepThread cfg i sh t <;> intro h <;> cases h <;> rw [‹t.pc = _›]
  · exact .aLoad1 ‹_›
  · exact .aLoad1Zero (Decidable.of_not_not ‹_›)
  · exact .aCas1 rfl hf
  · exact .aCas1Lost ‹_›
  · exact .aGet
  · exact .aLock ‹_›
  · exact .aLoad2 ‹_›
  · exact .aLoad2Zero (Decidable.of_not_not ‹_›)
  · exact .aCas2 rfl hf
  · exact .aRetry ‹_› ‹_›
  · exact .aCas2Lost ‹_› (eq_false_of_ne_true ‹_›)
  · exact .aWoken ‹_›
  · exact .rAdd
  · exact .rGet
  · exact .rLock hf ‹_› rfl
  · exact .wAdd
  · exact .wGet
  · exact .wLock ‹_›
  · exact .wSleep ‹_›
  · exact .wRet hf (eq_false_of_ne_true ‹_›)
  · exact .wWoken ‹_›
  · exact .naGet
  · exact .naLock ‹_›
  · exact .naLoadWait
  · exact .naStore hf
  · exact .n1Get
  · exact .n1Lock ‹_›
  · exact .n1LoadNotify
  · exact .n1LoadWait ‹_›
  · exact .n1Skip hf (Decidable.of_not_not ‹_›)
  · exact .n1Add hf rfl

theorem next_inv {s s' : State} {a : Action} (h : next cfg s a = some s') :
    ∃ i t sh' t' w pick ths, s.threads[i]? = some t ∧ Step cfg i s.sh t.pc sh' t'.pc w ∧
      applyWake (s.threads.set i t') w pick = some ths ∧ s' = ⟨sh', ths⟩ := by
  unfold next at h
  revert h
  fun_cases nextEv cfg s a <;> intro h <;> cases h
  · exact ⟨_, _, _, _, _, _, _, ‹_›, stepThread_step ‹_›, ‹_›, rfl⟩
  · rename_i i t ht hw
    refine ⟨i, t, _, t.wake, .none, 0, _, ht, ?_, rfl, rfl⟩
    obtain ⟨pc, _, _⟩ := t
    cases pc <;> first | exact .semSpurious | exact .listSpurious | cases hw

theorem Step.base
    (hs : Step cfg i sh pc sh' pc' w) (ht : Saw sh.maxVal pc) (hv : sh.val ≤ sh.maxVal)
    (hh : sh.acqSaw.length = sh.acquired ∧ ∀ c ∈ sh.acqSaw, 0 < c) :
    sh'.val + sh'.acquired + sh.released = sh.val + sh.acquired + sh'.released ∧
    (sh'.acqSaw.length = sh'.acquired ∧ ∀ c ∈ sh'.acqSaw, 0 < c) ∧
    sh.maxVal ≤ sh'.maxVal ∧ sh'.val ≤ sh'.maxVal ∧ Saw sh'.maxVal pc' := by
  cases hs with
  | rAdd => exact ⟨by simp only; omega, hh, Nat.le_max_left .., Nat.le_max_right .., trivial⟩
  | aLoad1 h0 | aLoad2 h0 => exact ⟨rfl, hh, Nat.le_refl _, hv, h0, hv⟩
  | aCas1 hv' hf | aCas2 hv' hf =>
    obtain ⟨h0, hle⟩ := ht
    refine ⟨by simp only; omega, ⟨by simp only [List.length_cons, hh.1], fun c hc => ?_⟩, Nat.le_refl _,
      by simp only; omega, hf.idle.saw _⟩
    rcases List.mem_cons.mp hc with rfl | hc
    · omega
    · exact hh.2 c hc
  | rLock hf | wRet hf | naStore hf | n1Skip hf | n1Add hf => exact ⟨rfl, hh, Nat.le_refl _, hv, hf.idle.saw _⟩
  | _ => exact ⟨rfl, hh, Nat.le_refl _, hv, trivial⟩

theorem Step.waiters (hs : Step cfg i sh pc sh' pc' w) (hle : pc.mW ≤ sh.waiters) :
    sh'.waiters + pc.mW = sh.waiters + pc'.mW := by
  cases hs with
  | aWoken => exact Nat.sub_add_cancel hle
  | aCas1 _ hf | aCas2 _ hf | rLock hf | wRet hf | naStore hf | n1Skip hf | n1Add hf =>
    exact congrArg (sh.waiters + ·) hf.idle.notCounted.symm
  | _ => rfl

inductive SemOutcome (sh sh' : Shared) (pc pc' : Pc) (w : Wake) : Prop
  /-- the steps into `aWait`: at count 0 `SemInv` asks nothing -/
  | sleeps : sh'.val = 0 → SemOutcome sh sh' pc pc' w
  /-- `val - mP` of the stepping thread does not rise: a permit appears only with a pending wake-up or re-check -/
  | quiet : pc'.mWt = 0 → w ≠ .semOne → sh'.val + pc.mP ≤ sh.val + pc'.mP → SemOutcome sh sh' pc pc' w
  | signal : pc'.mWt = 0 → sh'.val = sh.val → pc.mP = 1 → pc'.mP = 0 →
      w = (if sh.waiters ≠ 0 then .semOne else .none) → SemOutcome sh sh' pc pc' w

theorem Step.sem (hs : Step cfg i sh pc sh' pc' w) {b : Nat} (hok : Saw b pc)
    (hc : cfg.casRetry = true ∨ (sh.val ≤ 1 ∧ b ≤ 1)) : SemOutcome sh sh' pc pc' w := by
  cases hs with
  | aLoad2Zero hv => exact .sleeps hv
  | aCas2Lost hne hr =>
    -- only without `casRetry`: then the count is ≤ 1 and the CAS expected `v ≤ b ≤ 1`, `v ≠ 0`, i.e. 1; it lost, so the count is 0
    obtain ⟨h0, hle⟩ := hok
    simp only [hr, Bool.false_eq_true, false_or] at hc
    exact .sleeps (show sh.val = 0 by omega)
  | aCas1 hv hf | aCas2 hv hf =>
    obtain ⟨h0, -⟩ := hok
    refine .quiet hf.idle.notAsleep nofun ?_
    rw [hf.idle.nothingPending]; simp only [Pc.mP]; omega
  | rLock hf _ hw => exact .signal hf.idle.notAsleep rfl rfl hf.idle.nothingPending hw
  | wRet hf | naStore hf | n1Skip hf =>
    exact .quiet hf.idle.notAsleep nofun (by rw [hf.idle.nothingPending]; exact Nat.le_refl _)
  | n1Add hf hw =>
    refine .quiet hf.idle.notAsleep ?_ (by rw [hf.idle.nothingPending]; exact Nat.le_refl _)
    rw [hw]; split <;> nofun
  | rAdd => exact .quiet rfl nofun (Nat.le_refl _)
  | aLock | semSpurious => exact .quiet rfl nofun (Nat.le_succ _)
  -- every remaining rule leaves `val` and `mP` alone
  | _ => exact .quiet rfl nofun (Nat.le_refl _)

/-- what a step from `pc` leaves of the other threads' `NlThread` -/
inductive NlFrame (sh sh' : Shared) (pc : Pc) : Prop
  | same : sh'.notify = sh.notify → sh'.nmu = sh.nmu → NlFrame sh sh' pc
  | lock : sh.nmu = none → sh'.notify = sh.notify → NlFrame sh sh' pc
  /-- `notify` and the mutex only move in the hands of the holder -/
  | holder : pc.holdsN = true → NlFrame sh sh' pc

theorem Step.nl
    (hs : Step cfg i sh pc sh' pc' w)
    (hN : c0 ≤ sh.notify ∧ sh.notify ≤ sh.wait) (hl : NlLocal c0 sh pc) (hm : pc.holdsN = true → sh.nmu = some i) :
    (c0 ≤ sh'.notify ∧ sh'.notify ≤ sh'.wait) ∧ NlLocal c0 sh' pc' ∧ (pc'.holdsN = true → sh'.nmu = some i) ∧
    sh.wait ≤ sh'.wait ∧ NlFrame sh sh' pc := by
  have fresh : Fresh pc' → NlLocal c0 sh' pc' ∧ (pc'.holdsN = true → sh'.nmu = some i) :=
    fun hf => ⟨hf.idle.nl c0 sh', fun h => Bool.noConfusion (hf.idle.noMutex ▸ h)⟩
  cases hs with
  | aCas1 _ hf | aCas2 _ hf | rLock hf => exact ⟨hN, (fresh hf).1, (fresh hf).2, Nat.le_refl _, .same rfl rfl⟩
  | wAdd =>
    exact ⟨⟨hN.1, Nat.le_succ_of_le hN.2⟩, ⟨Nat.le_trans hN.1 hN.2, Nat.lt_succ_self _⟩, fun h => Bool.noConfusion h,
      Nat.le_succ _, .same rfl rfl⟩
  | wGet | listSpurious => exact ⟨hN, hl, fun h => Bool.noConfusion h, Nat.le_refl _, .same rfl rfl⟩
  | wLock hn | wWoken hn => exact ⟨hN, hl, fun _ => rfl, Nat.le_refl _, .lock hn rfl⟩
  | wSleep => exact ⟨hN, hl, fun h => Bool.noConfusion h, Nat.le_refl _, .holder rfl⟩
  | wRet hf | n1Skip hf => exact ⟨hN, (fresh hf).1, (fresh hf).2, Nat.le_refl _, .holder rfl⟩
  | naLock hn | n1Lock hn => exact ⟨hN, trivial, fun _ => rfl, Nat.le_refl _, .lock hn rfl⟩
  | naLoadWait => exact ⟨hN, ⟨hN.2, Nat.le_refl _⟩, fun _ => hm rfl, Nat.le_refl _, .same rfl rfl⟩
  | n1LoadNotify => exact ⟨hN, rfl, fun _ => hm rfl, Nat.le_refl _, .same rfl rfl⟩
  | n1LoadWait hne =>
    cases (hl : _ = sh.notify)
    refine ⟨hN, ?_, fun _ => hm rfl, Nat.le_refl _, .same rfl rfl⟩
    exact Nat.lt_of_le_of_ne hN.2 fun he => hne (congrArg (· % W32) he)
  | naStore hf =>
    have hl : sh.notify ≤ _ ∧ _ ≤ sh.wait := hl
    exact ⟨⟨Nat.le_trans hN.1 hl.1, hl.2⟩, (fresh hf).1, (fresh hf).2, Nat.le_refl _, .holder rfl⟩
  | n1Add hf => exact ⟨⟨Nat.le_succ_of_le hN.1, hl⟩, (fresh hf).1, (fresh hf).2, Nat.le_refl _, .holder rfl⟩
  | _ => exact ⟨hN, trivial, fun h => Bool.noConfusion h, Nat.le_refl _, .same rfl rfl⟩

/-- `r` = (thread, ticket, `notify` read) -/
structure RetOk (cfg : Cfg) (c0 wait : Nat) (r : Nat × Nat × Nat) : Prop where
  loopFalse : keepWaiting cfg r.2.2 r.2.1 = false
  tk : c0 ≤ r.2.1 ∧ r.2.1 < wait
  ntf : c0 ≤ r.2.2 ∧ r.2.2 ≤ wait

theorem RetOk.mono {cfg : Cfg} {c0 n n' : Nat} {r : Nat × Nat × Nat} (h : RetOk cfg c0 n r) (hn : n ≤ n') :
    RetOk cfg c0 n' r :=
  ⟨h.loopFalse, ⟨h.tk.1, Nat.lt_of_lt_of_le h.tk.2 hn⟩, ⟨h.ntf.1, Nat.le_trans h.ntf.2 hn⟩⟩

theorem Step.rets (hs : Step cfg i sh pc sh' pc' w) (hN : c0 ≤ sh.notify ∧ sh.notify ≤ sh.wait)
    (hl : NlLocal c0 sh pc) : ∀ r ∈ sh'.rets, r ∈ sh.rets ∨ RetOk cfg c0 sh.wait r := by
  cases hs with
  | wRet _ hk => exact fun r hr => (List.mem_cons.mp hr).elim (fun e => .inr (e ▸ ⟨hk, hl, hN⟩)) .inl
  | _ => exact fun _ => .inl

/-- with the repaired notify list: `notify` only moves together with a broadcast, and — while fewer than 2^31 tickets
    have been drawn — a thread goes to sleep only with a ticket that has not been notified (the wrapped comparison
    `notifyLess` is exact in that range) -/
theorem Step.notify
    (hs : Step cfg i sh pc sh' pc' w) (h1 : cfg.ticketLess = true) (h2 : cfg.oneBroadcast = true)
    (hN : c0 ≤ sh.notify ∧ sh.notify ≤ sh.wait) (hl : NlLocal c0 sh pc) (hb : sh.wait < c0 + 2147483648) :
    (sh'.notify = sh.notify ∨ w = .listAll) ∧ NoStale sh'.notify pc' := by
  cases hs with
  | wSleep hk =>
    have hl : c0 ≤ _ ∧ _ < sh.wait := hl
    rw [keepWaiting_eq h1 (by omega) (by omega)] at hk
    exact ⟨.inl rfl, fun tk h => by cases h; exact of_decide_eq_true hk⟩
  | naStore hf => exact ⟨.inr rfl, hf.idle.noStale _⟩
  | n1Add hf hw => exact ⟨.inr (by rw [hw, h2]; rfl), hf.idle.noStale _⟩
  | aCas1 _ hf | aCas2 _ hf | rLock hf | wRet hf | n1Skip hf => exact ⟨.inl rfl, hf.idle.noStale _⟩
  | _ => exact ⟨.inl rfl, fun tk h => Pc.noConfusion h⟩

theorem signalOne_inv {l l' : List Thread} {isW : Thread → Bool} {pick : Nat} (h : signalOne l isW pick = some l') :
    (l.any isW = false ∧ l' = l) ∨ ∃ t, l[pick]? = some t ∧ isW t = true ∧ l' = l.set pick t.wake := by
  revert h
  fun_cases signalOne l isW pick <;> intro h <;> cases h
  · exact .inr ⟨_, ‹_›, ‹_›, rfl⟩
  · exact .inl ⟨Bool.eq_false_iff.mpr ‹_›, rfl⟩

theorem applyWake_inv {l l' : List Thread} {w : Wake} {pick : Nat} (ha : applyWake l w pick = some l') :
    (l' = l ∧ (w = .semOne → l.any Thread.semWaiting = false)) ∨
    (∃ t, l[pick]? = some t ∧ l' = l.set pick t.wake ∧
      (w = .semOne ∧ t.semWaiting = true ∨ w = .listOne ∧ t.listWaiting = true)) ∨
    (w = .listAll ∧ l' = l.map fun t => if t.listWaiting then t.wake else t) := by
  unfold applyWake at ha
  cases w with
  | none => exact .inl ⟨(Option.some.inj ha).symm, nofun⟩
  | listAll => exact .inr (.inr ⟨rfl, (Option.some.inj ha).symm⟩)
  | semOne =>
    rcases signalOne_inv ha with ⟨hn, rfl⟩ | ⟨t, ht, hw, rfl⟩
    · exact .inl ⟨rfl, fun _ => hn⟩
    · exact .inr (.inl ⟨t, ht, rfl, .inl ⟨rfl, hw⟩⟩)
  | listOne =>
    rcases signalOne_inv ha with ⟨_, rfl⟩ | ⟨t, ht, hw, rfl⟩
    · exact .inl ⟨rfl, nofun⟩
    · exact .inr (.inl ⟨t, ht, rfl, .inr ⟨rfl, hw⟩⟩)

theorem applyWake_forall {P : Nat → Thread → Prop} (hw : ∀ j u, P j u → P j u.wake) {l l' : List Thread} {w : Wake}
    {pick : Nat} (h : ∀ j u, l[j]? = some u → P j u) (ha : applyWake l w pick = some l') :
    ∀ j u, l'[j]? = some u → P j u := by
  rcases applyWake_inv ha with ⟨rfl, _⟩ | ⟨t, ht, rfl, _⟩ | ⟨_, rfl⟩
  · exact h
  · exact Total.forall_set h ht (hw _ _ (h _ _ ht)) fun _ _ _ hu => hu
  · refine Total.forall_map fun j a ha => ?_
    split
    · exact hw j a (h j a ha)
    · exact h j a ha

theorem applyWake_sum {m : Thread → Nat} {l l' : List Thread} {w : Wake} {pick : Nat}
    (ha : applyWake l w pick = some l') (hm : ∀ t, w = .semOne ∨ t.listWaiting = true → m t.wake = m t) :
    (l'.map m).sum = (l.map m).sum := by
  -- `semOne` gives no fact about `t`: callers show `hm` for every `t` (`wake_mW`) or exclude `semOne`
  rcases applyWake_inv ha with ⟨rfl, _⟩ | ⟨t, ht, rfl, hw⟩ | ⟨_, rfl⟩
  · rfl
  · have := Total.sum_set m ht (x := t.wake)
    rw [hm t (hw.imp (·.1) (·.2))] at this; omega
  · exact Total.sum_map_eq m _ (fun t => by split; exact hm t (.inr ‹_›); rfl) l

/-- `Signal` on the semaphore's condition variable: nobody is asleep, or exactly one sleeper becomes a woken thread -/
theorem applyWake_sem {l l' : List Thread} {pick : Nat} (ha : applyWake l .semOne pick = some l') :
    ((l.map (·.pc.mWt)).sum = 0 ∧ l' = l) ∨
    ((l'.map (·.pc.mWt)).sum + 1 = (l.map (·.pc.mWt)).sum ∧ (l'.map (·.pc.mP)).sum = (l.map (·.pc.mP)).sum + 1) := by
  rcases applyWake_inv ha with ⟨rfl, hn⟩ | ⟨t, ht, rfl, ⟨_, hlw⟩ | ⟨h, _⟩⟩ | ⟨h, _⟩
  · refine Or.inl ⟨List.sum_eq_zero_iff_forall_eq_nat.mpr ?_, rfl⟩
    simp only [List.mem_map]
    rintro _ ⟨⟨pc, _, _⟩, ht, rfl⟩
    have : pc ≠ .aWait := of_decide_eq_false (Bool.eq_false_iff.mpr (List.any_eq_false.mp (hn rfl) _ ht))
    cases pc <;> first | rfl | exact absurd rfl this
  · have h1 := Total.sum_set (·.pc.mWt) ht (x := t.wake)
    have h2 := Total.sum_set (·.pc.mP) ht (x := t.wake)
    obtain ⟨e1, e2, e3, e4⟩ := wake_sem_measures hlw
    rw [e1, e2] at h1; rw [e3, e4] at h2
    exact Or.inr ⟨by omega, by omega⟩
  · cases h
  · cases h

theorem applyWake_listAll_noStale {n : Nat} {l l' : List Thread} {pick : Nat}
    (ha : applyWake l .listAll pick = some l') : ∀ (j : Nat) u, l'[j]? = some u → NoStale n u.pc := by
  cases ha
  refine Total.forall_map fun j a _ => ?_
  split
  · exact wake_noStale n a
  · obtain ⟨pc, _, _⟩ := a
    intro tk htk
    cases htk
    exact absurd rfl ‹¬_›

structure BaseInv (v0 : Nat) (s : State) : Prop where
  cons : s.sh.val + s.sh.acquired = v0 + s.sh.released
  saw : s.sh.acqSaw.length = s.sh.acquired ∧ ∀ c ∈ s.sh.acqSaw, 0 < c
  mx : s.sh.val ≤ s.sh.maxVal
  cas : ∀ (j : Nat) u, s.threads[j]? = some u → Saw s.sh.maxVal u.pc
  wc : s.sh.waiters = (s.threads.map (·.pc.mW)).sum

theorem baseInv_init (v c0 : Nat) (progs : List (List Op)) : BaseInv v (initAt v c0 progs) where
  cons := by simp [initAt, initShared]
  saw := by simp [initAt, initShared]
  mx := by simp [initAt, initShared]
  cas := Total.forall_map fun _ p _ => (start_fresh p).idle.saw _
  wc := (sum_start Pc.mW (fun _ h => h.idle.notCounted) progs).symm

theorem baseInv_next {cfg : Cfg} {v0 : Nat} {s s' : State} {a : Action} (h : BaseInv v0 s)
    (hn : next cfg s a = some s') : BaseInv v0 s' ∧ s.sh.maxVal ≤ s'.sh.maxVal := by
  obtain ⟨i, t, sh', t', w, pick, ths, ht, hs, ha, rfl⟩ := next_inv hn
  obtain ⟨hc, hsaw, hmono, hmx, ht'⟩ := hs.base (h.cas i t ht) h.mx h.saw
  refine ⟨⟨by have := h.cons; simp only; omega, hsaw, hmx, ?_, ?_⟩, hmono⟩
  · exact applyWake_forall (P := fun _ u => Saw sh'.maxVal u.pc) (fun _ _ => wake_saw)
      (Total.forall_set h.cas ht ht' fun _ u _ hu => saw_mono hmono hu) ha
  · -- the sleeper decrements `waiters` after it has the mutex again, not the wake-up
    have := applyWake_sum (m := (·.pc.mW)) ha fun t _ => wake_mW t
    have := Total.sum_set (·.pc.mW) ht (x := t')
    have := hs.waiters (h.wc ▸ Total.le_sum (·.pc.mW) (List.mem_of_getElem? ht))
    have := h.wc
    simp only; omega

theorem BaseInv.reachable {cfg : Cfg} {v0 : Nat} {s0 s : State} (h0 : BaseInv v0 s0) (hr : Reachable cfg s0 s) :
    BaseInv v0 s :=
  reachable_induction (BaseInv v0) h0 (fun _ _ _ h hn => (baseInv_next h hn).1) s hr

theorem baseInv_reachable {cfg : Cfg} {v c0 : Nat} {progs : List (List Op)} {s : State}
    (hr : Reachable cfg (initAt v c0 progs) s) : BaseInv v s :=
  (baseInv_init v c0 progs).reachable hr

/-- While somebody sleeps, every permit is matched by a pending wake-up or re-check.  `val ≤ Σ mP`, not just
    `0 < val → 0 < Σ mP`, is what a step preserves: each pending thread accounts for at most one permit. -/
def SemInv (s : State) : Prop := 0 < (s.threads.map (·.pc.mWt)).sum → s.sh.val ≤ (s.threads.map (·.pc.mP)).sum

theorem semInv_init (v c0 : Nat) (progs : List (List Op)) : SemInv (initAt v c0 progs) := fun h => by
  rw [initAt, sum_start Pc.mWt fun _ h => h.idle.notAsleep] at h; cases h

theorem semInv_next {cfg : Cfg} {v0 : Nat} {s s' : State} {a : Action} (hb : BaseInv v0 s) (h : SemInv s)
    (hn : next cfg s a = some s') (hc : cfg.casRetry = true ∨ s.sh.maxVal ≤ 1) : SemInv s' := by
  intro hpos
  -- sums after the step = sums before ± the stepping thread's change (`sWt`, `sP`) ± what the wake-up moves
  -- (`applyWake_*`); `Step.sem` bounds the thread's change against the change of `val`
  obtain ⟨i, t, sh', t', w, pick, ths, ht, hs, ha, rfl⟩ := next_inv hn
  have sWt := Total.sum_set (·.pc.mWt) ht (x := t')
  have sP := Total.sum_set (·.pc.mP) ht (x := t')
  simp only at hpos ⊢
  rcases hs.sem (hb.cas i t ht) (hc.imp_right fun hc => ⟨by have := hb.mx; omega, hc⟩) with
    ⟨hv⟩ | ⟨e1, hw, hv⟩ | ⟨e1, hv, p1, p2, hw⟩
  · omega
  · have a1 := applyWake_sum (m := (·.pc.mWt)) ha fun t h => (wake_list_measures (h.resolve_left hw)).1
    have a2 := applyWake_sum (m := (·.pc.mP)) ha fun t h => (wake_list_measures (h.resolve_left hw)).2
    have := h (by omega)
    omega
  · rw [hw] at ha
    split at ha
    · rcases applyWake_sem ha with ⟨z, rfl⟩ | ⟨b1, b2⟩
      · omega
      · have := h (by omega)
        omega
    · -- nobody is counted, so nobody sleeps
      cases ha
      have := Total.sum_le_sum (·.pc.mWt) (·.pc.mW) (fun t => mWt_le_mW t.pc) s.threads
      have := hb.wc
      omega

theorem SemInv.reachable {cfg : Cfg} {v0 : Nat} {s0 s : State} (hb0 : BaseInv v0 s0)
    (h0 : (cfg.casRetry = true ∨ s0.sh.maxVal ≤ 1) → SemInv s0) (hr : Reachable cfg s0 s) :
    (cfg.casRetry = true ∨ s.sh.maxVal ≤ 1) → SemInv s :=
  reachable_guarded hb0 h0
    (fun _ _ _ hb hn => (baseInv_next hb hn).imp_right fun hmono => Or.imp_right (Nat.le_trans hmono))
    (fun _ _ _ hb hc hi hn => semInv_next hb hi hn hc) hr

theorem semInv_reachable {cfg : Cfg} {v c0 : Nat} {progs : List (List Op)} {s : State}
    (hr : Reachable cfg (initAt v c0 progs) s) : (cfg.casRetry = true ∨ s.sh.maxVal ≤ 1) → SemInv s :=
  SemInv.reachable (baseInv_init v c0 progs) (fun _ => semInv_init v c0 progs) hr

structure NlThread (c0 : Nat) (sh : Shared) (j : Nat) (pc : Pc) : Prop where
  loc : NlLocal c0 sh pc
  mux : pc.holdsN = true → sh.nmu = some j

theorem NlThread.wake {c0 j : Nat} {sh : Shared} {u : Thread} (h : NlThread c0 sh j u.pc) :
    NlThread c0 sh j u.wake.pc := by
  obtain ⟨pc, _, _⟩ := u; cases pc <;> exact ⟨h.loc, h.mux⟩

theorem NlThread.frame {c0 i j : Nat} {sh sh' : Shared} {pc u : Pc} (o : NlThread c0 sh j u) (hit : NlThread c0 sh i pc)
    (hj : j ≠ i) (gw : sh.wait ≤ sh'.wait) (fr : NlFrame sh sh' pc) : NlThread c0 sh' j u := by
  cases fr with
  | same e1 e2 => exact ⟨nlLocal_frame o.loc gw (.inl e1), fun hh => e2 ▸ o.mux hh⟩
  | lock e1 e2 => exact ⟨nlLocal_frame o.loc gw (.inl e2), fun hh => nomatch (o.mux hh).symm.trans e1⟩
  | holder e3 =>
    -- another thread never holds the mutex together with the stepping one
    have nh : u.holdsN = false := by
      cases hu : u.holdsN with
      | false => rfl
      | true => exact absurd (Option.some.inj ((o.mux hu).symm.trans (hit.mux e3))) hj
    exact ⟨nlLocal_frame o.loc gw (.inr nh), fun hh => Bool.noConfusion (nh ▸ hh)⟩

structure NlInv (cfg : Cfg) (c0 : Nat) (s : State) : Prop where
  ord : c0 ≤ s.sh.notify ∧ s.sh.notify ≤ s.sh.wait
  thr : ∀ (j : Nat) (u : Thread), s.threads[j]? = some u → NlThread c0 s.sh j u.pc
  rng : ∀ r ∈ s.sh.rets, RetOk cfg c0 s.sh.wait r

theorem nlInv_init (cfg : Cfg) (v c0 : Nat) (progs : List (List Op)) : NlInv cfg c0 (initAt v c0 progs) :=
  ⟨⟨Nat.le_refl _, Nat.le_refl _⟩, Total.forall_map fun _ p _ =>
    ⟨(start_fresh p).idle.nl c0 _, fun hh => Bool.noConfusion ((start_fresh p).idle.noMutex ▸ hh)⟩, nofun⟩

theorem nlInv_next {cfg : Cfg} {c0 : Nat} {s s' : State} {a : Action} (h : NlInv cfg c0 s)
    (hn : next cfg s a = some s') : NlInv cfg c0 s' ∧ s.sh.wait ≤ s'.sh.wait := by
  obtain ⟨i, t, sh', t', w, pick, ths, ht, hs, ha, rfl⟩ := next_inv hn
  have hit := h.thr i t ht
  obtain ⟨g1, g2, g3, gw, fr⟩ := hs.nl h.ord hit.loc hit.mux
  refine ⟨⟨g1, ?_, fun r hr => ((hs.rets h.ord hit.loc r hr).elim (h.rng r) id).mono gw⟩, gw⟩
  exact applyWake_forall (fun _ _ h => h.wake)
    (Total.forall_set h.thr ht ⟨g2, g3⟩ fun j u hj o => o.frame hit hj gw fr) ha

theorem NlInv.reachable {cfg : Cfg} {c0 : Nat} {s0 s : State} (h0 : NlInv cfg c0 s0) (hr : Reachable cfg s0 s) :
    NlInv cfg c0 s :=
  reachable_induction (NlInv cfg c0) h0 (fun _ _ _ h hn => (nlInv_next h hn).1) s hr

theorem nlInv_reachable {cfg : Cfg} {v c0 : Nat} {progs : List (List Op)} {s : State}
    (hr : Reachable cfg (initAt v c0 progs) s) : NlInv cfg c0 s :=
  (nlInv_init cfg v c0 progs).reachable hr

theorem noStale_next {cfg : Cfg} {c0 : Nat} {s s' : State} {a : Action} (h1 : cfg.ticketLess = true)
    (h2 : cfg.oneBroadcast = true) (hI : NlInv cfg c0 s) (hb : s.sh.wait < c0 + 2147483648)
    (h : ∀ (j : Nat) u, s.threads[j]? = some u → NoStale s.sh.notify u.pc) (hn : next cfg s a = some s') :
    ∀ (j : Nat) u, s'.threads[j]? = some u → NoStale s'.sh.notify u.pc := by
  obtain ⟨i, t, sh', t', w, pick, ths, ht, hs, ha, rfl⟩ := next_inv hn
  obtain ⟨hw, ht'⟩ := hs.notify h1 h2 hI.ord (hI.thr i t ht).loc hb
  rcases hw with hw | rfl
  · simp only
    rw [hw] at ht' ⊢
    exact applyWake_forall (fun _ t _ => wake_noStale _ t) (Total.forall_set h ht ht' fun _ _ _ hu => hu) ha
  · exact applyWake_listAll_noStale ha

/-- while fewer than 2^31 tickets have been drawn, nobody sleeps with a notified ticket (repaired notify list) -/
theorem NlInv.noStale_reachable {cfg : Cfg} {c0 : Nat} {s0 s : State} (h1 : cfg.ticketLess = true)
    (h2 : cfg.oneBroadcast = true) (hI0 : NlInv cfg c0 s0)
    (h0 : s0.sh.wait < c0 + 2147483648 → ∀ (j : Nat) u, s0.threads[j]? = some u → NoStale s0.sh.notify u.pc)
    (hr : Reachable cfg s0 s) :
    s.sh.wait < c0 + 2147483648 → ∀ (j : Nat) u, s.threads[j]? = some u → NoStale s.sh.notify u.pc :=
  reachable_guarded hI0 h0 (fun _ _ _ hI hn => (nlInv_next hI hn).imp_right Nat.lt_of_le_of_lt)
    (fun _ _ _ hI hb hi hn => noStale_next h1 h2 hI hb hi hn) hr

theorem noStale_reachable {cfg : Cfg} {v c0 : Nat} {progs : List (List Op)} {s : State} (h1 : cfg.ticketLess = true)
    (h2 : cfg.oneBroadcast = true) (hr : Reachable cfg (initAt v c0 progs) s) :
    s.sh.wait < c0 + 2147483648 → ∀ (j : Nat) u, s.threads[j]? = some u → NoStale s.sh.notify u.pc :=
  (nlInv_init cfg v c0 progs).noStale_reachable h1 h2
    (fun _ => Total.forall_map fun _ p _ => (start_fresh p).idle.noStale _) hr

end LlgoVerif.Sema
