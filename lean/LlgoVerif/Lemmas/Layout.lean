import LlgoVerif.Model.Layout
/-!
(a) = (b) goes through the raw type: `rawInv` (gc sizes + `extraSize` = gc sizes of the raw type), then `ll_std`.
-/
namespace LlgoVerif.Layout

/-! ## rounding up -/

theorem alignUp_dvd (x a : Nat) : a ∣ alignUp x a := Nat.dvd_mul_left _ _

theorem le_alignUp (x : Nat) {a : Nat} (ha : 0 < a) : x ≤ alignUp x a := by
  have := Nat.lt_div_mul_add (a := x + a - 1) ha
  unfold alignUp
  omega

theorem alignUp_lt (x : Nat) {a : Nat} (ha : 0 < a) : alignUp x a < x + a :=
  Nat.lt_of_le_of_lt (Nat.div_mul_le_self _ _) (by omega)

theorem alignUp_eq {x a k : Nat} (h1 : x ≤ k * a) (h2 : k * a < x + a) : alignUp x a = k * a := by
  have ha : 0 < a := Nat.pos_of_ne_zero (by rintro rfl; omega)
  unfold alignUp
  rw [(Nat.div_eq_iff ha).2 (by omega : k * a ≤ x + a - 1 ∧ x + a - 1 ≤ k * a + a - 1)]

theorem alignUp_of_dvd {x a : Nat} (ha : 0 < a) (h : a ∣ x) : alignUp x a = x := by
  obtain ⟨k, rfl⟩ := h
  rw [Nat.mul_comm]; exact alignUp_eq (Nat.le_refl _) (by omega)

theorem alignUp_spec (x : Nat) {a : Nat} (ha : 0 < a) : ∃ m, alignUp x a = m * a ∧ x ≤ m * a ∧ m * a < x + a :=
  ⟨_, rfl, le_alignUp x ha, alignUp_lt x ha⟩

/-- why the bulk `extraSize` correction is right when every alignment divides the pointer size (where one does not:
    `wasm_maxalign8_not_a_fix`) -/
theorem alignUp_add_of_dvd {x e a : Nat} (ha : 0 < a) (h : a ∣ e) : alignUp (x + e) a = alignUp x a + e := by
  obtain ⟨j, rfl⟩ := h
  obtain ⟨m, hm, h1, h2⟩ := alignUp_spec x ha
  rw [hm, Nat.mul_comm a j, ← Nat.add_mul]
  apply alignUp_eq <;> rw [Nat.add_mul] <;> omega

/-- gc's extra byte for a zero-size tail is swallowed by the final rounding unless the tail offset is aligned -/
theorem alignUp_succ_of_not_dvd {x a : Nat} (ha : 0 < a) (h : ¬ a ∣ x) : alignUp (x + 1) a = alignUp x a := by
  obtain ⟨m, hm, h1, h2⟩ := alignUp_spec x ha
  have hne : x ≠ m * a := fun he => h ⟨m, he.trans (Nat.mul_comm m a)⟩
  rw [hm]
  exact alignUp_eq (by omega) (by omega)

theorem pad_eq_alignUp (x : Nat) {a : Nat} (ha : 0 < a) : x + (a - x % a) % a = alignUp x a := by
  have hx := Nat.div_add_mod x a
  have hm := Nat.mod_lt x ha
  by_cases h0 : x % a = 0
  · rw [h0, Nat.sub_zero, Nat.mod_self, Nat.add_zero, alignUp_of_dvd ha (Nat.dvd_of_mod_eq_zero h0)]
  · rw [Nat.mod_eq_of_lt (show a - x % a < a by omega), @alignUp_eq x a (x / a + 1)] <;>
      rw [Nat.add_mul, Nat.one_mul, Nat.mul_comm] <;> omega

/-! ## struct-layout loops -/

theorem maxAlignOf_cons (x : Nat × Nat) (r : List (Nat × Nat)) :
    maxAlignOf (x :: r) = if x.2 > maxAlignOf r then x.2 else maxAlignOf r := rfl

theorem lastOS_cons_cons (x y : Nat × Nat) (r : List (Nat × Nat)) (o : Nat) :
    lastOS (x :: y :: r) o = lastOS (y :: r) (alignUp o x.2 + x.1) := rfl

theorem lastOS_add_eq_endOff : ∀ (l : List (Nat × Nat)) (o : Nat), l ≠ [] → (lastOS l o).1 + (lastOS l o).2 = endOff l o
  | [], _, h => absurd rfl h
  | [_], _, _ => rfl
  | x :: p :: r, o, _ => lastOS_add_eq_endOff (p :: r) (alignUp o x.2 + x.1) (List.cons_ne_nil _ _)

theorem lastOS_concat : ∀ (m : List (Nat × Nat)) (q : Nat × Nat) (o : Nat),
    lastOS (m ++ [q]) o = (alignUp (endOff m o) q.2, q.1)
  | [], _, _ => rfl
  | [_], _, _ => rfl
  | _ :: y :: m, q, _ => lastOS_concat (y :: m) q _

theorem maxAlignOf_pos : ∀ l : List (Nat × Nat), 0 < maxAlignOf l
  | [] => Nat.one_pos
  | x :: r => by
    have := maxAlignOf_pos r
    rw [maxAlignOf_cons]; split <;> omega

theorem le_endOff : ∀ (l : List (Nat × Nat)) (o : Nat), (∀ q ∈ l, 0 < q.2) → o ≤ endOff l o
  | [], o, _ => Nat.le_refl o
  | x :: r, o, h => by
    have ih := le_endOff r (alignUp o x.2 + x.1) (fun y hy => h y (List.mem_cons_of_mem _ hy))
    have := le_alignUp o (h x List.mem_cons_self)
    show o ≤ endOff r (alignUp o x.2 + x.1); omega

theorem cPlace_eq_offsLoop : ∀ (l : List (Nat × Nat)) (o : Nat), (∀ q ∈ l, 0 < q.2) → cPlace l o = offsLoop l o
  | [], _, _ => rfl
  | (z, a) :: r, o, h => by
    have ha : 0 < a := h (z, a) List.mem_cons_self
    have ih := cPlace_eq_offsLoop r (alignUp o a + z) (fun p hp => h p (List.mem_cons_of_mem _ hp))
    simp only [cPlace, offsLoop, pad_eq_alignUp o ha, ih]

theorem cEnd_eq_endOff : ∀ (l : List (Nat × Nat)) (o : Nat), (∀ q ∈ l, 0 < q.2) → cEnd l o = endOff l o
  | [], _, _ => rfl
  | (z, a) :: r, o, h => by
    have ha : 0 < a := h (z, a) List.mem_cons_self
    have ih := cEnd_eq_endOff r (alignUp o a + z) (fun p hp => h p (List.mem_cons_of_mem _ hp))
    simp only [cEnd, endOff, pad_eq_alignUp o ha, ih]

theorem Basic.mem_all (b : Basic) : b ∈ Basic.all := by cases b <;> decide

theorem Basic.forall_of_all {P : Basic → Prop} (h : ∀ b ∈ Basic.all, P b) (b : Basic) : P b :=
  h b (Basic.mem_all b)

theorem Basic.all_all {f : Basic → Bool} (h : Basic.all.all f = true) (b : Basic) : f b = true :=
  Basic.forall_of_all (List.all_eq_true.1 h) b

theorem abiOKG_spec {tg : Target} {ba : Basic → Nat} (h : abiOKG tg ba = true) (b : Basic) : ba b = (llBasic tg b).2 :=
  eq_of_beq (Basic.all_all h b)

/-! ## the two shapes of a well-formed target -/

theorem wfTarget_gc {tg : Target} (h : wfTarget tg = true) : ∃ p, (p = 4 ∨ p = 8) ∧ tg = gcTarget p := by
  obtain ⟨p, gc, w, m, a8, a16, a32, a64, f32, f64, ap⟩ := tg
  simp only [wfTarget, Bool.and_eq_true, Bool.or_eq_true, beq_iff_eq] at h
  obtain ⟨⟨⟨⟨hgc, hw⟩, hp⟩, hm⟩, hall⟩ := h
  subst gc w m
  have hb := fun b => (eq_of_beq (Basic.all_all hall b)).symm
  refine ⟨p, hp, ?_⟩
  rw [gcTarget, Target.mk.injEq]
  -- `basicStdAlign` computes only for a literal `p`
  rcases hp with rfl | rfl <;>
    exact ⟨rfl, rfl, rfl, rfl, hb .int8, hb .int16, hb .int32, hb .int64, hb .float32, hb .float64, hb .unsafePointer⟩

theorem abiOKG_fixed {tg : Target} (h : wfTarget tg = true) : abiOKG tg (abiBasicAlignFixed tg) = true := by
  obtain ⟨p, rfl | rfl, rfl⟩ := wfTarget_gc h <;> decide

theorem llBasic_gc (p : Nat) (hp : p = 4 ∨ p = 8) :
    ∀ b, llBasic (gcTarget p) b = (basicSize (gcTarget p) b, basicStdAlign (gcTarget p) b) :=
  Basic.forall_of_all (by rcases hp with rfl | rfl <;> decide)

theorem abiBasicSize_gc (p : Nat) (hp : p = 4 ∨ p = 8) : ∀ b, abiBasicSize (gcTarget p) b = (llBasic (gcTarget p) b).1 :=
  Basic.forall_of_all (by rcases hp with rfl | rfl <;> decide)

theorem basicStdAlign_gc (p : Nat) (hp : p = 4 ∨ p = 8) : ∀ b, 0 < basicStdAlign (gcTarget p) b ∧
    basicStdAlign (gcTarget p) b ∣ p ∧ basicStdAlign (gcTarget p) b ∣ basicSize (gcTarget p) b :=
  Basic.forall_of_all (by rcases hp with rfl | rfl <;> decide)

theorem stdArraySize_gc (p n z a : Nat) : stdArraySize (gcTarget p) n z a = z * n := by
  unfold stdArraySize
  split
  · rename_i hc
    rcases hc with rfl | rfl
    · rfl
    · rw [Nat.zero_mul]
  · rfl

theorem tailOK_eq_false {l : List (Nat × Nat)} :
    tailOK l = false ↔ 0 < (lastOS l 0).1 ∧ (lastOS l 0).2 = 0 ∧ maxAlignOf l ∣ (lastOS l 0).1 := by
  simp only [tailOK, Bool.not_eq_false', Bool.and_eq_true, decide_eq_true_eq, beq_iff_eq, and_assoc,
    Nat.dvd_iff_mod_eq_zero]

theorem tailOK_eq_true {l : List (Nat × Nat)} :
    tailOK l = true ↔ ¬ (0 < (lastOS l 0).1 ∧ (lastOS l 0).2 = 0 ∧ maxAlignOf l ∣ (lastOS l 0).1) := by
  rw [← tailOK_eq_false, Bool.not_eq_false]

theorem stdStructSize_gc (p : Nat) (l : List (Nat × Nat)) (h : tailOK l = true) :
    stdStructSize (gcTarget p) l = alignUp (endOff l 0) (maxAlignOf l) := by
  unfold stdStructSize
  cases l with
  | nil => exact (alignUp_of_dvd Nat.one_pos (Nat.dvd_zero 1)).symm
  | cons x r =>
    have he := lastOS_add_eq_endOff (x :: r) 0 (List.cons_ne_nil _ _)
    simp only [List.isEmpty_cons, Bool.false_eq_true, if_false, gcTarget, if_true]
    split
    · rename_i hc
      rw [hc.2, Nat.add_zero] at he
      rw [← he]
      exact alignUp_succ_of_not_dvd (maxAlignOf_pos _) (fun hd => tailOK_eq_true.1 h ⟨hc.1, hc.2, hd⟩)
    · rw [he]

theorem stdStructSize_gc_padded (p : Nat) (l : List (Nat × Nat)) (h : tailOK l = false) :
    stdStructSize (gcTarget p) l = alignUp ((lastOS l 0).1 + 1) (maxAlignOf l) := by
  obtain ⟨ho, hz, _⟩ := tailOK_eq_false.1 h
  unfold stdStructSize
  cases l with
  | nil => exact absurd ho (Nat.lt_irrefl 0)
  | cons x r => simp only [List.isEmpty_cons, Bool.false_eq_true, if_false, gcTarget, if_true, if_pos (And.intro ho hz)]

theorem maxAlignOf_dvd_stdStructSize_gc (p : Nat) (l : List (Nat × Nat)) :
    maxAlignOf l ∣ stdStructSize (gcTarget p) l := by
  cases h : tailOK l
  · exact stdStructSize_gc_padded p l h ▸ alignUp_dvd _ _
  · exact stdStructSize_gc p l h ▸ alignUp_dvd _ _

theorem llStruct_lt_stdStructSize_gc (p : Nat) {l : List (Nat × Nat)} (h : tailOK l = false) :
    (llStruct l).1 < stdStructSize (gcTarget p) l := by
  obtain ⟨ho, hz, hd⟩ := tailOK_eq_false.1 h
  have he := lastOS_add_eq_endOff l 0 (by rintro rfl; exact Nat.lt_irrefl 0 ho)
  rw [stdStructSize_gc_padded p l h, llStruct, ← he, hz, Nat.add_zero, alignUp_of_dvd (maxAlignOf_pos l) hd]
  exact le_alignUp _ (maxAlignOf_pos l)

theorem endOff_le_stdStructSize_gc (p : Nat) (l : List (Nat × Nat)) : endOff l 0 ≤ stdStructSize (gcTarget p) l := by
  cases h : tailOK l
  · exact Nat.le_of_lt (Nat.lt_of_le_of_lt (le_alignUp _ (maxAlignOf_pos l)) (llStruct_lt_stdStructSize_gc p h))
  · rw [stdStructSize_gc p l h]
    exact le_alignUp _ (maxAlignOf_pos _)

/-! ## the shifting argument behind (a) = (b), on plain lists -/

/-- a field as gc sees it, with its `extraSize`; `stdOf` / `rawOf`: what gc lays out for the Go / the raw struct -/
structure Elem where
  size : Nat
  align : Nat
  extra : Nat

def stdOf (xs : List Elem) : List (Nat × Nat) := xs.map fun x => (x.size, x.align)
def rawOf (xs : List Elem) : List (Nat × Nat) := xs.map fun x => (x.size + x.extra, x.align)
def extraOf : List Elem → Nat
  | [] => 0
  | x :: xs => x.extra + extraOf xs
def cumOf : List Elem → Nat → List Nat
  | [], _ => []
  | x :: xs, E => E :: cumOf xs (E + x.extra)

theorem stdOf_cons (x : Elem) (xs : List Elem) : stdOf (x :: xs) = (x.size, x.align) :: stdOf xs := rfl
theorem rawOf_cons (x : Elem) (xs : List Elem) : rawOf (x :: xs) = (x.size + x.extra, x.align) :: rawOf xs := rfl
theorem stdOf_concat (xs : List Elem) (x : Elem) : stdOf (xs ++ [x]) = stdOf xs ++ [(x.size, x.align)] :=
  List.map_append
theorem rawOf_concat (xs : List Elem) (x : Elem) : rawOf (xs ++ [x]) = rawOf xs ++ [(x.size + x.extra, x.align)] :=
  List.map_append

/-- `size_pos`: an element that is corrected is not empty, so whatever follows it is not at offset 0. -/
structure ElemOK (p : Nat) (x : Elem) : Prop where
  pos : 0 < x.align
  dvd_ptr : x.align ∣ p
  dvd_size : x.align ∣ x.size
  ptr_dvd : p ∣ x.extra
  size_pos : 0 < x.extra → 0 < x.size

theorem ElemOK.of_extra_zero {p z a : Nat} (h : 0 < a ∧ a ∣ p ∧ a ∣ z) : ElemOK p ⟨z, a, 0⟩ :=
  ⟨h.1, h.2.1, h.2.2, Nat.dvd_zero _, fun h0 => absurd h0 (Nat.lt_irrefl 0)⟩

theorem ElemOK.alignUp_add {p : Nat} {x : Elem} (hx : ElemOK p x) (o : Nat) {E : Nat} (hE : p ∣ E) :
    alignUp (o + E) x.align = alignUp o x.align + E :=
  alignUp_add_of_dvd hx.pos (Nat.dvd_trans hx.dvd_ptr hE)

theorem maxAlignOf_rawOf : ∀ xs : List Elem, maxAlignOf (rawOf xs) = maxAlignOf (stdOf xs)
  | [] => rfl
  | x :: xs => by rw [rawOf_cons, stdOf_cons, maxAlignOf_cons, maxAlignOf_cons, maxAlignOf_rawOf xs]

theorem maxAlignOf_dvd {p : Nat} : ∀ xs : List Elem, (∀ x ∈ xs, ElemOK p x) → maxAlignOf (stdOf xs) ∣ p
  | [], _ => Nat.one_dvd _
  | x :: xs, h => by
    obtain ⟨hx, h⟩ := List.forall_mem_cons.1 h
    rw [stdOf_cons, maxAlignOf_cons]
    split
    · exact hx.dvd_ptr
    · exact maxAlignOf_dvd xs h

theorem dvd_extraOf {p : Nat} : ∀ xs : List Elem, (∀ x ∈ xs, ElemOK p x) → p ∣ extraOf xs
  | [], _ => Nat.dvd_zero _
  | _ :: xs, h =>
    let ⟨hx, h⟩ := List.forall_mem_cons.1 h
    (Nat.dvd_add_right hx.ptr_dvd).2 (dvd_extraOf xs h)

theorem offsLoop_rawOf {p : Nat} : ∀ xs : List Elem, (∀ x ∈ xs, ElemOK p x) → ∀ o E, p ∣ E →
    offsLoop (rawOf xs) (o + E) = List.zipWith (· + ·) (offsLoop (stdOf xs) o) (cumOf xs E)
  | [], _, _, _, _ => rfl
  | ⟨z, a, e⟩ :: xs, h, o, E, hE => by
    obtain ⟨hx, h⟩ := List.forall_mem_cons.1 h
    have hal : alignUp (o + E) a = alignUp o a + E := hx.alignUp_add o hE
    simp only [rawOf_cons, stdOf_cons, offsLoop, cumOf, List.zipWith_cons_cons]
    rw [hal, Nat.add_add_add_comm, offsLoop_rawOf xs h _ _ ((Nat.dvd_add_right hE).2 hx.ptr_dvd)]

theorem endOff_rawOf {p : Nat} : ∀ xs : List Elem, (∀ x ∈ xs, ElemOK p x) → ∀ o E, p ∣ E →
    endOff (rawOf xs) (o + E) = endOff (stdOf xs) o + E + extraOf xs
  | [], _, _, _, _ => rfl
  | ⟨z, a, e⟩ :: xs, h, o, E, hE => by
    obtain ⟨hx, h⟩ := List.forall_mem_cons.1 h
    have hal : alignUp (o + E) a = alignUp o a + E := hx.alignUp_add o hE
    simp only [rawOf_cons, stdOf_cons, endOff, extraOf]
    rw [hal, Nat.add_add_add_comm, endOff_rawOf xs h _ _ ((Nat.dvd_add_right hE).2 hx.ptr_dvd), Nat.add_assoc,
      Nat.add_assoc E, Nat.add_assoc]

theorem endOff_pos {p : Nat} : ∀ xs : List Elem, (∀ x ∈ xs, ElemOK p x) → ∀ o, 0 < extraOf xs → 0 < endOff (stdOf xs) o
  | [], _, _, hx => absurd hx (Nat.lt_irrefl 0)
  | ⟨z, a, e⟩ :: xs, h, o, hx => by
    obtain ⟨hxe, hxs⟩ := List.forall_mem_cons.1 h
    show 0 < endOff (stdOf xs) (alignUp o a + z)
    rcases Nat.eq_zero_or_pos e with rfl | he
    · exact endOff_pos xs hxs _ (by rwa [extraOf, Nat.zero_add] at hx)
    · exact Nat.lt_of_lt_of_le (Nat.lt_of_lt_of_le (hxe.size_pos he) (Nat.le_add_left z _))
        (le_endOff _ _ (List.forall_mem_map.2 fun x hx => (hxs x hx).pos))

/-- The tail moves by the whole words before it and grows by its own, so gc pads it among the enlarged elements only
    if it padded it before: a tail that moves did not start at offset 0, where gc does not pad. -/
theorem tailOK_rawOf {p : Nat} {xs : List Elem} (h : ∀ x ∈ xs, ElemOK p x) (ht : tailOK (stdOf xs) = true) :
    tailOK (rawOf xs) = true := by
  rcases List.eq_nil_or_concat xs with rfl | ⟨ys, ⟨z, a, e⟩, rfl⟩
  · rfl
  rw [List.concat_eq_append] at h ht ⊢
  have hys : ∀ y ∈ ys, ElemOK p y := fun y hy => h y (List.mem_append_left _ hy)
  have hx := h _ (List.mem_append_right _ List.mem_cons_self)
  have ha : 0 < a := hx.pos
  have hd := dvd_extraOf ys hys
  have hA := Nat.dvd_trans (maxAlignOf_dvd _ h) hd
  rw [stdOf_concat] at hA
  have he : endOff (rawOf ys) 0 = endOff (stdOf ys) 0 + extraOf ys := endOff_rawOf ys hys 0 0 (Nat.dvd_zero _)
  rw [tailOK_eq_true] at ht ⊢
  rw [maxAlignOf_rawOf]
  simp only [rawOf_concat, stdOf_concat, lastOS_concat] at ht ⊢
  rw [he, alignUp_add_of_dvd ha (Nat.dvd_trans hx.dvd_ptr hd)]
  rintro ⟨h1, h2, h3⟩
  refine ht ⟨?_, (Nat.add_eq_zero_iff.1 h2).1, (Nat.dvd_add_left hA).1 h3⟩
  rcases Nat.eq_zero_or_pos (extraOf ys) with h0 | hE
  · rwa [h0, Nat.add_zero] at h1
  · exact Nat.lt_of_lt_of_le (endOff_pos ys hys 0 hE) (le_alignUp _ ha)

theorem llStruct_rawOf {p : Nat} {xs : List Elem} (h : ∀ x ∈ xs, ElemOK p x) :
    llStruct (rawOf xs) = ((llStruct (stdOf xs)).1 + extraOf xs, (llStruct (stdOf xs)).2) := by
  have he : endOff (rawOf xs) 0 = endOff (stdOf xs) 0 + extraOf xs := endOff_rawOf xs h 0 0 (Nat.dvd_zero _)
  rw [llStruct, llStruct, maxAlignOf_rawOf, he,
    alignUp_add_of_dvd (maxAlignOf_pos _) (Nat.dvd_trans (maxAlignOf_dvd _ h) (dvd_extraOf _ h))]

theorem stdStructSize_rawOf {p : Nat} {xs : List Elem} (h : ∀ x ∈ xs, ElemOK p x) (ht : tailOK (stdOf xs) = true) :
    stdStructSize (gcTarget p) (rawOf xs) = stdStructSize (gcTarget p) (stdOf xs) + extraOf xs := by
  rw [stdStructSize_gc p _ (tailOK_rawOf h ht), stdStructSize_gc p _ ht]
  exact congrArg Prod.fst (llStruct_rawOf h)

/-! ## the layout invariants through the raw type -/

def elems (tg : Target) : Fields → List Elem
  | .nil => []
  | .cons t fs => ⟨(stdSA tg t).1, (stdSA tg t).2, extra tg t⟩ :: elems tg fs

theorem stdSAs_eq (tg : Target) : ∀ fs, stdSAs tg fs = stdOf (elems tg fs)
  | .nil => rfl
  | .cons t fs => by rw [stdSAs, elems, stdOf_cons, stdSAs_eq tg fs]

theorem extras_eq (tg : Target) : ∀ fs, extras tg fs = extraOf (elems tg fs)
  | .nil => rfl
  | .cons t fs => by rw [extras, elems, extraOf, extras_eq tg fs]

theorem cumExtras_eq (tg : Target) : ∀ fs E, cumExtras tg fs E = cumOf (elems tg fs) E
  | .nil, _ => rfl
  | .cons t fs, E => by rw [cumExtras, elems, cumOf, cumExtras_eq tg fs]

mutual
theorem elemOK (p : Nat) (hp : p = 4 ∨ p = 8) :
    ∀ t, ElemOK p ⟨(stdSA (gcTarget p) t).1, (stdSA (gcTarget p) t).2, extra (gcTarget p) t⟩
  | .basic b => .of_extra_zero (basicStdAlign_gc p hp b)
  | .pointer _ | .slice _ | .map _ _ | .chan _ | .closure | .iface _ => by
    rcases hp with rfl | rfl <;> exact .of_extra_zero (by simp only [stdSA]; decide)
  | .func => by rcases hp with rfl | rfl <;> constructor <;> decide
  | .named t => elemOK p hp t
  -- rests on `extra` having no alias case (`layout_alias_witness`), as do `.alias` in `rawInv` and `extra tg t == 0` in
  -- `padFree`
  | .alias t => let ih := elemOK p hp t; .of_extra_zero ⟨ih.pos, ih.dvd_ptr, ih.dvd_size⟩
  | .array n e => by
    have ih := elemOK p hp e
    refine ⟨ih.pos, ih.dvd_ptr, ?_, Nat.dvd_trans ih.ptr_dvd (Nat.dvd_mul_right _ _), ?_⟩ <;>
      simp only [stdSA, extra, stdArraySize_gc]
    · exact Nat.dvd_trans ih.dvd_size (Nat.dvd_mul_right _ _)
    · exact fun hx => Nat.mul_pos (ih.size_pos (Nat.pos_of_mul_pos_right hx)) (Nat.pos_of_mul_pos_left hx)
  | .struct fs => by
    have ih := elemsOK p hp fs
    refine ⟨maxAlignOf_pos _, ?_, maxAlignOf_dvd_stdStructSize_gc p _, ?_, ?_⟩ <;>
      simp only [stdSA, extra, stdSAs_eq, extras_eq]
    · exact maxAlignOf_dvd _ ih
    · exact dvd_extraOf _ ih
    · exact fun hx => Nat.lt_of_lt_of_le (endOff_pos _ ih 0 hx) (endOff_le_stdStructSize_gc p _)
theorem elemsOK (p : Nat) (hp : p = 4 ∨ p = 8) : ∀ fs, ∀ x ∈ elems (gcTarget p) fs, ElemOK p x
  | .nil => fun _ hx => (nomatch hx)
  | .cons t fs => List.forall_mem_cons.2 ⟨elemOK p hp t, elemsOK p hp fs⟩
end

theorem goSizeof_gc (p : Nat) (hp : p = 4 ∨ p = 8) (t : GoType) :
    goSizeof (gcTarget p) t = (stdSA (gcTarget p) t).1 + extra (gcTarget p) t := by
  have s := elemOK p hp t
  have hal := alignUp_of_dvd s.pos ((Nat.dvd_add_right s.dvd_size).2 (Nat.dvd_trans s.dvd_ptr s.ptr_dvd))
  unfold goSizeof
  simp only [hal]
  split <;> rfl

theorem padFree_struct (tg : Target) (fs : Fields) :
    padFree tg (.struct fs) = (padFrees tg fs && tailOK (stdSAs tg fs)) := rfl
theorem padFree_alias (tg : Target) (t : GoType) : padFree tg (.alias t) = (padFree tg t && extra tg t == 0) := rfl
theorem padFrees_cons (tg : Target) (t : GoType) (fs : Fields) :
    padFrees tg (.cons t fs) = (padFree tg t && padFrees tg fs) := rfl

mutual
theorem ll_std (p : Nat) (hp : p = 4 ∨ p = 8) : ∀ t, padFree (gcTarget p) t = true →
    llSA (gcTarget p) t = stdSA (gcTarget p) t
  | .basic b, _ => llBasic_gc p hp b
  | .pointer _, _ | .slice _, _ | .map _ _, _ | .chan _, _ | .func, _ | .closure, _ | .iface _, _ => by
    rcases hp with rfl | rfl <;> rfl
  | .named t, h => ll_std p hp t h
  | .alias t, h => ll_std p hp t (Bool.and_eq_true_iff.1 (padFree_alias _ t ▸ h)).1
  | .array n e, h => by
    have ih := ll_std p hp e h
    simp only [llSA, stdSA, ih, stdArraySize_gc, Nat.mul_comm n]
  | .struct fs, h => by
    rw [padFree_struct, Bool.and_eq_true] at h
    simp only [llSA, stdSA, llStruct, ll_stdF p hp fs h.1, stdStructSize_gc p _ h.2]
theorem ll_stdF (p : Nat) (hp : p = 4 ∨ p = 8) : ∀ fs, padFrees (gcTarget p) fs = true →
    llSAs (gcTarget p) fs = stdSAs (gcTarget p) fs
  | .nil, _ => rfl
  | .cons t fs, h => by
    rw [padFrees_cons, Bool.and_eq_true] at h
    simp only [llSAs, stdSAs, ll_std p hp t h.1, ll_stdF p hp fs h.2]
end

mutual
theorem toRaw_idem : ∀ t, toRaw (toRaw t) = toRaw t
  | .basic _ | .func | .closure | .iface _ => rfl
  | .pointer e => congrArg GoType.pointer (toRaw_idem e)
  | .slice e => congrArg GoType.slice (toRaw_idem e)
  | .map k v => by show GoType.map _ _ = GoType.map _ _; rw [toRaw_idem k, toRaw_idem v]
  | .chan e => congrArg GoType.chan (toRaw_idem e)
  | .array n e => congrArg (GoType.array n) (toRaw_idem e)
  | .struct fs => congrArg GoType.struct (toRaws_idem fs)
  | .named t => congrArg GoType.named (toRaw_idem t)
  | .alias t => toRaw_idem t
theorem toRaws_idem : ∀ fs, toRaws (toRaws fs) = toRaws fs
  | .nil => rfl
  | .cons t fs => by show Fields.cons _ _ = Fields.cons _ _; rw [toRaw_idem t, toRaws_idem fs]
end

theorem toRaw_mapBucket (tg : Target) (k v : GoType) :
    toRaw (mapBucket tg (toRaw k) (toRaw v)) = mapBucket tg (toRaw k) (toRaw v) := by
  simp only [mapBucket, toRaw, toRaws, apply_ite toRaw, toRaw_idem]

structure RawInv (tg : Target) (t : GoType) : Prop where
  pf : padFree tg (toRaw t) = true
  sa : stdSA tg (toRaw t) = ((stdSA tg t).1 + extra tg t, (stdSA tg t).2)
  offs : goOffsets tg t = (llvmLayout tg t).offsets

structure RawInvF (tg : Target) (fs : Fields) : Prop where
  pf : padFrees tg (toRaws fs) = true
  sas : stdSAs tg (toRaws fs) = rawOf (elems tg fs)

mutual
theorem rawInv (p : Nat) (hp : p = 4 ∨ p = 8) : ∀ t, padFree (gcTarget p) t = true → RawInv (gcTarget p) t
  | .basic _, _ | .pointer _, _ | .slice _, _ | .map _ _, _ | .chan _, _ | .iface _, _ => ⟨rfl, rfl, rfl⟩
  | .closure, _ | .func, _ => by rcases hp with rfl | rfl <;> exact ⟨rfl, rfl, rfl⟩
  -- `RawInv tg (.named t)` is `RawInv tg t` only after unfolding its fields, so `rawInv p hp t h` itself is not accepted
  | .named t, h => let ih := rawInv p hp t h; ⟨ih.pf, ih.sa, ih.offs⟩
  | .alias t, h => by
    rw [padFree_alias, Bool.and_eq_true, beq_iff_eq] at h
    have ih := rawInv p hp t h.1
    exact ⟨ih.pf, ih.sa.trans (by rw [h.2]; rfl), ih.offs⟩
  | .array n e, h => by
    have ih := rawInv p hp e h
    refine ⟨ih.pf, ?_, rfl⟩
    simp only [toRaw, stdSA, extra, stdArraySize_gc, ih.sa, Nat.add_mul]
  | .struct fs, h => by
    rw [padFree_struct, Bool.and_eq_true, stdSAs_eq] at h
    have ih := rawInvF p hp fs h.1
    have ok := elemsOK p hp fs
    refine ⟨?_, ?_, ?_⟩
    · simp only [toRaw, padFree, ih.pf, ih.sas, tailOK_rawOf ok h.2, Bool.and_self]
    · simp only [toRaw, stdSA, extra, ih.sas, stdSAs_eq, extras_eq, stdStructSize_rawOf ok h.2, maxAlignOf_rawOf]
    · show List.zipWith (· + ·) (offsLoop (stdSAs (gcTarget p) fs) 0) (cumExtras (gcTarget p) fs 0)
        = offsLoop (llSAs (gcTarget p) (toRaws fs)) 0
      rw [ll_stdF p hp _ ih.pf, ih.sas, stdSAs_eq, cumExtras_eq]
      exact (offsLoop_rawOf _ ok 0 0 (Nat.dvd_zero _)).symm
theorem rawInvF (p : Nat) (hp : p = 4 ∨ p = 8) : ∀ fs, padFrees (gcTarget p) fs = true → RawInvF (gcTarget p) fs
  | .nil, _ => ⟨rfl, rfl⟩
  | .cons t fs, h => by
    rw [padFrees_cons, Bool.and_eq_true] at h
    have it := rawInv p hp t h.1
    have ifs := rawInvF p hp fs h.2
    exact ⟨by simp only [toRaws, padFrees, it.pf, ifs.pf, Bool.and_self],
      by simp only [toRaws, stdSAs, elems, rawOf_cons, it.sa, ifs.sas]⟩
end

theorem go_eq_ll_gc (p : Nat) (hp : p = 4 ∨ p = 8) (t : GoType) (h : padFree (gcTarget p) t = true) :
    goSizes (gcTarget p) t = llvmLayout (gcTarget p) t := by
  have i := rawInv p hp t h
  rw [goSizes, i.offs, goSizeof_gc p hp t, goAlignof, llvmLayout, ll_std p hp _ i.pf, i.sa]

theorem go_eq_ll {tg : Target} (hw : wfTarget tg = true) {t : GoType} (h : padFree tg t = true) :
    goSizes tg t = llvmLayout tg t := by
  obtain ⟨p, hp, rfl⟩ := wfTarget_gc hw
  exact go_eq_ll_gc p hp t h

theorem padFree_toRaw {tg : Target} (hw : wfTarget tg = true) {t : GoType} (h : padFree tg t = true) :
    padFree tg (toRaw t) = true := by
  obtain ⟨p, hp, rfl⟩ := wfTarget_gc hw
  exact (rawInv p hp t h).pf

theorem zero_tail_size_lt {tg : Target} (hw : wfTarget tg = true) {fs : Fields} (hf : padFrees tg fs = true)
    (ht : tailOK (stdSAs tg fs) = false) :
    (llvmLayout tg (.struct fs)).size < (goSizes tg (.struct fs)).size := by
  obtain ⟨p, hp, rfl⟩ := wfTarget_gc hw
  have ih := rawInvF p hp fs hf
  have hll : (llvmLayout (gcTarget p) (.struct fs)).size
      = (llStruct (stdSAs (gcTarget p) fs)).1 + extras (gcTarget p) fs := by
    simp only [llvmLayout, toRaw, llSA, ll_stdF p hp _ ih.pf, ih.sas, llStruct_rawOf (elemsOK p hp fs), ← stdSAs_eq,
      ← extras_eq]
  have hgo : (goSizes (gcTarget p) (.struct fs)).size
      = stdStructSize (gcTarget p) (stdSAs (gcTarget p) fs) + extras (gcTarget p) fs := goSizeof_gc p hp (.struct fs)
  have hlt := llStruct_lt_stdStructSize_gc p ht
  rw [hll, hgo]
  omega

mutual
theorem abiAlign_ll (p : Nat) (hp : p = 4 ∨ p = 8) (ba : Basic → Nat) (hba : abiOKG (gcTarget p) ba = true) :
    ∀ t, abiAlignG (gcTarget p) ba t = (llSA (gcTarget p) t).2
  | .basic b => abiOKG_spec hba b
  | .pointer _ | .map _ _ | .chan _ | .slice _ | .iface _ | .func | .closure => by
    rcases hp with rfl | rfl <;> rfl
  | .named t => abiAlign_ll p hp ba hba t
  | .alias t => abiAlign_ll p hp ba hba t
  | .array _ e => abiAlign_ll p hp ba hba e
  | .struct fs => abiAligns_ll p hp ba hba fs
theorem abiAligns_ll (p : Nat) (hp : p = 4 ∨ p = 8) (ba : Basic → Nat) (hba : abiOKG (gcTarget p) ba = true) :
    ∀ fs, abiAlignsG (gcTarget p) ba fs = maxAlignOf (llSAs (gcTarget p) fs)
  | .nil => rfl
  | .cons t fs => by
    simp only [abiAlignsG, llSAs, maxAlignOf, abiAlign_ll p hp ba hba t, abiAligns_ll p hp ba hba fs]
end

theorem abi_invF (p : Nat) (hp : p = 4 ∨ p = 8) (fw : Nat) (ba : Basic → Nat) (hba : abiOKG (gcTarget p) ba = true) :
    ∀ fs, padFrees (gcTarget p) (toRaws fs) = true →
    abiAlignsG (gcTarget p) ba (toRaws fs) = maxAlignOf (llSAs (gcTarget p) (toRaws fs)) :=
  fun fs _ => abiAligns_ll p hp ba hba (toRaws fs)

/-- Holds for every `fw`: a raw type contains no `.func` (`toRaw .func = .closure`), so the signature case of
    `abiSizeG` is never reached — which is why descriptor sizes are right for the code as it is (`fw = 1`).
    `padFree` is needed because a struct descriptor records `goSizeof`. -/
theorem abiSize_eq (p : Nat) (hp : p = 4 ∨ p = 8) (fw : Nat) :
    ∀ r, padFree (gcTarget p) (toRaw r) = true → abiSizeG (gcTarget p) fw (toRaw r) = (llSA (gcTarget p) (toRaw r)).1
  | .basic b, _ => abiBasicSize_gc p hp b
  | .pointer _, _ | .map _ _, _ | .chan _, _ | .slice _, _ | .iface _, _ | .func, _ | .closure, _ => by
    rcases hp with rfl | rfl <;> rfl
  | .named t, h => abiSize_eq p hp fw t h
  | .alias t, h => abiSize_eq p hp fw t h
  | .array n e, h => by
    simp only [toRaw, abiSizeG, llSA, abiSize_eq p hp fw e h]
  | .struct fs, h => by
    have := congrArg Layout.size (go_eq_ll_gc p hp (toRaw (.struct fs)) h)
    rw [llvmLayout, toRaw_idem] at this
    exact this

theorem abi_eq_ll {tg : Target} (hw : wfTarget tg = true) (fw : Nat) {ba : Basic → Nat} (hba : abiOKG tg ba = true)
    {t : GoType} (h : padFree tg (toRaw t) = true) :
    (⟨abiSizeG tg fw (toRaw t), abiAlignG tg ba (toRaw t), abiOffsets tg t⟩ : Layout) = llvmLayout tg t := by
  obtain ⟨p, hp, rfl⟩ := wfTarget_gc hw
  unfold llvmLayout abiOffsets
  rw [abiSize_eq p hp fw t h, abiAlign_ll p hp ba hba]

theorem publicType_of_ne_closure {r : GoType} (h : r ≠ .closure) : publicType r = r := by
  cases r <;> first | rfl | exact absurd rfl h

theorem elemDesc_iff {tg : Target} (hw : wfTarget tg = true) (fw : Nat) {t : GoType} (h : padFree tg (toRaw t) = true) :
    elemDescSize tg fw t = (llvmLayout tg t).size ↔ fw = 2 ∨ toRaw t ≠ .closure := by
  obtain ⟨p, hp, rfl⟩ := wfTarget_gc hw
  unfold elemDescSize llvmLayout
  by_cases hc : toRaw t = .closure
  · have h2 : (llSA (gcTarget p) .closure).1 = 2 * p := by rcases hp with rfl | rfl <;> rfl
    have hp0 : 0 < p := by rcases hp with rfl | rfl <;> decide
    rw [hc]
    show fw * p = (llSA (gcTarget p) .closure).1 ↔ _
    rw [h2]
    exact ⟨fun he => Or.inl (Nat.eq_of_mul_eq_mul_right hp0 he), fun hf => hf.elim (· ▸ rfl) (absurd rfl)⟩
  · rw [publicType_of_ne_closure hc]
    exact iff_of_true (abiSize_eq p hp fw t h) (Or.inr hc)

/-! ## per-instance `unsafe.Offsetof` -/

theorem chainOffset_eq_spec : ∀ (ps : List Step) (sel : Nat), chainOffset sel ps = specOffset sel ps
  | [], sel => rfl
  | p :: ps, sel => by
    unfold chainOffset specOffset
    cases hpe : p.explicit
    · have ih := chainOffset_eq_spec ps (sel + p.off)
      simp only [Bool.false_eq_true, if_false, List.takeWhile_cons, hpe, Bool.not_false, if_true, List.map_cons,
        List.foldl_cons]
      rw [ih, specOffset, Nat.add_comm 0 p.off, List.foldl_assoc, Nat.add_assoc]
    · rw [if_pos rfl, List.takeWhile_cons, hpe]; rfl

/-! ## natural C layout -/

theorem wfC_basic {tg : Target} {cmax : Nat} (h : wfC tg cmax = true) (b : Basic) (hb : b ≠ .string) :
    llBasic tg b = cBasic tg cmax b ∧ 0 < (cBasic tg cmax b).2 := by
  simp only [wfC, Bool.and_eq_true, decide_eq_true_eq] at h
  obtain ⟨⟨hc, hp⟩, hall⟩ := h
  have := Basic.all_all hall b
  simp only [Bool.or_eq_true, beq_iff_eq] at this
  rcases this with h1 | h1
  · exact absurd h1 hb
  · refine ⟨h1.symm, ?_⟩
    -- every C alignment is 1 or `min k cmax` with `k` one of 2, 4, 8, `ptrSize` (`.string`, excluded by `hb`, goes along)
    cases b <;> first | exact Nat.one_pos | exact Nat.lt_min.2 ⟨by first | decide | exact hp, hc⟩

structure CInvF (tg : Target) (cmax : Nat) (fs : Fields) : Prop where
  sas : llSAs tg (toRaws fs) = cSAs tg cmax fs
  apos : ∀ p ∈ cSAs tg cmax fs, 0 < p.2

structure CInv (tg : Target) (cmax : Nat) (t : GoType) : Prop where
  sa : llSA tg (toRaw t) = cSA tg cmax t
  pos : 0 < (cSA tg cmax t).2
  offs : (llvmLayout tg t).offsets = cOffsets tg cmax t

mutual
theorem c_inv {tg : Target} {cmax : Nat} (h : wfC tg cmax = true) : ∀ t, isC t = true → CInv tg cmax t
  | .basic b, hc =>
    let hb := wfC_basic h b (by simpa [isC] using hc)
    ⟨hb.1, hb.2, rfl⟩
  | .pointer _, _ =>
    let hb := wfC_basic h .unsafePointer (by decide)
    ⟨hb.1, hb.2, rfl⟩
  | .array n e, hc => by
    have hc' : 0 < n ∧ isC e = true := by simpa [isC] using hc
    have ih := c_inv h e hc'.2
    exact ⟨by simp only [toRaw, llSA, cSA, ih.sa], ih.pos, rfl⟩
  | .named t, hc => let ih := c_inv h t hc; ⟨ih.sa, ih.pos, ih.offs⟩
  | .alias t, hc => let ih := c_inv h t hc; ⟨ih.sa, ih.pos, ih.offs⟩
  | .struct fs, hc => by
    have hc' : isCs fs = true := by
      simp only [isC, Bool.and_eq_true] at hc; exact hc.2
    have ih := c_invF h fs hc'
    have hA := maxAlignOf_pos (cSAs tg cmax fs)
    refine ⟨?_, hA, ?_⟩
    · simp only [toRaw, llSA, cSA, llStruct, ih.sas, pad_eq_alignUp _ hA, cEnd_eq_endOff _ _ ih.apos]
    · show offsLoop (llSAs tg (toRaws fs)) 0 = cPlace (cSAs tg cmax fs) 0
      rw [ih.sas, cPlace_eq_offsLoop _ _ ih.apos]
  | .slice _, hc | .map _ _, hc | .chan _, hc | .func, hc | .closure, hc | .iface _, hc => by simp [isC] at hc
theorem c_invF {tg : Target} {cmax : Nat} (h : wfC tg cmax = true) : ∀ fs, isCs fs = true → CInvF tg cmax fs
  | .nil, _ => ⟨rfl, fun _ hp => (nomatch hp)⟩
  | .cons t fs, hc => by
    have hc' : isC t = true ∧ isCs fs = true := by simpa [isCs] using hc
    have it := c_inv h t hc'.1
    have ifs := c_invF h fs hc'.2
    exact ⟨by simp only [toRaws, llSAs, cSAs, it.sa, ifs.sas], List.forall_mem_cons.2 ⟨it.pos, ifs.apos⟩⟩
end

theorem ll_eq_c {tg : Target} {cmax : Nat} (h : wfC tg cmax = true) (t : GoType) (hc : isC t = true) :
    llvmLayout tg t = cLayout tg cmax t := by
  obtain ⟨sa, _, offs⟩ := c_inv h t hc
  rw [cLayout, ← sa, ← offs, llvmLayout]

end LlgoVerif.Layout
