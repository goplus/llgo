import LlgoVerif.Lemmas.SoftFloat
/-! Symmetry of `cmpFV`, `addFV`, `mulFV`, `neg`; from `Fmt.Ok` on, one chain up to `decode_roundPack_exact` (an integer of at
    most `prec` bits is packed without rounding and decoded as it went in), for `int_float_int_exact` alone. -/
namespace LlgoVerif.FloatLaws
open LlgoVerif LlgoVerif.SoftFloat

def _root_.LlgoVerif.SoftFloat.Cmp.swap : Cmp → Cmp
  | .lt => .gt
  | .gt => .lt
  | c => c

theorem cmpInt_swap (u v : Int) : cmpInt v u = (cmpInt u v).swap := by
  unfold cmpInt
  rcases Int.lt_trichotomy u v with h | h | h
  · rw [if_pos h, if_neg (Int.lt_asymm h), if_neg (Int.ne_of_gt h)]; rfl
  · rw [h, if_neg (Int.lt_irrefl v), if_pos rfl]; rfl
  · rw [if_pos h, if_neg (Int.lt_asymm h), if_neg (Int.ne_of_gt h)]; rfl

theorem cmpFV_swap (a b : FV) : cmpFV b a = (cmpFV a b).swap := by
  cases a <;> cases b
  case fin.fin s m e t n f => simp only [cmpFV, Int.min_comm f e]; exact cmpInt_swap _ _
  case inf.inf s t => cases s <;> cases t <;> rfl
  case inf.fin s _ _ _ => cases s <;> rfl
  case fin.inf _ _ _ t => cases t <;> rfl
  all_goals rfl

theorem cmpInt_ne_un (u v : Int) : cmpInt u v ≠ .un := by
  unfold cmpInt; split
  · nofun
  · split <;> nofun

theorem cmpFV_un_iff (a b : FV) : cmpFV a b = .un ↔ a = .nan ∨ b = .nan := by
  cases a <;> cases b
  case fin.fin => exact iff_of_false (cmpInt_ne_un _ _) (by simp)
  case inf.inf s t => cases s <;> cases t <;> simp [cmpFV]
  case inf.fin s _ _ _ => cases s <;> simp [cmpFV]
  case fin.inf _ _ _ t => cases t <;> simp [cmpFV]
  all_goals simp [cmpFV]

theorem addFV_comm (F : Fmt) (a b : FV) : addFV F a b = addFV F b a := by
  cases a <;> cases b
  case inf.inf s t => cases s <;> cases t <;> rfl
  case fin.fin sa ma ea sb mb eb =>
    simp only [addFV, Int.min_comm eb ea, Int.add_comm (scaled sb mb eb _), Bool.and_comm sb sa]
  all_goals rfl

theorem mulFV_comm (F : Fmt) (a b : FV) : mulFV F a b = mulFV F b a := by
  cases a <;> cases b
  case fin.fin sa ma ea sb mb eb => simp only [mulFV, Nat.mul_comm mb ma, Int.add_comm eb ea, bne_comm (a := sb)]
  case inf.inf s t => simp only [mulFV, bne_comm (a := t)]
  case inf.fin s t _ _ => simp only [mulFV, bne_comm (a := t)]
  case fin.inf s _ _ t => simp only [mulFV, bne_comm (a := t)]
  all_goals rfl

theorem signOf_eq (F : Fmt) (n : Nat) (hn : n < 2 * F.signMask) : signOf F n = decide (F.signMask ≤ n) := by
  unfold signOf
  generalize F.signMask = S at *
  by_cases h : S ≤ n
  · rw [Nat.div_eq_of_lt_le (k := 1) (by omega) (by omega)]; simp [h]
  · rw [Nat.div_eq_of_lt (by omega)]; simp [h]

theorem neg_eq (F : Fmt) (n : Nat) (hn : n < 2 * F.signMask) :
    SoftFloat.neg F n = if F.signMask ≤ n then n - F.signMask else n + F.signMask := by
  unfold SoftFloat.neg; rw [signOf_eq F n hn]; simp only [decide_eq_true_eq]

theorem neg_involutive (F : Fmt) (n : Nat) (hn : n < 2 * F.signMask) :
    SoftFloat.neg F n < 2 * F.signMask ∧ SoftFloat.neg F (SoftFloat.neg F n) = n := by
  have key := neg_eq F
  generalize F.signMask = S at key hn ⊢
  by_cases h : S ≤ n
  · obtain ⟨d, rfl⟩ := Nat.exists_eq_add_of_le h
    have h1 : SoftFloat.neg F (S + d) = d := by rw [key _ hn, if_pos h, Nat.add_sub_cancel_left]
    rw [h1, key d (by omega), if_neg (by omega)]
    exact ⟨by omega, Nat.add_comm d S⟩
  · have h1 : SoftFloat.neg F n = n + S := by rw [key n hn, if_neg h]
    rw [h1, key (n + S) (by omega), if_pos (Nat.le_add_left S n), Nat.add_sub_cancel]
    exact ⟨by omega, rfl⟩

/-- side conditions every IEEE interchange format meets (binary32: 8/23, binary64: 11/52); `mlt` gives `mbits + 2 ≤ bias`
    (`bias_facts`), so that every exponent `-j`, `j ≤ mbits`, of a normalised integer is a normal exponent (`normal_of_neg_le`) -/
structure Fmt.Ok (F : Fmt) : Prop where
  e2 : 2 ≤ F.ebits
  mlt : F.mbits + 2 < 2 ^ (F.ebits - 1)

theorem ok32 : Fmt.Ok f32 := ⟨by decide, by decide⟩
theorem ok64 : Fmt.Ok f64 := ⟨by decide, by decide⟩

theorem fields_of_sum (A B s E M : Nat) (hM : M < A) (hE : E < B) :
    (s * (A * B) + (E * A + M)) % A = M ∧ (s * (A * B) + (E * A + M)) / A % B = E ∧
      (s * (A * B) + (E * A + M)) / (A * B) = s := by
  have hA : 0 < A := Nat.lt_of_le_of_lt (Nat.zero_le M) hM
  have hB : 0 < B := Nat.lt_of_le_of_lt (Nat.zero_le E) hE
  have hn : s * (A * B) + (E * A + M) = M + (E + s * B) * A := by
    rw [Nat.add_mul, Nat.mul_comm A B, Nat.mul_assoc]; omega
  have hd : (M + (E + s * B) * A) / A = E + s * B := by
    rw [Nat.add_mul_div_right _ _ hA, Nat.div_eq_of_lt hM, Nat.zero_add]
  rw [← Nat.div_div_eq_div_mul, hn, hd]
  refine ⟨?_, ?_, ?_⟩
  · rw [Nat.add_mul_mod_self_right, Nat.mod_eq_of_lt hM]
  · rw [Nat.add_mul_mod_self_right, Nat.mod_eq_of_lt hE]
  · rw [Nat.add_mul_div_right _ _ hB, Nat.div_eq_of_lt hE, Nat.zero_add]

theorem decode_bits (F : Fmt) (neg : Bool) (E M : Nat) (hM : M < 2 ^ F.mbits) (hE : E < 2 ^ F.ebits) :
    signOf F (sgn F neg + (E * 2 ^ F.mbits + M)) = neg ∧ expField F (sgn F neg + (E * 2 ^ F.mbits + M)) = E
      ∧ manField F (sgn F neg + (E * 2 ^ F.mbits + M)) = M := by
  have hmask : F.signMask = 2 ^ F.mbits * 2 ^ F.ebits := by rw [← Nat.pow_add, Nat.add_comm]; rfl
  have hs : sgn F neg = (if neg then 1 else 0) * (2 ^ F.mbits * 2 ^ F.ebits) := by
    rw [← hmask]; cases neg <;> simp [sgn]
  obtain ⟨h1, h2, h3⟩ := fields_of_sum _ _ (if neg then 1 else 0) E M hM hE
  unfold signOf expField manField
  rw [hs, h1, h2, hmask, h3]
  cases neg <;> simp

theorem pack_normal (F : Fmt) (neg : Bool) (M E0 : Nat) (hM : M < 2 ^ F.mbits) (hE : E0 + 2 ≤ F.emax) :
    pack F neg (2 ^ F.mbits + M) (F.emin + E0) = sgn F neg + ((E0 + 1) * 2 ^ F.mbits + M) := by
  have hE0 : (F.emin + E0 - F.emin).toNat = E0 := by omega
  have h2 : (E0 + 2) * 2 ^ F.mbits ≤ F.emax * 2 ^ F.mbits := Nat.mul_le_mul_right _ hE
  unfold pack
  simp only [hE0]
  generalize 2 ^ F.mbits = A at *
  rw [Nat.add_mul] at h2
  rw [if_neg (by omega), Nat.add_mul, Nat.one_mul, Nat.add_assoc]

theorem decode_pack (F : Fmt) (neg : Bool) (q : Nat) (e : Int)
    (hq1 : 2 ^ F.mbits ≤ q) (hq2 : q < 2 ^ (F.mbits + 1)) (he1 : F.emin ≤ e) (he2 : (e - F.emin).toNat + 2 ≤ F.emax) :
    decode F (pack F neg q e) = .fin neg q e := by
  obtain ⟨M, rfl⟩ := Nat.exists_eq_add_of_le hq1
  obtain ⟨E0, rfl⟩ : ∃ E0 : Nat, e = F.emin + E0 := ⟨(e - F.emin).toNat, by omega⟩
  have hE : E0 + 2 ≤ F.emax := by omega
  have hM : M < 2 ^ F.mbits := by rw [Nat.pow_succ] at hq2; omega
  have hemax : F.emax < 2 ^ F.ebits := Nat.sub_lt (Nat.two_pow_pos _) Nat.one_pos
  obtain ⟨h1, h2, h3⟩ := decode_bits F neg (E0 + 1) M hM (by omega)
  unfold decode
  simp only [pack_normal F neg M E0 hM hE, h1, h2, h3]
  rw [if_neg (by omega), if_neg (Nat.succ_ne_zero _), Nat.add_sub_cancel]

theorem bias_facts (F : Fmt) (ok : Fmt.Ok F) : F.mbits + 2 ≤ F.bias ∧ F.emax = 2 * F.bias + 1 := by
  have h := ok.mlt
  have h2 : 2 ^ F.ebits = 2 * 2 ^ (F.ebits - 1) := by
    rw [← Nat.pow_succ', Nat.succ_eq_add_one, Nat.sub_add_cancel (Nat.le_of_succ_le ok.e2)]
  unfold Fmt.bias Fmt.emax
  omega

theorem decode_zero (F : Fmt) (ok : Fmt.Ok F) : decode F 0 = .fin false 0 F.emin := by
  have ⟨_, h2⟩ := bias_facts F ok
  unfold decode signOf expField manField
  have : ¬ (0 = F.emax) := by omega
  simp [Nat.zero_div, this]

theorem bitLen_bounds {m : Nat} (hm : m ≠ 0) : 0 < bitLen m ∧ 2 ^ (bitLen m - 1) ≤ m ∧ m < 2 ^ bitLen m := by
  unfold bitLen; rw [if_neg hm]
  exact ⟨Nat.succ_pos _, Nat.log2_self_le hm, Nat.lt_log2_self⟩

theorem bitLen_le {m p : Nat} (hm : m ≠ 0) (h : m < 2 ^ p) : bitLen m ≤ p := by
  obtain ⟨_, h1, _⟩ := bitLen_bounds hm
  have := (Nat.pow_lt_pow_iff_right (by decide : 1 < 2)).1 (Nat.lt_of_le_of_lt h1 h)
  omega

theorem shift_to_prec {m j p : Nat} (hm : m ≠ 0) (hj : bitLen m + j = p + 1) :
    2 ^ p ≤ m * 2 ^ j ∧ m * 2 ^ j < 2 ^ (p + 1) := by
  obtain ⟨h0, h1, h2⟩ := bitLen_bounds hm
  constructor
  · have : p = bitLen m - 1 + j := by omega
    rw [this, Nat.pow_add]; exact Nat.mul_le_mul_right _ h1
  · rw [← hj, Nat.pow_add]; exact Nat.mul_lt_mul_of_pos_right h2 (Nat.two_pow_pos j)

theorem roundPack_exact (F : Fmt) (neg : Bool) (m j : Nat) (e : Int) (hm : m ≠ 0)
    (hj : bitLen m + j = F.prec) (he : F.emin ≤ e - j) :
    roundPack F neg m e = pack F neg (m * 2 ^ j) (e - j) := by
  have hs : max ((bitLen m : Int) - (F.prec : Int)) (F.emin - e) = -(j : Int) := by omega
  unfold roundPack
  simp only [hs]
  rw [if_neg hm, if_pos (by omega), Int.natAbs_neg, Int.natAbs_natCast, Nat.shiftLeft_eq, Int.sub_eq_add_neg]

theorem truncFV_scaled (s : Bool) (m j : Nat) :
    truncFV (.fin s (m * 2 ^ j) (-(j : Int))) = some (if s then -(m : Int) else (m : Int)) := by
  have ht : (if 0 ≤ -(j : Int) then (m * 2 ^ j) <<< (-(j : Int)).toNat else (m * 2 ^ j) >>> (- -(j : Int)).toNat) = m := by
    split
    · have : j = 0 := by omega
      subst this; simp
    · rw [Int.neg_neg, Int.toNat_natCast, Nat.shiftRight_eq_div_pow, Nat.mul_div_cancel _ (Nat.two_pow_pos _)]
  simp only [truncFV, ht]

theorem decode_roundPack_exact (F : Fmt) (neg : Bool) (m j : Nat) (e : Int) (hm : m ≠ 0)
    (hj : bitLen m + j = F.prec) (he1 : F.emin ≤ e - j) (he2 : (e - j - F.emin).toNat + 2 ≤ F.emax) :
    decode F (roundPack F neg m e) = .fin neg (m * 2 ^ j) (e - j) := by
  obtain ⟨h1, h2⟩ := shift_to_prec hm hj
  rw [roundPack_exact F neg m j e hm hj he1, decode_pack F neg _ _ h1 h2 he1 he2]

theorem normal_of_neg_le (F : Fmt) (ok : Fmt.Ok F) (j : Nat) (h : j ≤ F.mbits) :
    F.emin ≤ 0 - (j : Int) ∧ (0 - (j : Int) - F.emin).toNat + 2 ≤ F.emax := by
  obtain ⟨hb1, hb2⟩ := bias_facts F ok
  unfold Fmt.emin; omega

end LlgoVerif.FloatLaws
