import LlgoVerif.Spec.SysV
/-!
# C09 — lemmas about `Model/CAbi.lean` and `Spec/SysV.lean` that need no layout invariant
-/

namespace LlgoVerif.CAbi
open LlgoVerif.SysV

theorem alignUp_dvd (x a : Nat) : a ∣ alignUp x a := Nat.dvd_mul_left _ _

theorem le_alignUp (x a : Nat) (ha : 0 < a) : x ≤ alignUp x a := by
  unfold alignUp
  have := Nat.lt_div_mul_add (a := x + a - 1) ha
  omega

theorem alignUp_le_of_dvd {x y a : Nat} (hxy : x ≤ y) (hy : a ∣ y) : alignUp x a ≤ y := by
  obtain ⟨q, rfl⟩ := hy
  rcases Nat.eq_zero_or_pos a with rfl | ha
  · simp [alignUp]
  · unfold alignUp
    rw [Nat.mul_comm a q]
    apply Nat.mul_le_mul_right
    apply Nat.le_of_lt_succ
    rw [Nat.div_lt_iff_lt_mul ha, Nat.succ_mul, Nat.mul_comm q a]
    omega

theorem alignUp_of_dvd {x a : Nat} (ha : 0 < a) (h : a ∣ x) : alignUp x a = x :=
  Nat.le_antisymm (alignUp_le_of_dvd (Nat.le_refl x) h) (le_alignUp x a ha)

theorem alignUp_add_mul (x k a : Nat) (ha : 0 < a) : alignUp (x + k * a) a = alignUp x a + k * a := by
  unfold alignUp
  rw [show x + k * a + a - 1 = x + a - 1 + k * a by omega, Nat.add_mul_div_right _ _ ha, Nat.add_mul]

theorem add_le_of_dvd_of_lt {a x y : Nat} (hx : a ∣ x) (hy : a ∣ y) (h : x < y) : x + a ≤ y :=
  Nat.le_of_lt_add_of_dvd (Nat.add_lt_add_right h a) (Nat.dvd_add hx (Nat.dvd_refl a)) hy

theorem alignUp_add_le {a b B x : Nat} (hb : a ∣ b) (hB : a ∣ B) (h : b + x ≤ B) : b + alignUp x a ≤ B := by
  have : alignUp x a ≤ B - b := alignUp_le_of_dvd (by omega) (Nat.dvd_sub hB hb)
  omega

theorem add_mod_eq_zero {a x y : Nat} (hx : x % a = 0) (hy : y % a = 0) : (x + y) % a = 0 :=
  Nat.mod_eq_zero_of_dvd (Nat.dvd_add (Nat.dvd_of_mod_eq_zero hx) (Nat.dvd_of_mod_eq_zero hy))

/-- the sizes, hence the alignments, of the universe's scalars; all divide the eightbyte -/
def Pow8 (a : Nat) : Prop := a = 1 ∨ a = 2 ∨ a = 4 ∨ a = 8

theorem Pow8.pos {a : Nat} (h : Pow8 a) : 0 < a := by rcases h with h | h | h | h <;> omega

theorem Pow8.le8 {a : Nat} (h : Pow8 a) : a ≤ 8 := by rcases h with h | h | h | h <;> omega

theorem Pow8.dvd {a b : Nat} (ha : Pow8 a) (hb : Pow8 b) (hle : a ≤ b) : a ∣ b := by
  rcases ha with rfl | rfl | rfl | rfl <;> rcases hb with rfl | rfl | rfl | rfl <;> omega

theorem Pow8.mod_eq_zero {a b x : Nat} (ha : Pow8 a) (hb : Pow8 b) (hle : a ≤ b) (h : x % b = 0) : x % a = 0 :=
  Nat.mod_eq_zero_of_dvd (Nat.dvd_trans (ha.dvd hb hle) (Nat.dvd_of_mod_eq_zero h))

theorem Pow8.dvd8 {a : Nat} (h : Pow8 a) : a ∣ 8 := h.dvd (.inr (.inr (.inr rfl))) h.le8

theorem Pow8.max {a b : Nat} (ha : Pow8 a) (hb : Pow8 b) : Pow8 (max a b) := by
  rcases Nat.le_total a b with h | h
  · rwa [Nat.max_eq_right h]
  · rwa [Nat.max_eq_left h]

theorem pow8_size (s : Scalar) : Pow8 s.size := by cases s <;> simp [Pow8, Scalar.size]

theorem size_pos (s : Scalar) : 0 < s.size := (pow8_size s).pos

theorem size_le8 (s : Scalar) : s.size ≤ 8 := (pow8_size s).le8

theorem pow8_maxAlign (l : List Scalar) : Pow8 (maxAlign l) := by
  induction l with
  | nil => exact .inl rfl
  | cons s r ih => exact (pow8_size s).max ih

theorem alignUp_add8 (x : Nat) {a : Nat} (ha : Pow8 a) : alignUp (x + 8) a = alignUp x a + 8 := by
  obtain ⟨k, hk⟩ := ha.dvd8
  rw [hk, Nat.mul_comm a k, alignUp_add_mul x k a ha.pos]

/-- Go's `(offset + size + align-1) &^ (align-1)` is "align the start, then add the size" -/
theorem alignUp_add_size (c : Nat) (s : Scalar) : alignUp (c + s.size) s.size = alignUp c s.size + s.size := by
  simpa using alignUp_add_mul c 1 s.size (size_pos s)

theorem natLayout_types (l : List Scalar) (c : Nat) : (natLayout l c).map (·.2) = l := by
  induction l generalizing c with
  | nil => rfl
  | cons s r ih => simp only [natLayout, List.map_cons, ih]

theorem natEnd_shift8 (l : List Scalar) (c : Nat) : natEnd l (c + 8) = natEnd l c + 8 := by
  induction l generalizing c with
  | nil => rfl
  | cons s r ih =>
    simp only [natEnd]
    rw [alignUp_add8 c (pow8_size s), Nat.add_right_comm, ih]

theorem natLayout_append (a b : List Scalar) (c : Nat) :
    natLayout (a ++ b) c = natLayout a c ++ natLayout b (natEnd a c) := by
  induction a generalizing c with
  | nil => rfl
  | cons s r ih => simp only [List.cons_append, natLayout, natEnd, ih]

theorem natEnd_append (a b : List Scalar) (c : Nat) : natEnd (a ++ b) c = natEnd b (natEnd a c) := by
  induction a generalizing c with
  | nil => rfl
  | cons s r ih => simp only [List.cons_append, natEnd, ih]

theorem subFold_eq_natEnd (l : List Scalar) (n : Nat) : subFold l n = natEnd l n := by
  induction l generalizing n with
  | nil => rfl
  | cons s r ih => simp only [subFold, natEnd]; rw [alignUp_add_size, ih]

theorem splitIndex_cons_lt {e : Elem} (l : List Elem) (h : e.1 < 8) : splitIndex (e :: l) = splitIndex l + 1 := by
  unfold splitIndex; rw [List.takeWhile_cons, if_pos (decide_eq_true h)]; rfl

theorem splitIndex_cons_ge {e : Elem} (l : List Elem) (h : 8 ≤ e.1) : splitIndex (e :: l) = 0 := by
  unfold splitIndex; rw [List.takeWhile_cons, if_neg (by simpa using h)]; rfl

theorem splitIndex_spec (l : List Elem) :
    ∃ L R, l = L ++ R ∧ splitIndex l = L.length ∧ (∀ e ∈ L, e.1 < 8) ∧ ∀ x r, R = x :: r → 8 ≤ x.1 :=
  ⟨_, _, List.takeWhile_append_dropWhile.symm, rfl,
    fun e he => by simpa using List.all_eq_true.mp List.all_takeWhile e he,
    fun x r h => by simpa [h] using List.head?_dropWhile_not (fun e : Elem => decide (e.1 < 8)) l⟩

theorem splitIndex_natLayout_ge (l : List Scalar) {c : Nat} (h : 8 ≤ c) : splitIndex (natLayout l c) = 0 := by
  cases l with
  | nil => rfl
  | cons s r => exact splitIndex_cons_ge _ (Nat.le_trans h (le_alignUp c _ (size_pos s)))

theorem Pow8.no_straddle {a o : Nat} (ha : Pow8 a) (hd : a ∣ o) (h : o < 8) : o + a ≤ 8 :=
  add_le_of_dvd_of_lt hd ha.dvd8 h

/-- the loop's running offset is the end of the scalar in the natural layout; it leaves at the scalar that ends at byte 8, or at
    the first one that ends beyond, which then starts at byte 8 exactly (`no_straddle`) -/
theorem splitLoop_spec (types : List Scalar) (cur i : Nat) (hcur : cur < 8) (hend : 8 < natEnd types cur) :
    splitLoop types cur i = i + splitIndex (natLayout types cur) ∧
      natEnd types cur = natEnd (types.drop (splitIndex (natLayout types cur))) 8 := by
  induction types generalizing cur i with
  | nil => exact absurd hend (by simp only [natEnd]; omega)
  | cons s r ih =>
    have hpos := size_pos s
    simp only [splitLoop, natLayout]
    rw [alignUp_add_size]
    rcases Nat.lt_or_ge (alignUp cur s.size) 8 with hlt | hge
    · have hns := (pow8_size s).no_straddle (alignUp_dvd cur s.size) hlt
      rw [splitIndex_cons_lt _ hlt]
      by_cases h1 : alignUp cur s.size + s.size < 8
      · obtain ⟨hk, he⟩ := ih (alignUp cur s.size + s.size) (i + 1) h1 hend
        rw [if_pos h1, hk]
        exact ⟨by omega, he⟩
      · have he8 : alignUp cur s.size + s.size = 8 := by omega
        rw [if_neg h1, if_neg (by omega), he8, splitIndex_natLayout_ge r (Nat.le_refl 8)]
        exact ⟨rfl, congrArg (natEnd r) he8⟩
    · have hstart : alignUp cur s.size = 8 :=
        Nat.le_antisymm (alignUp_le_of_dvd (by omega) (pow8_size s).dvd8) hge
      rw [if_neg (by omega), if_pos (by omega), splitIndex_cons_ge _ hge]
      refine ⟨rfl, ?_⟩
      show natEnd r (alignUp cur s.size + s.size) = natEnd r (alignUp 8 s.size + s.size)
      rw [hstart, alignUp_of_dvd hpos (pow8_size s).dvd8]

def clsList : List Scalar → Class
  | [] => .noClass
  | s :: r => merge (clsOf s) (clsList r)

theorem merge_assoc (a b c : Class) : merge (merge a b) c = merge a (merge b c) := by
  cases a <;> cases b <;> cases c <;> rfl

theorem merge_noClass_right (a : Class) : merge a .noClass = a := by cases a <;> rfl

theorem ebClass_append (a b : List Elem) (k : Nat) : ebClass (a ++ b) k = merge (ebClass a k) (ebClass b k) := by
  induction a with
  | nil => simp [ebClass, merge]
  | cons e r ih =>
    simp only [List.cons_append, ebClass]
    split
    · rw [ih, merge_assoc]
    · exact ih

theorem ebClass_in (l : List Elem) (k : Nat) (h : ∀ e ∈ l, e.1 / 8 = k) : ebClass l k = clsList (l.map (·.2)) := by
  induction l with
  | nil => simp [ebClass, clsList]
  | cons e r ih =>
    have he := h e (by simp)
    simp only [ebClass, he, if_true, List.map_cons, clsList]
    rw [ih (fun x hx => h x (by simp [hx]))]

theorem ebClass_out (l : List Elem) (k : Nat) (h : ∀ e ∈ l, e.1 / 8 ≠ k) : ebClass l k = .noClass := by
  induction l with
  | nil => simp [ebClass]
  | cons e r ih =>
    have he := h e (by simp)
    simp only [ebClass, he, if_false]
    exact ih (fun x hx => h x (by simp [hx]))

theorem clsOf_ne_noClass (s : Scalar) : clsOf s ≠ .noClass := by cases s <;> simp [clsOf, Scalar.isSSE]

theorem clsList_cons (s : Scalar) (r : List Scalar) :
    clsList (s :: r) = if (s :: r).all (·.isSSE) then .sse else .integer := by
  induction r generalizing s with
  | nil => cases s <;> rfl
  | cons b r ih =>
    rw [clsList, ih, List.all_cons (a := s)]
    generalize (b :: r).all (·.isSSE) = c
    cases s <;> cases c <;> rfl

theorem isSSE_size (s : Scalar) (h : s.isSSE = true) : 4 ≤ s.size := by cases s <;> simp_all [Scalar.isSSE, Scalar.size]

theorem isSSE_size4 (s : Scalar) (h : s.isSSE = true) (h4 : s.size ≤ 4) : s = .f32 := by
  cases s <;> simp_all [Scalar.isSSE, Scalar.size]

theorem regTy_isSSE (s : Scalar) : s.regTy.isSSE = s.isSSE := by cases s <;> rfl
theorem regTy_bytes (s : Scalar) : s.regTy.bytes = s.size := by cases s <;> rfl
theorem regTy_abiAlign (s : Scalar) : s.regTy.abiAlign = s.size := by cases s <;> rfl
theorem regCls_regTy (s : Scalar) : regCls s.regTy = clsOf s := by cases s <;> rfl

theorem clsOf_sse_iff (s : Scalar) : decide (clsOf s = .sse) = s.isSSE := by cases s <;> rfl

theorem allocSize_regTy (s : Scalar) : s.regTy.allocSize = s.size := by
  unfold RegTy.allocSize
  rw [regTy_bytes, regTy_abiAlign]
  exact alignUp_of_dvd (size_pos _) (Nat.dvd_refl _)

theorem off2_regTy (a b : Scalar) : off2 a.regTy b.regTy = alignUp a.size b.size := by
  unfold off2
  rw [allocSize_regTy, regTy_abiAlign]

theorem kindImage_regs {pk : PassKind} {v : View} (hm : pk ≠ .memory) :
    kindImage pk v = .regs ((kindRegs pk v).map fun p => (regCls p.2, p.1)) := by
  cases pk <;> first | rfl | exact absurd rfl hm

theorem classifyAgg_large {size : Nat} (elems : List Elem) (h16 : 16 < size) : classifyAgg size elems = .memory := by
  unfold classifyAgg
  rw [if_neg (by omega), if_pos h16]

theorem regImage_two (v : View) (h8 : 8 < v.size) (h16 : v.size ≤ 16) :
    regImage v = .regs [(ebClass v.elems 0, 0), (ebClass v.elems 1, 8)] := by
  have h2 : (v.size + 7) / 8 = 2 := by omega
  unfold regImage classifyAgg
  rw [if_neg (by omega), if_neg (by omega), h2]
  rfl

theorem regImage_one (v : View) (h0 : v.size ≠ 0) (h8 : v.size ≤ 8) : regImage v = .regs [(ebClass v.elems 0, 0)] := by
  have h2 : (v.size + 7) / 8 = 1 := by omega
  unfold regImage classifyAgg
  rw [if_neg h0, if_neg (by omega), h2]
  rfl

theorem flat_fields (fs : List Scalar) (cur : Nat) :
    elemsL (fs.map .sc) cur = natLayout fs cur ∧ endL (fs.map .sc) cur = natEnd fs cur ∧
      alignL (fs.map .sc) = maxAlign fs ∧ flattenL (fs.map .sc) = fs := by
  induction fs generalizing cur with
  | nil => exact ⟨rfl, rfl, rfl, rfl⟩
  | cons s r ih =>
    obtain ⟨he, hn, ha, hf⟩ := ih (alignUp cur s.size + s.size)
    simp only [List.map_cons, elemsL, endL, alignL, flattenL, CType.elems, CType.align, CType.size, CType.flatten, shift,
      natLayout, natEnd, maxAlign, he, hn, ha, hf, List.map_nil, Nat.zero_add, List.cons_append, List.nil_append, and_self]

theorem view_flat (fs : List Scalar) :
    (CType.struct (fs.map .sc)).view = ⟨alignUp (natEnd fs 0) (maxAlign fs), maxAlign fs, fs, natLayout fs 0⟩ := by
  obtain ⟨he, hn, ha, hf⟩ := flat_fields fs 0
  simp only [CType.view, CType.size, CType.align, CType.flatten, CType.elems, he, hn, ha, hf]

theorem natural_flat (fs : List Scalar) : (CType.struct (fs.map .sc)).view.natural := by
  rw [view_flat]
  exact ⟨rfl, rfl, rfl⟩

theorem natural_eq_flat (v : View) (hn : v.natural) : v = (CType.struct (v.types.map .sc)).view := by
  obtain ⟨size, al, types, elems⟩ := v
  obtain ⟨h1, h2, h3⟩ := hn
  simp only at h1 h2 h3
  subst h1 h3 h2
  exact (view_flat _).symm

theorem natural_align (v : View) (hn : v.natural) : v.align = 1 ∨ v.align = 2 ∨ v.align = 4 ∨ v.align = 8 := by
  obtain ⟨_, _, h3⟩ := hn
  rw [h3]; exact pow8_maxAlign _

theorem smallClassify_ne (size : Nat) (types : List Scalar) :
    smallClassify size types ≠ .direct ∧ smallClassify size types ≠ .void := by
  unfold smallClassify; split <;> simp

inductive GtiCase (split : PassKind) (size : Nat) (types : List Scalar) (pk : PassKind) : Prop
  | few (hn : types.length < 2) (e : pk = .direct)
  | large (h16 : 16 < size) (e : pk = .memory)
  | small (hn : 2 ≤ types.length) (h8 : size ≤ 8) (e : pk = smallClassify size types)
  | pair (a b : Scalar) (ht : types = [a, b]) (h8 : 8 < size) (h16 : size ≤ 16) (e : pk = .coerce2 a.regTy b.regTy)
  | split (h8 : 8 < size) (h16 : size ≤ 16) (e : pk = split)

/-- the body `getTypeInfo` and `getTypeInfoLegacy` share, the result `split` of the general two-eightbyte branch abstracted -/
def gti (split : PassKind) (size : Nat) (types : List Scalar) : PassKind :=
  if types.length ≥ 2 then
    if size > 16 then .memory
    else if size ≤ 8 then smallClassify size types
    else
      match types with
      | [a, b] =>
        if a.size = 8 ∨ b.size = 8 then .coerce2 a.regTy b.regTy
        else split
      | _ => split
  else .direct

theorem gti_case (split : PassKind) (size : Nat) (types : List Scalar) : GtiCase split size types (gti split size types) := by
  unfold gti
  by_cases hn : types.length ≥ 2
  · rw [if_pos hn]
    by_cases h16 : size > 16
    · rw [if_pos h16]; exact .large h16 rfl
    · rw [if_neg h16]
      by_cases h8 : size ≤ 8
      · rw [if_pos h8]; exact .small hn h8 rfl
      · rw [if_neg h8]
        split
        · rename_i a b
          by_cases hs : a.size = 8 ∨ b.size = 8
          · rw [if_pos hs]; exact .pair a b rfl (by omega) (by omega) rfl
          · rw [if_neg hs]; exact .split (by omega) (by omega) rfl
        · exact .split (by omega) (by omega) rfl
  · rw [if_neg hn]; exact .few (by omega) rfl

theorem getTypeInfo_eq_gti (v : View) : getTypeInfo v = gti (splitClassify v) v.size v.types := rfl

theorem getTypeInfoLegacy_eq_gti (size al : Nat) (types : List Scalar) :
    getTypeInfoLegacy size al types = gti (splitClassifyLegacy al types) size types := rfl

theorem getTypeInfo_case (v : View) : GtiCase (splitClassify v) v.size v.types (getTypeInfo v) :=
  getTypeInfo_eq_gti v ▸ gti_case (splitClassify v) v.size v.types

theorem getTypeInfoLegacy_case (size al : Nat) (types : List Scalar) :
    GtiCase (splitClassifyLegacy al types) size types (getTypeInfoLegacy size al types) :=
  getTypeInfoLegacy_eq_gti size al types ▸ gti_case (splitClassifyLegacy al types) size types

theorem GtiCase.few_of_direct {split pk : PassKind} {size : Nat} {types : List Scalar} (c : GtiCase split size types pk)
    (hs : split ≠ .direct) (h : pk = .direct) : types.length < 2 := by
  rcases c with ⟨hn, _⟩ | ⟨_, e⟩ | ⟨_, _, e⟩ | ⟨_, _, _, _, _, e⟩ | ⟨_, _, e⟩
  · exact hn
  · rw [h] at e; cases e
  · exact absurd (h ▸ e).symm (smallClassify_ne size types).1
  · rw [h] at e; cases e
  · exact absurd (h ▸ e).symm hs

theorem GtiCase.ne_void {split pk : PassKind} {size : Nat} {types : List Scalar} (c : GtiCase split size types pk)
    (hs : split ≠ .void) : pk ≠ .void := by
  intro h
  rcases c with ⟨_, e⟩ | ⟨_, e⟩ | ⟨_, _, e⟩ | ⟨_, _, _, _, _, e⟩ | ⟨_, _, e⟩
  · rw [h] at e; cases e
  · rw [h] at e; cases e
  · exact absurd (h ▸ e).symm (smallClassify_ne size types).2
  · rw [h] at e; cases e
  · exact absurd (h ▸ e).symm hs

theorem gti_congr {s₁ s₂ : PassKind} (size : Nat) (types : List Scalar) (h : 8 < size → size ≤ 16 → s₁ = s₂) :
    gti s₁ size types = gti s₂ size types := by
  by_cases hr : 8 < size ∧ size ≤ 16
  · rw [h hr.1 hr.2]
  · unfold gti
    by_cases h16 : size > 16
    · simp only [h16, if_true]
    · have h8 : size ≤ 8 := by omega
      simp only [h16, h8, if_true, if_false]

theorem classifyV_large (v : View) (h16 : 16 < v.size) (hn : 2 ≤ v.types.length) (isRet : Bool) :
    classifyV v isRet = .memory := by
  unfold classifyV getTypeInfo
  rw [if_neg (by omega), if_pos hn, if_pos h16]

theorem getTypeInfo_direct (size al : Nat) (types : List Scalar) (h : getTypeInfoLegacy size al types = .direct) :
    types.length < 2 :=
  (getTypeInfoLegacy_case size al types).few_of_direct (fun h => nomatch h) h

theorem getTypeInfo_ne_void (size al : Nat) (types : List Scalar) : getTypeInfoLegacy size al types ≠ .void :=
  (getTypeInfoLegacy_case size al types).ne_void (fun h => nomatch h)

/-- what the placement proofs need to know about a classifier `cls` on one view -/
structure ClsOK (cls : View → Bool → PassKind) (v : View) : Prop where
  sound : ∀ r, Sound (cls v r) v
  align8 : v.align ≤ 8      -- `toStack` aligns to `max 8 align`
  direct : ∀ r, cls v r = .direct → (v.elems = [] ∧ v.types = []) ∨ ∃ s, v.elems = [(0, s)] ∧ v.types = [s]
  few : v.types.length < 2 → (v.size + 7) / 8 ≤ 1      -- what lets `argFits` give `argNoSplit`

theorem subTypeLegacy_single (al : Nat) (s : Scalar) (left : Bool) : subTypeLegacy al [s] left = s.regTy := rfl
theorem subTypeLegacy_ff (al : Nat) (left : Bool) : subTypeLegacy al [.f32, .f32] left = .v2f32 := by
  simp [subTypeLegacy]

theorem subType_eq_legacy (size al : Nat) (subs : List Scalar) (left : Bool)
    (h : left = false → size - 8 = alignUp (subFold subs 0) al) : subType size subs left = subTypeLegacy al subs left := by
  unfold subType subTypeLegacy
  split
  · rfl
  · split
    · rfl
    · cases left
      · rw [h rfl]
      · rfl

theorem splitClassify_eq_legacy (v : View) (hn : v.natural) (h8 : 8 < v.size) (h16 : v.size ≤ 16) :
    splitClassify v = splitClassifyLegacy v.align v.types := by
  have halc : Pow8 v.align := natural_align v hn
  obtain ⟨hel, hsz, _⟩ := hn
  have hend : 8 < natEnd v.types 0 := by
    by_cases h : natEnd v.types 0 ≤ 8
    · have : alignUp (natEnd v.types 0) v.align ≤ 8 := alignUp_le_of_dvd h halc.dvd8
      omega
    · omega
  obtain ⟨hidx, he⟩ := splitLoop_spec v.types 0 0 (by omega) hend
  rw [Nat.zero_add] at hidx
  unfold splitClassify splitClassifyLegacy
  rw [hel]
  generalize splitIndex (natLayout v.types 0) = k at hidx he
  -- legacy right half: `alignUp (natEnd R 0) align` wide; here: `size - 8`; equal, as `R` starts at byte 8 (`he`) and both commute with `+ 8`
  have hR8 : natEnd (v.types.drop k) 8 = natEnd (v.types.drop k) 0 + 8 := by
    have := natEnd_shift8 (v.types.drop k) 0; simpa using this
  have hsize : v.size = alignUp (natEnd (v.types.drop k) 0) v.align + 8 := by
    rw [hsz, he, hR8, alignUp_add8 _ halc]
  rw [hidx, subType_eq_legacy v.size v.align _ true (fun h => nomatch h),
    subType_eq_legacy v.size v.align _ false (fun _ => by rw [subFold_eq_natEnd]; omega)]

theorem classifyV_eq_legacy_of_natural (v : View) (hn : v.natural) (isRet : Bool) :
    classifyV v isRet = classifyLegacyV v isRet := by
  unfold classifyV classifyLegacyV
  split
  · rfl
  · rw [getTypeInfo_eq_gti, getTypeInfoLegacy_eq_gti]
    exact gti_congr v.size v.types (splitClassify_eq_legacy v hn)

theorem strlenFrom_append (s rest : List UInt8) (h : (0 : UInt8) ∉ s) :
    strlenFrom (s ++ 0 :: rest) = some s.length := by
  induction s with
  | nil => simp [strlenFrom]
  | cons b r ih =>
    have hb : b ≠ 0 := fun hb => h (by simp [hb])
    have hr : (0 : UInt8) ∉ r := fun hr => h (by simp [hr])
    simp [strlenFrom, hb, ih hr]

theorem memWrite_of_le {m : Mem} {dst : Nat} {src : List UInt8} (h : dst + src.length ≤ m.length) :
    memWrite m dst src = some (m.take dst ++ src ++ m.drop (dst + src.length)) := if_pos h

theorem cstrCopy_eq (m : Mem) (dest : Nat) (s : List UInt8) (hroom : dest + s.length + 1 ≤ m.length) :
    cstrCopy m dest s = some (m.take dest ++ (s ++ 0 :: m.drop (dest + s.length + 1))) := by
  have hA : (m.take dest).length = dest := List.length_take_of_le (by omega)
  have hAB : (m.take dest ++ s).length = dest + s.length := by rw [List.length_append, hA]
  have hdrop : ∀ (D : Mem) (k : Nat), (m.take dest ++ s ++ D).drop (dest + s.length + k) = D.drop k := fun D k => by
    rw [← hAB]; exact List.drop_length_add_append ..
  unfold cstrCopy
  rw [memWrite_of_le (by omega)]
  simp only
  rw [memWrite_of_le (by rw [List.length_append, hAB, List.length_drop, List.length_singleton]; omega),
    List.take_left' hAB, hdrop, List.length_singleton, List.drop_drop,
    List.append_assoc, List.append_assoc, List.singleton_append]

end LlgoVerif.CAbi
