import LlgoVerif.Model.Init
/-! One induction over a run of initialiser calls (`imports_spec`) serves both inside an `init` and at top level; the
    topological numbering enters as the bound `q < b` of `CallSpec` (callee < caller), which `Done` turns into
    "guarded and smaller, hence finished". -/
namespace LlgoVerif.Init

/-- `q`'s (compiled) `init` has completed its body -/
def Finished (s : St) (q : Nat) : Prop := Ev.body q false ∈ s.trace

/-- when `p.init` runs, the guarded-but-unfinished packages are `p`'s importers, which under a topological numbering all
    have larger numbers -/
def Done (s : St) (b : Nat) : Prop := ∀ q, q ∈ s.guard → q < b → Finished s q

theorem mem_emit {s : St} {e x : Ev} : x ∈ (s.emit e).trace ↔ x ∈ s.trace ∨ x = e := by simp [St.emit]

theorem Bef.append {a b : Ev} {l : List Ev} (m : List Ev) (h : Bef a b l) : Bef a b (l ++ m) := by
  obtain ⟨ha, hlt⟩ := h
  refine ⟨List.mem_append_left _ ha, ?_⟩
  rw [List.idxOf_append, List.idxOf_append, if_pos ha]
  split
  · exact hlt
  · have := List.idxOf_lt_length_of_mem ha; omega

theorem Bef.snoc_new {a b : Ev} {l : List Ev} (ha : a ∈ l) (hb : b ∉ l) : Bef a b (l ++ [b]) :=
  Bef.append [b] ⟨ha, List.idxOf_eq_length hb ▸ List.idxOf_lt_length_of_mem ha⟩

theorem Bef.mem_left {a b : Ev} {l₁ l₂ : List Ev} (h : Bef a b (l₁ ++ b :: l₂)) : a ∈ l₁ := by
  have hlt := h.2
  rw [List.idxOf_append, List.idxOf_append] at hlt
  by_cases ha : a ∈ l₁
  · exact ha
  · rw [if_neg ha] at hlt
    split at hlt
    · have := List.idxOf_lt_length_of_mem ‹b ∈ l₁›; omega
    · rw [List.idxOf_cons_self] at hlt; omega

theorem Bef.trans {a b c : Ev} {l : List Ev} (h1 : Bef a b l) (h2 : Bef b c l) : Bef a c l :=
  ⟨h1.1, Nat.lt_trans h1.2 h2.2⟩

theorem Bef.ne {a b : Ev} {l : List Ev} (h : Bef a b l) : a ≠ b := by
  intro e; subst e; exact Nat.lt_irrefl _ h.2

theorem initStep_guarded {call : Nat → St → St} {pk : Pkg} {p : Nat} {s : St} (hg : p ∈ s.guard) :
    initStep call pk p s = s := if_pos hg

theorem initStep_plain {call : Nat → St → St} {pk : Pkg} {p : Nat} {s : St} (hk : ∀ oi, pk.kind ≠ .chained oi)
    (hg : p ∉ s.guard) :
    initStep call pk p s = (initImports call pk.imports (s.setGuard p)).emit (.body p false) := by
  unfold initStep
  rw [if_neg hg]
  split
  · exact absurd ‹_› (hk _)
  · rfl

theorem initStep_chained {call : Nat → St → St} {pk : Pkg} {p : Nat} {s : St} {oi : List Nat}
    (hk : pk.kind = .chained oi) (hg : p ∉ s.guard) :
    initStep call pk p s =
      (initImports call pk.imports
        ((initImports call oi ((s.setGuard p).setGuard p)).emit (.body p true))).emit (.body p false) := by
  have hs : p ∈ (s.setGuard p).guard := List.mem_cons_self
  unfold initStep initHasPatch
  rw [if_neg hg, hk]
  simp only [hs, if_true]

theorem initPkg_guarded (P : Prog) (fuel : Nat) {p : Nat} {s : St} (hg : p ∈ s.guard) : initPkg P fuel p s = s := by
  cases fuel with
  | zero => rfl
  | succ n => exact initStep_guarded hg

theorem mem_deps {P : Prog} {p q : Nat} :
    q ∈ P.deps p ↔ (∃ oi, (P p).kind = .chained oi ∧ q ∈ oi) ∨ q ∈ (P p).imports := by
  unfold Prog.deps Prog.origImports
  cases (P p).kind <;> simp

/-- `Prereq P p a o`: the code runs `.body p o` only after `a` — the body `init` ends with (`.body p false`) after the bodies
    of the imports; for a chained package the original body (`.body p true`) after those of the original's imports, and
    before `.body p false`. -/
inductive Prereq (P : Prog) (p : Nat) : Ev → Bool → Prop
  | imp {q : Nat} : q ∈ (P p).imports → Prereq P p (.body q false) false
  | orig {q : Nat} {oi : List Nat} : (P p).kind = .chained oi → q ∈ oi → Prereq P p (.body q false) true
  | chain {oi : List Nat} : (P p).kind = .chained oi → Prereq P p (.body p true) false

structure Inv (P : Prog) (s : St) : Prop where
  once : ∀ p h, s.trace.count (.body p h) ≤ 1
  sub : ∀ p h, Ev.body p h ∈ s.trace → p ∈ s.guard
  origOnly : ∀ p, Ev.body p true ∈ s.trace → ∃ oi, (P p).kind = .chained oi
  order : ∀ {p o a}, Ev.body p o ∈ s.trace → Prereq P p a o → Bef a (.body p o) s.trace

theorem Inv.init (P : Prog) : Inv P {} := by
  constructor <;> simp

theorem Inv.setGuard {P : Prog} {s : St} (h : Inv P s) (p : Nat) : Inv P (s.setGuard p) :=
  { h with sub := fun q o hm => List.mem_cons_of_mem _ (h.sub q o hm) }

/-- what the code ensures before it runs the body `.body p o` -/
structure Pre (P : Prog) (s : St) (p : Nat) (o : Bool) : Prop where
  guard : p ∈ s.guard
  fresh : Ev.body p o ∉ s.trace
  orig : o = true → ∃ oi, (P p).kind = .chained oi
  needs : ∀ a, Prereq P p a o → a ∈ s.trace

/-- each clause speaks of the events in the trace: for an old one it is kept (`Bef.append`), for the new one it is `Pre` -/
theorem Inv.emit {P : Prog} {s : St} (h : Inv P s) {e : Ev} (he : ∀ p o, e = .body p o → Pre P s p o) :
    Inv P (s.emit e) := by
  refine ⟨?_, ?_, ?_, ?_⟩
  · intro q o
    have := h.once q o
    show (s.trace ++ [e]).count (.body q o) ≤ 1
    rw [List.count_append, List.count_singleton]
    by_cases hq : e = .body q o
    · subst hq
      have := List.count_eq_zero_of_not_mem (he _ _ rfl).fresh; simp; omega
    · simp [hq]; omega
  · intro q o hm
    rcases mem_emit.1 hm with hm | rfl
    · exact h.sub q o hm
    · exact (he _ _ rfl).guard
  · intro q hm
    rcases mem_emit.1 hm with hm | rfl
    · exact h.origOnly q hm
    · exact (he _ _ rfl).orig rfl
  · intro q o a hm ha
    rcases mem_emit.1 hm with hm | rfl
    · exact (h.order hm ha).append _
    · exact Bef.snoc_new ((he _ _ rfl).needs a ha) (he _ _ rfl).fresh

theorem Inv.count_eq_one {P : Prog} {s : St} (h : Inv P s) {p : Nat} {o : Bool} (hm : Ev.body p o ∈ s.trace) :
    s.trace.count (.body p o) = 1 :=
  Nat.le_antisymm (h.once p o) (List.one_le_count_iff.2 hm)

theorem Reach.trans {P : Prog} {a b c : Nat} (h1 : Reach P a b) (h2 : Reach P b c) : Reach P a c := by
  induction h1 with
  | refl _ => exact h2
  | step hq _ ih => exact .step hq (ih h2)

theorem Reach.le {P : Prog} (hT : Topo P) {p q : Nat} (hr : Reach P p q) : q ≤ p := by
  induction hr with
  | refl _ => exact Nat.le_refl _
  | step hq _ ih => exact Nat.le_trans ih (Nat.le_of_lt (hT _ _ hq))

theorem edge_bef {P : Prog} {s : St} (hi : Inv P s) {p q : Nat} (hf : Finished s p) (hq : q ∈ P.deps p) :
    Bef (.body q false) (.body p false) s.trace := by
  rcases mem_deps.1 hq with ⟨oi, hk, hq⟩ | hq
  · have hc := hi.order hf (.chain hk)
    exact (hi.order hc.1 (.orig hk hq)).trans hc
  · exact hi.order hf (.imp hq)

theorem reach_bef {P : Prog} {s : St} (hi : Inv P s) {p q : Nat} (hr : Reach P p q) (hf : Finished s p) (hne : q ≠ p) :
    Bef (.body q false) (.body p false) s.trace := by
  induction hr with
  | refl _ => exact absurd rfl hne
  | @step p m r hm hr' ih =>
    have hb := edge_bef hi hf hm
    by_cases h : r = m
    · subst h; exact hb
    · exact (ih hb.1 h).trans hb

/-- `R`: whose bodies the code may run, and only of packages unguarded at `s` (used by `segment_spec`). `U`: who may be
    guarded and unfinished: `(· = p)` while `p.init` is in progress (`Mid`), nobody (`Ext`) after a complete call. -/
structure ExtU (R : Nat → Prop) (U : Nat → Prop) (s s' : St) : Prop where
  guard : ∀ q, q ∈ s.guard → q ∈ s'.guard
  trace : ∃ new, s'.trace = s.trace ++ new ∧ ∀ e ∈ new, ∃ q o, e = Ev.body q o ∧ R q ∧ q ∉ s.guard
  fresh : ∀ q, q ∈ s'.guard → q ∈ s.guard ∨ Finished s' q ∨ U q

abbrev Ext (R : Nat → Prop) (s s' : St) : Prop := ExtU R (fun _ => False) s s'

theorem ExtU.mem {R U : Nat → Prop} {s s' : St} (h : ExtU R U s s') (e : Ev) (he : e ∈ s.trace) : e ∈ s'.trace := by
  obtain ⟨new, hn, _⟩ := h.trace
  rw [hn]; exact List.mem_append_left _ he

theorem ExtU.new {R U : Nat → Prop} {s s' : St} (h : ExtU R U s s') (e : Ev) (he : e ∈ s'.trace) :
    e ∈ s.trace ∨ ∃ q o, e = Ev.body q o ∧ R q ∧ q ∉ s.guard := by
  obtain ⟨new, hn, hall⟩ := h.trace
  rw [hn] at he
  exact (List.mem_append.1 he).imp_right (hall e)

theorem ExtU.refl (R U : Nat → Prop) (s : St) : ExtU R U s s :=
  ⟨fun _ h => h, ⟨[], (List.append_nil _).symm, nofun⟩, fun _ h => .inl h⟩

theorem ExtU.mono {R R' U U' : Nat → Prop} {s s' : St} (h : ExtU R U s s')
    (hR : ∀ q, R q → R' q) (hU : ∀ q, U q → U' q) : ExtU R' U' s s' where
  guard := h.guard
  trace := h.trace.imp fun _ ⟨hn, hall⟩ => ⟨hn, fun e he => let ⟨q, o, hq, hr, hg⟩ := hall e he; ⟨q, o, hq, hR q hr, hg⟩⟩
  fresh q hq := (h.fresh q hq).imp_right (Or.imp_right (hU q))

theorem ExtU.trans {R U : Nat → Prop} {s s' s'' : St} (h1 : ExtU R U s s') (h2 : ExtU R U s' s'') :
    ExtU R U s s'' where
  guard q hq := h2.guard q (h1.guard q hq)
  trace := by
    obtain ⟨n1, e1, a1⟩ := h1.trace
    obtain ⟨n2, e2, a2⟩ := h2.trace
    refine ⟨n1 ++ n2, by rw [e2, e1, List.append_assoc], fun e he => ?_⟩
    rcases List.mem_append.1 he with he | he
    · exact a1 e he
    · obtain ⟨q, o, hq, hr, hg⟩ := a2 e he
      exact ⟨q, o, hq, hr, fun hq' => hg (h1.guard q hq')⟩
  fresh q hq := (h2.fresh q hq).elim
    (fun h => (h1.fresh q h).imp_right (Or.imp_left (h2.mem _))) .inr

theorem ExtU.setGuard (R : Nat → Prop) (s : St) (p : Nat) : ExtU R (· = p) s (s.setGuard p) where
  guard _ hq := List.mem_cons_of_mem _ hq
  trace := ⟨[], (List.append_nil _).symm, nofun⟩
  fresh _ hq := (List.mem_cons.1 hq).elim (fun h => .inr (.inr h)) .inl

theorem ExtU.emit {R U : Nat → Prop} {s t : St} (h : ExtU R U s t) (p : Nat) (o : Bool)
    (hR : R p) (hg : p ∉ s.guard) : ExtU R U s (t.emit (.body p o)) where
  guard := h.guard
  trace := by
    obtain ⟨new, hn, hall⟩ := h.trace
    refine ⟨new ++ [.body p o], ?_, fun e he => ?_⟩
    · show t.trace ++ [_] = _
      rw [hn, List.append_assoc]
    · rcases List.mem_append.1 he with he | he
      · exact hall e he
      · exact ⟨p, o, List.mem_singleton.1 he, hR, hg⟩
  fresh q hq := (h.fresh q hq).imp_right (Or.imp_left fun hf => mem_emit.2 (.inl hf))

theorem ExtU.close {R : Nat → Prop} {s s' : St} {p : Nat} (h : ExtU R (· = p) s s') (hf : Finished s' p) :
    Ext R s s' :=
  { h with fresh := fun q hq => (h.fresh q hq).imp_right fun h' => .inl (h'.elim id fun e => e ▸ hf) }

theorem ExtU.done {R U : Nat → Prop} {s s' : St} (h : ExtU R U s s') {b : Nat} (hd : Done s b)
    (hU : ∀ q, U q → ¬ q < b) : Done s' b := by
  intro q hq hb
  rcases h.fresh q hq with h1 | h1 | h1
  · exact h.mem _ (hd q h1 hb)
  · exact h1
  · exact absurd hb (hU q h1)

/-- a body that was not there before and is there now was run by this piece of code -/
theorem ExtU.new_body {R U : Nat → Prop} {s s' : St} (h : ExtU R U s s') {p : Nat} {o : Bool}
    (hm : Ev.body p o ∈ s'.trace) : Ev.body p o ∈ s.trace ∨ (R p ∧ p ∉ s.guard) :=
  (h.new _ hm).imp_right fun ⟨_, _, he, hr, hg⟩ => by cases he; exact ⟨hr, hg⟩

structure Called (P : Prog) (q : Nat) (s s' : St) : Prop where
  inv : Inv P s'
  ext : Ext (Reach P q) s s'
  fin : Finished s' q

/-- `b`: the caller, or the fuel. `Done s (q+1)` covers the call of an already guarded `q`: it does nothing, and `q` has
    finished, being guarded and `< q+1`. -/
def CallSpec (P : Prog) (call : Nat → St → St) (b : Nat) : Prop :=
  ∀ q s, q < b → Inv P s → Done s (q+1) → Called P q s (call q s)

/-- `p` is one of the called packages or a transitive import of one -/
def Reachable (P : Prog) (calls : List Nat) (p : Nat) : Prop := ∃ c ∈ calls, Reach P c p

theorem imports_spec {P : Prog} {call : Nat → St → St} {b : Nat} (hcall : CallSpec P call b) :
    ∀ (l : List Nat) {s : St}, (∀ q ∈ l, q < b) → Inv P s → Done s b →
      Inv P (initImports call l s) ∧ Ext (Reachable P l) s (initImports call l s) ∧
      ∀ q ∈ l, Finished (initImports call l s) q
  | [], _, _, hi, _ => ⟨hi, .refl .., nofun⟩
  | q :: qs, s, hl, hi, hd => by
    obtain ⟨i1, e1, f1⟩ := hcall q s (hl q List.mem_cons_self) hi
      (fun r hr hb => hd r hr (by have := hl q List.mem_cons_self; omega))
    obtain ⟨i2, e2, f2⟩ := imports_spec hcall qs (fun r hr => hl r (List.mem_cons_of_mem _ hr)) i1
      (e1.done hd (fun _ h => h.elim))
    refine ⟨i2, (e1.mono (fun x hx => ⟨q, List.mem_cons_self, hx⟩) (fun _ h => h)).trans
      (e2.mono (fun x ⟨r, hr, hx⟩ => ⟨r, List.mem_cons_of_mem _ hr, hx⟩) (fun _ h => h)), fun r hr => ?_⟩
    rcases List.mem_cons.1 hr with rfl | hr
    · exact e2.mem _ f1
    · exact f2 r hr

/-- `t` is a state inside `p.init`, entered in state `s`, after the guard store and before the body. -/
structure Mid (P : Prog) (p : Nat) (s t : St) : Prop where
  inv : Inv P t
  done : Done t p
  ext : ExtU (Reach P p) (· = p) s t
  guard : p ∈ t.guard

theorem Mid.store {P : Prog} {p : Nat} {s t : St} (hi : Inv P t) (hd : Done t p)
    (he : ExtU (Reach P p) (· = p) s t) : Mid P p s (t.setGuard p) :=
  have e := ExtU.setGuard (Reach P p) t p
  ⟨hi.setGuard p, e.done hd (fun _ h hb => by omega), he.trans e, List.mem_cons_self ..⟩

/-- one segment of `p.init`: calls of dependencies, then a body of `p`. A call runs only bodies of packages unguarded when
    it starts, so the bodies of `p` in the trace are those `p.init` has run itself. -/
theorem segment_spec {P : Prog} (hT : Topo P) {call : Nat → St → St} {p : Nat} (hcall : CallSpec P call p) {s t : St}
    (m : Mid P p s t) (hg : p ∉ s.guard) {l : List Nat} (hl : ∀ q ∈ l, q ∈ P.deps p) {o : Bool} (hn : Ev.body p o ∉ t.trace)
    (ho : o = true → ∃ oi, (P p).kind = .chained oi)
    (hpre : ∀ a, Prereq P p a o → a ∈ t.trace ∨ ∃ q ∈ l, a = .body q false) :
    Mid P p s ((initImports call l t).emit (.body p o)) ∧
      ∀ o', Ev.body p o' ∈ ((initImports call l t).emit (.body p o)).trace → Ev.body p o' ∈ t.trace ∨ o' = o := by
  obtain ⟨i, e, f⟩ := imports_spec hcall l (fun q hq => hT p q (hl q hq)) m.inv m.done
  have ext := m.ext.trans (e.mono (fun x ⟨r, hr, hx⟩ => .step (hl r hr) hx) (fun _ h => h.elim))
  have old : ∀ o', Ev.body p o' ∈ (initImports call l t).trace → Ev.body p o' ∈ t.trace :=
    fun o' hm => (e.new_body hm).resolve_right fun h => h.2 m.guard
  refine ⟨⟨i.emit fun | _, _, rfl => ⟨e.guard p m.guard, fun hm => hn (old o hm), ho,
      fun a ha => (hpre a ha).elim (e.mem a) fun ⟨q, hq, h⟩ => h ▸ f q hq⟩, fun q hq hb => ?_,
    ext.emit p o (.refl p) hg, e.guard p m.guard⟩, fun o' hm => ?_⟩
  · exact mem_emit.2 (.inl (e.done m.done (fun _ h => h.elim) q hq hb))
  · exact (mem_emit.1 hm).imp (old o') fun h => by cases h; rfl

theorem Mid.called {P : Prog} {p : Nat} {s t : St} (m : Mid P p s t) (hf : Finished t p) : Called P p s t :=
  ⟨m.inv, m.ext.close hf, hf⟩

theorem initPkg_spec (P : Prog) (hT : Topo P) : ∀ fuel, CallSpec P (fun q st => initPkg P fuel q st) fuel := by
  intro fuel
  induction fuel with
  | zero => intro p s h; omega
  | succ n ih =>
    intro p s hp hi hd
    show Called P p s (initStep _ (P p) p s)
    by_cases hg : p ∈ s.guard
    · rw [initStep_guarded hg]
      exact ⟨hi, .refl .., hd p hg (Nat.lt_succ_self p)⟩
    have hcall : CallSpec P (fun q st => initPkg P n q st) p := fun q s hq => ih q s (by omega)
    have not_in_s : ∀ o, Ev.body p o ∉ s.trace := fun o hm => hg (hi.sub p o hm)
    have m1 : Mid P p s (s.setGuard p) := .store hi (fun q hq hb => hd q hq (by omega)) (.refl ..)
    -- the second half of a chained package, all of any other: the imports, then the body
    have finish : ∀ {t}, Mid P p s t → Ev.body p false ∉ t.trace →
        (∀ oi, (P p).kind = .chained oi → Ev.body p true ∈ t.trace) →
        Called P p s ((initImports (fun q st => initPkg P n q st) (P p).imports t).emit (.body p false)) := fun m hn hc =>
      (segment_spec hT hcall m hg (fun q hq => mem_deps.2 (.inr hq)) hn nofun
        fun | _, .imp hq => .inr ⟨_, hq, rfl⟩ | _, .chain hk => .inl (hc _ hk)).1.called (mem_emit.2 (.inr rfl))
    by_cases hk : ∃ oi, (P p).kind = .chained oi
    · obtain ⟨oi, hk⟩ := hk
      rw [initStep_chained hk hg]
      -- `init$hasPatch` stores the guard a second time
      obtain ⟨m2, own⟩ := segment_spec hT hcall (Mid.store m1.inv m1.done m1.ext) hg
        (fun q hq => mem_deps.2 (.inl ⟨oi, hk, hq⟩)) (not_in_s true) (fun _ => ⟨oi, hk⟩)
        (fun | _, .orig hk' hq => .inr ⟨_, Kind.chained.inj (hk'.symm.trans hk) ▸ hq, rfl⟩)
      exact finish m2 (fun hm => (own false hm).elim (not_in_s false) nofun) fun _ _ => mem_emit.2 (.inr rfl)
    · rw [initStep_plain (fun oi h => hk ⟨oi, h⟩) hg]
      exact finish m1 (not_in_s false) fun oi h => absurd ⟨oi, h⟩ hk

theorem initImports_congr {f g : Nat → St → St} (l : List Nat) (h : ∀ q ∈ l, ∀ st, f q st = g q st) (s : St) :
    initImports f l s = initImports g l s := by
  induction l generalizing s with
  | nil => rfl
  | cons q qs ih =>
    simp only [initImports, List.foldl_cons]
    rw [h q List.mem_cons_self]
    exact ih (fun r hr => h r (List.mem_cons_of_mem _ hr)) _

theorem initStep_congr {f g : Nat → St → St} {P : Prog} {p : Nat} (h : ∀ q ∈ P.deps p, ∀ st, f q st = g q st)
    (s : St) : initStep f (P p) p s = initStep g (P p) p s := by
  have himp := initImports_congr (P p).imports fun q hq => h q (mem_deps.2 (.inr hq))
  by_cases hg : p ∈ s.guard
  · rw [initStep_guarded hg, initStep_guarded hg]
  by_cases hk : ∃ oi, (P p).kind = .chained oi
  · obtain ⟨oi, hk⟩ := hk
    rw [initStep_chained hk hg, initStep_chained hk hg, himp,
      initImports_congr oi fun q hq => h q (mem_deps.2 (.inl ⟨oi, hk, hq⟩))]
  · rw [initStep_plain (fun oi h => hk ⟨oi, h⟩) hg, initStep_plain (fun oi h => hk ⟨oi, h⟩) hg, himp]

theorem callInits_append (P : Prog) (fuel : Nat) (a b : List Nat) (s : St) :
    callInits P fuel (a ++ b) s = callInits P fuel b (callInits P fuel a s) :=
  List.foldl_append

theorem callInits_guarded (P : Prog) (fuel : Nat) {s : St} :
    ∀ (l : List Nat), (∀ c ∈ l, c ∈ s.guard) → callInits P fuel l s = s
  | [], _ => rfl
  | c :: cs, h => by
    show callInits P fuel cs (initPkg P fuel c s) = s
    rw [initPkg_guarded P fuel (h c List.mem_cons_self)]
    exact callInits_guarded P fuel cs fun d hd => h d (List.mem_cons_of_mem _ hd)

/-- state between top-level steps: `D` = initialisers already called -/
structure Top (P : Prog) (D : List Nat) (s : St) : Prop where
  inv : Inv P s
  /-- no initialiser is in progress -/
  quiet : ∀ b, Done s b
  noMain : Ev.mainMain ∉ s.trace
  reach : ∀ p o, Ev.body p o ∈ s.trace → Reachable P D p
  fin : ∀ c ∈ D, Finished s c

theorem Top.init (P : Prog) : Top P [] {} :=
  ⟨Inv.init P, by simp [Done], by simp, by simp, by simp⟩

theorem Top.emitIf {P : Prog} {D : List Nat} {s : St} (h : Top P D s) (b : Bool) (e : Ev)
    (he : ∀ p o, e ≠ .body p o) (hm : e ≠ .mainMain) : Top P D (if b then s.emit e else s) := by
  cases b
  · exact h
  · refine ⟨h.inv.emit fun p o h' => absurd h' (he p o), fun b q hq hb => mem_emit.2 (.inl (h.quiet b q hq hb)), ?_, ?_,
      fun c hc => mem_emit.2 (.inl (h.fin c hc))⟩
    · exact fun hh => (mem_emit.1 hh).elim h.noMain (fun e => hm e.symm)
    · exact fun p o hh => (mem_emit.1 hh).elim (h.reach p o) (fun e => absurd e.symm (he p o))

theorem callInits_spec {P : Prog} (hT : Topo P) (fuel : Nat) (calls : List Nat) (hc : ∀ c ∈ calls, c < fuel) {s : St}
    (hi : Inv P s) (hq : ∀ b, Done s b) :
    Inv P (callInits P fuel calls s) ∧ Ext (Reachable P calls) s (callInits P fuel calls s) ∧
      (∀ c ∈ calls, Finished (callInits P fuel calls s) c) ∧ ∀ b, Done (callInits P fuel calls s) b :=
  let ⟨i, e, f⟩ := imports_spec (initPkg_spec P hT fuel) calls hc hi (hq fuel)
  ⟨i, e, f, fun b => e.done (hq b) (fun _ h => h.elim)⟩

theorem Top.calls {P : Prog} (hT : Topo P) (fuel : Nat) (calls : List Nat) {D : List Nat} {s : St} (h : Top P D s)
    (hc : ∀ c ∈ calls, c < fuel) : Top P (D ++ calls) (callInits P fuel calls s) := by
  obtain ⟨i, e, f, q⟩ := callInits_spec hT fuel calls hc h.inv h.quiet
  refine ⟨i, q, ?_, ?_, ?_⟩
  · intro hm
    rcases e.new _ hm with hm | ⟨_, _, he, _⟩
    · exact h.noMain hm
    · cases he
  · intro p o hm
    rcases e.new_body hm with hm | ⟨⟨c, hcm, hr⟩, _⟩
    · obtain ⟨d, hd, hr⟩ := h.reach p o hm
      exact ⟨d, List.mem_append_left _ hd, hr⟩
    · exact ⟨c, List.mem_append_right _ hcm, hr⟩
  · intro d hd
    rcases List.mem_append.1 hd with hd | hd
    · exact e.mem _ (h.fin d hd)
    · exact f d hd

theorem Top.call {P : Prog} (hT : Topo P) {D : List Nat} {s : St} (h : Top P D s) (fuel c : Nat) (hc : c < fuel) :
    Top P (D ++ [c]) (initPkg P fuel c s) :=
  h.calls hT fuel [c] fun _ hd => List.mem_singleton.1 hd ▸ hc

theorem Top.optCall {P : Prog} (hT : Topo P) {D : List Nat} {s : St} (h : Top P D s) (fuel : Nat) (o : Option Nat)
    (hc : ∀ c ∈ o.toList, c < fuel) : Top P (D ++ o.toList) (optCall P fuel o s) := by
  cases o with
  | none => show Top P (D ++ []) s; rw [List.append_nil]; exact h
  | some c => exact h.call hT fuel c (hc c (by simp))

theorem runEntry_top (P : Prog) (hT : Topo P) (fuel : Nat) (e : Entry) (hc : ∀ c ∈ e.calls, c < fuel) :
    ∃ s, runEntry P fuel e = s.emit .mainMain ∧ Top P e.calls s := by
  have h1 := ((Top.init P).emitIf e.pyInit .pyInit nofun nofun).optCall hT fuel e.rt
    (fun c hm => hc c (by simp [Entry.calls, hm]))
  have h2 := (h1.emitIf e.abiInit .abiTypes nofun nofun).optCall hT fuel e.stdRuntime
    (fun c hm => hc c (by simp [Entry.calls, hm]))
  exact ⟨_, rfl, h2.call hT fuel e.main (hc e.main (by simp [Entry.calls]))⟩

section TopFacts
variable {P : Prog} {D : List Nat} {s : St} (h : Top P D s)
include h

theorem Top.fin_of_reach {p : Nat} (hr : Reachable P D p) : Finished s p := by
  obtain ⟨c, hc, hr⟩ := hr
  by_cases hp : p = c
  · exact hp ▸ h.fin c hc
  · exact (reach_bef h.inv hr (h.fin c hc) hp).1

theorem Top.once {p : Nat} (hr : Reachable P D p) : s.trace.count (.body p false) = 1 :=
  h.inv.count_eq_one (h.fin_of_reach hr)

theorem Top.deps_first {p q : Nat} (hr : Reachable P D p) (hq : Reach P p q) (hne : q ≠ p) :
    Bef (.body q false) (.body p false) s.trace :=
  reach_bef h.inv hq (h.fin_of_reach hr) hne

theorem Top.never {p : Nat} (o : Bool) (hr : ¬ Reachable P D p) : Ev.body p o ∉ s.trace :=
  fun hm => hr (h.reach p o hm)

theorem Top.chained {p : Nat} {oi : List Nat} (hr : Reachable P D p) (hk : (P p).kind = .chained oi) :
    s.trace.count (.body p true) = 1 ∧ Bef (.body p true) (.body p false) s.trace ∧
      ∀ q ∈ oi, Bef (.body q false) (.body p true) s.trace :=
  have hch := h.inv.order (h.fin_of_reach hr) (.chain hk)
  ⟨h.inv.count_eq_one hch.1, hch, fun _ hq => h.inv.order hch.1 (.orig hk hq)⟩

theorem Top.orig_never {p : Nat} (hk : ∀ oi, (P p).kind ≠ .chained oi) : Ev.body p true ∉ s.trace :=
  fun hm => (h.inv.origOnly p hm).elim hk

/-- needs neither `Topo` nor a bound on the fuel: every reached package is guarded -/
theorem Top.calls_again (fuel : Nat) (l : List Nat) (hl : ∀ c ∈ l, Reachable P D c) : callInits P fuel l s = s :=
  callInits_guarded P fuel l fun c hc => h.inv.sub c false (h.fin_of_reach (hl c hc))

theorem Top.split {p : Nat} (hr : Reachable P D p) :
    ∃ l₁ l₂, s.trace = l₁ ++ .body p false :: l₂ ∧ Ev.body p false ∉ l₁ ∧ Ev.body p false ∉ l₂ := by
  obtain ⟨l₁, l₂, hsplit⟩ := List.append_of_mem (h.fin_of_reach hr)
  have hcount := h.once hr
  rw [hsplit, List.count_append, List.count_cons_self] at hcount
  refine ⟨l₁, l₂, hsplit, fun hm => ?_, fun hm => ?_⟩ <;> have := List.one_le_count_iff.2 hm <;> omega

theorem Top.deps_in_prefix {p q : Nat} {l₁ l₂ : List Ev} (e : s.trace = l₁ ++ .body p false :: l₂) (hq : Reach P p q)
    (hne : q ≠ p) : Ev.body q false ∈ l₁ :=
  have hr := h.reach p false (e ▸ List.mem_append_right _ List.mem_cons_self)
  Bef.mem_left (e ▸ h.deps_first hr hq hne)

end TopFacts

theorem topoUpTo_sound {l : List Pkg} (h : topoUpTo (ofList l) l.length = true) : Topo (ofList l) := by
  intro p q hq
  by_cases hp : p < l.length
  · exact of_decide_eq_true (List.all_eq_true.1 (List.all_eq_true.1 h p (List.mem_range.2 hp)) q hq)
  · have hd : ofList l p = { imports := [] } := by simp [ofList, List.getD, Nat.le_of_not_lt hp]
    simp [Prog.deps, Prog.origImports, hd] at hq

theorem expand_append {α : Type} (acts : Nat → Bool → List α) (other : Ev → List α) (a b : List Ev) :
    expand acts other (a ++ b) = expand acts other a ++ expand acts other b := by
  induction a with
  | nil => rfl
  | cons e t ih => cases e <;> simp [expand, ih]

end LlgoVerif.Init
