import LlgoVerif.Model.Chan
/-! Nearly everything proved about `body` is read off the branch list `Crit` (`body_crit`); `Frame` is what every branch leaves
    alone. -/
namespace LlgoVerif.Chan

/-- a thread woken in `Wait` re-runs the loop head -/
def Point.lock : Point → Point
  | .sendWaitU c v | .sendWaitB c v => .sendLock c v
  | .recvWaitU c sl | .recvWaitB c sl => .recvLock c sl
  | .recv2Wait c b seq => .recv2Lock c b seq
  | p => p

theorem Point.lock_chan (p : Point) : p.lock.chan = p.chan := by
  cases p <;> rfl

theorem Point.chan_of_lock {p p' : Point} (h : p.lock = p') : p'.chan = p.chan := by
  rw [← h, Point.lock_chan]

theorem Point.chan_eq_of_lock {p q : Point} (h : q.lock = p.lock) : q.chan = p.chan :=
  (Point.chan_of_lock h).symm.trans p.lock_chan

theorem Chan.le_bump (ch : Chan) : ch.recvseq ≤ ch.bump := by
  unfold Chan.bump; split <;> omega

theorem Chan.handOff_eq (ch : Chan) (t : Tid) (v : Val) :
    ch.handOff t v =
      ({ ch with getp := noSendRecv, recvseq := ch.bump, sent := ch.sent ++ [v], sentBy := ch.sentBy ++ [(t, v)],
                 recvd := ch.recvd ++ (ch.slot.map fun _ => v).toList,
                 recvBy := ch.recvBy ++ (ch.slot.map fun tg => (tg.tid, v)).toList },
       ch.slot.map fun tg => (tg, v)) := by
  unfold Chan.handOff
  cases ch.slot <;> simp

/-- `n` in the `send…` constructors is `p.sends` at the loop head (after the `p.sends--` that follows a `Wait`); `hfirst` is
    `p.sends == 1 || p.sends-1 == p.selsends` (z_chan.go) read after the `p.sends++`, i.e. with `n + 1` for `p.sends`. -/
inductive Crit (t : Tid) (ch : Chan) : Point → BodyRes → Prop
  | sendParkNotify {p c v n} (hp : p.lock = .sendLock c v) (hn : n = if p = .sendWaitU c v then ch.sends - 1 else ch.sends)
      (hcap : ch.cap = 0) (hg : ch.getp ≠ hasRecv) (hcl : ch.closed = false)
      (hfirst : n + 1 = 1 ∨ n + 1 - 1 = ch.selsends) :
      Crit t ch p ⟨{ ch with sends := n + 1 }, none, .notify (.wait (.sendWaitU c v))⟩
  | sendParkU {p c v n} (hp : p.lock = .sendLock c v) (hn : n = if p = .sendWaitU c v then ch.sends - 1 else ch.sends)
      (hcap : ch.cap = 0) (hg : ch.getp ≠ hasRecv) (hcl : ch.closed = false)
      (hfirst : ¬ (n + 1 = 1 ∨ n + 1 - 1 = ch.selsends)) :
      Crit t ch p ⟨{ ch with sends := n + 1 }, none, .wait (.sendWaitU c v)⟩
  /-- a full buffer is looked at before `closed` (`hfull`) -/
  | sendPanic {p c v n} (hp : p.lock = .sendLock c v) (hn : n = if p = .sendWaitU c v then ch.sends - 1 else ch.sends)
      (hcl : ch.closed = true) (hfull : ch.cap ≠ 0 → ch.len ≠ ch.cap) :
      Crit t ch p ⟨{ ch with sends := n }, none, .panic⟩
  | sendHandOff {p c v n} (hp : p.lock = .sendLock c v) (hn : n = if p = .sendWaitU c v then ch.sends - 1 else ch.sends)
      (hcap : ch.cap = 0) (hg : ch.getp = hasRecv) (hcl : ch.closed = false) :
      Crit t ch p ⟨({ ch with sends := n }.handOff t v).1, ({ ch with sends := n }.handOff t v).2,
        .notify (.finish true (.ret (.sent c v)))⟩
  | sendParkB {p c v n} (hp : p.lock = .sendLock c v) (hn : n = if p = .sendWaitU c v then ch.sends - 1 else ch.sends)
      (hcap : ch.cap ≠ 0) (hl : ch.len = ch.cap) :
      Crit t ch p ⟨{ ch with sends := n }, none, .wait (.sendWaitB c v)⟩
  | sendPush {p c v n} (hp : p.lock = .sendLock c v) (hn : n = if p = .sendWaitU c v then ch.sends - 1 else ch.sends)
      (hcap : ch.cap ≠ 0) (hl : ch.len ≠ ch.cap) (hcl : ch.closed = false) :
      Crit t ch p ⟨{ ch with sends := n }.push t v, none, .notify (.finish true (.ret (.sent c v)))⟩
  | recvParkU {p c sl} (hp : p.lock = .recvLock c sl) (hcap : ch.cap = 0) (hg : ch.getp = hasRecv)
      (hcl : ch.closed = false) :
      Crit t ch p ⟨ch, none, .wait (.recvWaitU c sl)⟩
  | recvClosed {p c sl} (hp : p.lock = .recvLock c sl) (hcl : ch.closed = true) (hl : ch.cap ≠ 0 → ch.len = 0) :
      Crit t ch p ⟨ch, none, .unlock (.recv c false)⟩
  | recvArm {p c sl} (hp : p.lock = .recvLock c sl) (hcap : ch.cap = 0) (hg : ch.getp ≠ hasRecv)
      (hcl : ch.closed = false) :
      Crit t ch p ⟨{ ch with getp := hasRecv, slot := some ⟨t, sl⟩ }, none,
        .notify (.finish true (.recv2 false ch.recvseq))⟩
  | recvParkB {p c sl} (hp : p.lock = .recvLock c sl) (hcap : ch.cap ≠ 0) (hl : ch.len = 0) (hcl : ch.closed = false) :
      Crit t ch p ⟨ch, none, .wait (.recvWaitB c sl)⟩
  | recvPop {p c sl} (hp : p.lock = .recvLock c sl) (hcap : ch.cap ≠ 0) (hl : ch.len ≠ 0) :
      Crit t ch p ⟨ch.pop t, some (⟨t, sl⟩, ch.front), .notify (.finish true (.ret (.recv c true)))⟩
  | recv2Park {p c b seq} (hp : p.lock = .recv2Lock c b seq)
      (hw : if ch.fixed then ch.recvseq = seq else ch.getp = hasRecv) (hcl : ch.closed = false) :
      Crit t ch p ⟨ch, none, .wait (.recv2Wait c b seq)⟩
  | recv2Ret {p c b seq} (hp : p.lock = .recv2Lock c b seq)
      (hw : ¬ ((if ch.fixed then ch.recvseq = seq else ch.getp = hasRecv) ∧ ch.closed = false)) :
      Crit t ch p ⟨ch, none,
        .unlock (if b then .tryRecv (if ch.fixed then ch.recvseq != seq else !ch.closed)
                                    (if ch.fixed then ch.recvseq != seq else !ch.closed)
                 else .recv c (if ch.fixed then ch.recvseq != seq else !ch.closed))⟩
  | closePanic {c} (hcl : ch.closed = true) : Crit t ch (.closeLock c) ⟨ch, none, .panic⟩
  | close {c} (hcl : ch.closed = false) :
      Crit t ch (.closeLock c) ⟨{ ch with closed := true }, none, .notify (.finish true (.ret .closed))⟩
  | trySendFail {c v}
      (h : if ch.cap = 0 then ch.getp ≠ hasRecv ∨ ch.closed = true else ch.len = ch.cap ∨ ch.closed = true) :
      Crit t ch (.trySendLock c v) ⟨ch, none, .unlock (.trySend false)⟩
  | trySendHandOff {c v} (hcap : ch.cap = 0) (hg : ch.getp = hasRecv) (hcl : ch.closed = false) :
      Crit t ch (.trySendLock c v) ⟨(ch.handOff t v).1, (ch.handOff t v).2,
        .notify (.finish true (.ret (.trySend true)))⟩
  | trySendPush {c v} (hcap : ch.cap ≠ 0) (hl : ch.len ≠ ch.cap) (hcl : ch.closed = false) :
      Crit t ch (.trySendLock c v) ⟨ch.push t v, none, .notify (.finish true (.ret (.trySend true)))⟩
  | tryRecvIdle {c sl a}
      (h : if ch.cap = 0 then ch.sends = 0 ∨ ch.getp = hasRecv ∨ ch.closed = true else ch.len = 0) :
      Crit t ch (.tryRecvLock c sl a) ⟨ch, none, .unlock (.tryRecv false ch.closed)⟩
  /-- every blocked sender is a select's, and this poll must not pair with them -/
  | tryRecvDeclined {c sl a} (hcap : ch.cap = 0) (h : ¬ (ch.sends = 0 ∨ ch.getp = hasRecv ∨ ch.closed = true))
      (ha : a = false ∧ ch.sends = ch.selsends) :
      Crit t ch (.tryRecvLock c sl a) ⟨ch, none, .unlock (.tryRecv false false)⟩
  | tryRecvArm {c sl a} (hcap : ch.cap = 0) (h : ¬ (ch.sends = 0 ∨ ch.getp = hasRecv ∨ ch.closed = true))
      (ha : ¬ (a = false ∧ ch.sends = ch.selsends)) :
      Crit t ch (.tryRecvLock c sl a) ⟨{ ch with getp := hasRecv, slot := some ⟨t, sl⟩ }, none,
        .notify (.finish true (.recv2 true ch.recvseq))⟩
  | tryRecvPop {c sl a} (hcap : ch.cap ≠ 0) (hl : ch.len ≠ 0) :
      Crit t ch (.tryRecvLock c sl a) ⟨ch.pop t, some (⟨t, sl⟩, ch.front),
        .notify (.finish true (.ret (.tryRecv true true)))⟩
  | prepSend {c} (hcap : ch.cap = 0) :
      Crit t ch (.prepLock c true)
        ⟨{ ch with sends := ch.sends + 1, selsends := ch.selsends + 1, sops := ch.sops ++ [t] }, none,
          .notify (.finish false (.ret .prep))⟩
  | prep {c b} (h : ¬ (ch.cap = 0 ∧ b = true)) :
      Crit t ch (.prepLock c b) ⟨{ ch with sops := ch.sops ++ [t] }, none, .unlock .prep⟩
  | endSend {c} (hcap : ch.cap = 0) :
      Crit t ch (.endLock c true)
        ⟨{ ch with sends := ch.sends - 1, selsends := ch.selsends - 1, sops := ch.sops.erase t }, none, .unlock .ended⟩
  | endSel {c b} (h : ¬ (ch.cap = 0 ∧ b = true)) :
      Crit t ch (.endLock c b) ⟨{ ch with sops := ch.sops.erase t }, none, .unlock .ended⟩

theorem sendLoop_crit {t : Tid} {ch : Chan} {p : Point} {c : Cid} {v : Val} {n : Nat} (hp : p.lock = .sendLock c v)
    (hn : n = if p = .sendWaitU c v then ch.sends - 1 else ch.sends) :
    Crit t ch p (sendLoop { ch with sends := n } t c v) := by
  fun_cases sendLoop { ch with sends := n } t c v
  next hcap hpark _ hfirst => exact .sendParkNotify hp hn hcap hpark.1 hpark.2 hfirst
  next hcap hpark _ hfirst => exact .sendParkU hp hn hcap hpark.1 hpark.2 hfirst
  next hcap _ hcl => exact .sendPanic hp hn hcl (fun h => absurd hcap h)
  next hcap hpark hcl ch1 d hx =>
    obtain ⟨rfl, rfl⟩ : ({ ch with sends := n }.handOff t v).1 = ch1 ∧ ({ ch with sends := n }.handOff t v).2 = d := by
      rw [hx]; exact ⟨rfl, rfl⟩
    have hcl' : ch.closed = false := by simpa using hcl
    exact .sendHandOff hp hn hcap (Classical.not_not.mp fun hg => hpark ⟨hg, hcl'⟩) hcl'
  next hcap hl => exact .sendParkB hp hn hcap hl
  next hcap hl hcl => exact .sendPanic hp hn hcl (fun _ => hl)
  next hcap hl hcl => exact .sendPush hp hn hcap hl (by simpa using hcl)

theorem recvLoop_crit {t : Tid} {ch : Chan} {p : Point} {c : Cid} {sl : Nat} (hp : p.lock = .recvLock c sl) :
    Crit t ch p (recvLoop ch c ⟨t, sl⟩) := by
  fun_cases recvLoop ch c ⟨t, sl⟩
  next hcap hpark => exact .recvParkU hp hcap hpark.1 hpark.2
  next hcap _ hcl => exact .recvClosed hp hcl (fun h => absurd hcap h)
  next hcap hpark hcl =>
    have hcl' : ch.closed = false := by simpa using hcl
    exact .recvArm hp hcap (fun hg => hpark ⟨hg, hcl'⟩) hcl'
  next hcap hl hcl => exact .recvClosed hp hcl (fun _ => hl)
  next hcap hl hcl => exact .recvParkB hp hcap hl (by simpa using hcl)
  next hcap hl => exact .recvPop hp hcap hl

theorem recv2Loop_crit {t : Tid} {ch : Chan} {p : Point} {c : Cid} {b : Bool} {seq : Nat}
    (hp : p.lock = .recv2Lock c b seq) : Crit t ch p (recv2Loop ch c b seq) := by
  fun_cases recv2Loop ch c b seq
  next hf hw => exact .recv2Park hp (by rw [if_pos hf]; exact hw.1) hw.2
  next hf hw =>
    have := Crit.recv2Ret (t := t) hp (ch := ch) (by rw [if_pos hf]; exact hw)
    rwa [if_pos hf] at this
  next hf hw => exact .recv2Park hp (by rw [if_neg hf]; exact hw.1) hw.2
  next hf hw =>
    have := Crit.recv2Ret (t := t) hp (ch := ch) (by rw [if_neg hf]; exact hw)
    rwa [if_neg hf] at this

theorem body_crit (p : Point) (t : Tid) (ch : Chan) : Crit t ch p (body p t ch) := by
  cases p with
  -- `{ ch with sends := ch.sends }` is `ch` by structure eta
  | sendLock c v => exact sendLoop_crit (n := ch.sends) rfl (if_neg Point.noConfusion).symm
  | sendWaitU c v => exact sendLoop_crit rfl (if_pos rfl).symm
  | sendWaitB c v => exact sendLoop_crit (n := ch.sends) rfl (if_neg Point.noConfusion).symm
  | recvLock c sl => exact recvLoop_crit rfl
  | recvWaitU c sl => exact recvLoop_crit rfl
  | recvWaitB c sl => exact recvLoop_crit rfl
  | recv2Lock c b seq => exact recv2Loop_crit rfl
  | recv2Wait c b seq => exact recv2Loop_crit rfl
  | closeLock c =>
    show Crit t ch _ (closeBody ch)
    fun_cases closeBody ch
    next hcl => exact .closePanic hcl
    next hcl => exact .close (by simpa using hcl)
  | trySendLock c v =>
    show Crit t ch _ (trySendBody ch t v)
    fun_cases trySendBody ch t v
    next hcap h => exact .trySendFail (by rw [if_pos hcap]; exact h)
    next hcap h ch1 d hx =>
      obtain ⟨rfl, rfl⟩ : (ch.handOff t v).1 = ch1 ∧ (ch.handOff t v).2 = d := by rw [hx]; exact ⟨rfl, rfl⟩
      exact .trySendHandOff hcap (Classical.not_not.mp fun hg => h (Or.inl hg)) (by simpa using fun hc => h (Or.inr hc))
    next hcap h => exact .trySendFail (by rw [if_neg hcap]; exact h)
    next hcap h => exact .trySendPush hcap (fun hl => h (Or.inl hl)) (by simpa using fun hc => h (Or.inr hc))
  | tryRecvLock c sl a =>
    show Crit t ch _ (tryRecvBody ch ⟨t, sl⟩ a)
    fun_cases tryRecvBody ch ⟨t, sl⟩ a
    next hcap h => exact .tryRecvIdle (by rw [if_pos hcap]; exact h)
    next hcap h ha => exact .tryRecvDeclined hcap h ha
    next hcap h ha => exact .tryRecvArm hcap h ha
    next hcap hl => exact .tryRecvIdle (by rw [if_neg hcap]; exact hl)
    next hcap hl => exact .tryRecvPop hcap hl
  | prepLock c b =>
    show Crit t ch _ (prepBody ch t b)
    unfold prepBody
    by_cases h : ch.cap = 0 ∧ b = true
    · simp only [if_pos h]
      obtain ⟨hcap, rfl⟩ := h
      exact .prepSend hcap
    · simp only [if_neg h]; exact .prep h
  | endLock c b =>
    show Crit t ch _ (endBody ch t b)
    unfold endBody
    by_cases h : ch.cap = 0 ∧ b = true
    · simp only [if_pos h]
      obtain ⟨hcap, rfl⟩ := h
      exact .endSend hcap
    · simp only [if_neg h]; exact .endSel h

/-- what runs once `notifyOps` (if the ending has one) is over: the thread-level code makes no other difference between `wait p`
    and `notify (wait p)`, `unlock r` and `notify (finish false (ret r))` -/
def Out.after : Out → Option After
  | .wait p => some (.wait p)
  | .notify k => some k
  | .unlock r => some (.finish false (.ret r))
  | .panic => none

def waitCondU (p : Point) (ch : Chan) : Prop :=
  match p with
  | .sendWaitU .. => ch.cap = 0 ∧ ch.getp ≠ hasRecv ∧ ch.closed = false
  | .recvWaitU .. => ch.cap = 0 ∧ ch.getp = hasRecv ∧ ch.closed = false
  | _ => True

/-- the loop guard under which `z_chan.go` calls `p.cond.Wait` at wait point `p` (the `for` conditions of `ChanSend`, `ChanRecv`) -/
def waitCond (p : Point) (ch : Chan) : Prop :=
  match p with
  | .sendWaitB .. => ch.len = ch.cap ∧ ch.cap ≠ 0
  | .recvWaitB .. => ch.len = 0 ∧ ch.cap ≠ 0
  | .recv2Wait _ _ seq => (if ch.fixed then ch.recvseq = seq else ch.getp = hasRecv) ∧ ch.closed = false
  | p => waitCondU p ch

/-- a critical section that ends in `Wait` at `q` ran the loop of `q` and found its guard true -/
theorem body_sleep (p q : Point) (t : Tid) (ch : Chan) (h : (body p t ch).out.after = some (.wait q)) :
    q.lock = p.lock ∧ waitCond q ch := by
  have hs := body_crit p t ch
  generalize body p t ch = r at hs h
  cases hs with
  | sendParkNotify hp _ hcap hg hcl | sendParkU hp _ hcap hg hcl | recvParkU hp hcap hg hcl =>
    cases h; exact ⟨hp.symm, hcap, hg, hcl⟩
  | sendParkB hp _ hcap hl | recvParkB hp hcap hl => cases h; exact ⟨hp.symm, hl, hcap⟩
  | recv2Park hp hw hcl => cases h; exact ⟨hp.symm, hw, hcl⟩
  | _ => cases h

/-- the fields the wait loops test, `getp` apart -/
structure SameW (ch ch' : Chan) : Prop where
  len : ch'.len = ch.len
  cap : ch'.cap = ch.cap
  seq : ch'.recvseq = ch.recvseq
  closed : ch'.closed = ch.closed
  fixed : ch'.fixed = ch.fixed

/-- `quiet`: nothing a `Cond.Wait` loop tests changes unless the section ends in `Unlock; Broadcast` -/
structure Frame (ch : Chan) (r : BodyRes) : Prop where
  cap : r.ch.cap = ch.cap
  fixed : r.ch.fixed = ch.fixed
  closed : ch.closed = true → r.ch.closed = true
  seq : ch.recvseq ≤ r.ch.recvseq
  quiet : (∀ n, r.out ≠ .notify (.finish true n)) → SameW ch r.ch ∧ r.ch.getp = ch.getp

/-- also covers an unchanged `ch` (structure eta) -/
theorem Frame.book (ch : Chan) (n m : Nat) (l : List Tid) (d : Option (Target × Val)) (o : Out) :
    Frame ch ⟨{ ch with sends := n, selsends := m, sops := l }, d, o⟩ :=
  ⟨rfl, rfl, id, Nat.le_refl _, fun _ => ⟨⟨rfl, rfl, rfl, rfl, rfl⟩, rfl⟩⟩

theorem Frame.broadcast {ch ch' : Chan} (d : Option (Target × Val)) (n : Next) (h1 : ch'.cap = ch.cap)
    (h2 : ch'.fixed = ch.fixed) (h3 : ch.closed = true → ch'.closed = true) (h4 : ch.recvseq ≤ ch'.recvseq) :
    Frame ch ⟨ch', d, .notify (.finish true n)⟩ :=
  ⟨h1, h2, h3, h4, fun h => absurd rfl (h n)⟩

theorem Crit.frame {t : Tid} {ch : Chan} {p : Point} {r : BodyRes} (h : Crit t ch p r) : Frame ch r := by
  cases h with
  | sendHandOff | trySendHandOff => simp only [Chan.handOff_eq]; exact .broadcast _ _ rfl rfl id (Chan.le_bump _)
  | sendPush | trySendPush | recvPop | tryRecvPop | recvArm | tryRecvArm =>
    exact .broadcast _ _ rfl rfl id (Nat.le_refl _)
  | close => exact .broadcast _ _ rfl rfl (fun _ => rfl) (Nat.le_refl _)
  | _ => exact .book ch _ _ _ _ _

theorem body_frame (p : Point) (t : Tid) (ch : Chan) : Frame ch (body p t ch) :=
  (body_crit p t ch).frame

theorem body_cap (p : Point) (t : Tid) (ch : Chan) : (body p t ch).ch.cap = ch.cap :=
  (body_frame p t ch).cap

theorem body_fixed (p : Point) (t : Tid) (ch : Chan) : (body p t ch).ch.fixed = ch.fixed :=
  (body_frame p t ch).fixed

theorem recvseq_mono (p : Point) (t : Tid) (ch : Chan) : ch.recvseq ≤ (body p t ch).ch.recvseq :=
  (body_frame p t ch).seq

end LlgoVerif.Chan
