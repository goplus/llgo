import LlgoVerif.Model.GoType
namespace LlgoVerif.Types

theorem split_at_first_not {α} (q : α → Prop) : ∀ {D D' : List α} {n n' : α} {A A' : List α},
    (∀ d ∈ D, q d) → (∀ d ∈ D', q d) → ¬ q n → ¬ q n' →
    D ++ n :: A = D' ++ n' :: A' → D = D' ∧ n = n' ∧ A = A'
  | [], [], _, _, _, _, _, _, _, _, h => by simpa using h
  | [], d' :: D', n, _, _, _, _, h2, hn, _, h => by
    simp at h; exact absurd (h.1 ▸ h2 d' (by simp)) hn
  | d :: D, [], _, n', _, _, h1, _, _, hn', h => by
    simp at h; exact absurd (h.1 ▸ h1 d (by simp)) hn'
  | d :: D, d' :: D', n, n', A, A', h1, h2, hn, hn', h => by
    simp at h
    have := split_at_first_not q (fun x hx => h1 x (by simp [hx])) (fun x hx => h2 x (by simp [hx])) hn hn' h.2
    simp [h.1, this.1, this.2.1, this.2.2]

theorem splitFirst_iff {α} (c : α) {a₁ a₂ b₁ b₂ : List α} (h1 : c ∉ a₁) (h2 : c ∉ a₂) :
    a₁ ++ c :: b₁ = a₂ ++ c :: b₂ ↔ a₁ = a₂ ∧ b₁ = b₂ := by
  refine ⟨fun h => ?_, fun ⟨ea, eb⟩ => by rw [ea, eb]⟩
  have := split_at_first_not (· ≠ c) (fun _ hd e => h1 (e ▸ hd)) (fun _ hd e => h2 (e ▸ hd)) (fun e => e rfl) (fun e => e rfl) h
  exact ⟨this.1, this.2.2⟩

theorem splitFirst_or_end {α} (c : α) {a₁ a₂ T₁ T₂ : List α} (h1 : c ∉ a₁) (h2 : c ∉ a₂)
    (s1 : T₁ = [] ∨ ∃ b, T₁ = c :: b) (s2 : T₂ = [] ∨ ∃ b, T₂ = c :: b) : a₁ ++ T₁ = a₂ ++ T₂ ↔ a₁ = a₂ ∧ T₁ = T₂ := by
  refine ⟨fun h => ?_, fun ⟨ea, eT⟩ => by rw [ea, eT]⟩
  rcases s1 with rfl | ⟨b₁, rfl⟩ <;> rcases s2 with rfl | ⟨b₂, rfl⟩
  · exact ⟨by simpa using h, rfl⟩
  · have : c ∈ a₁ ++ [] := by rw [h]; simp
    simp [h1] at this
  · have : c ∈ a₂ ++ [] := by rw [← h]; simp
    simp [h2] at this
  · obtain ⟨ea, eb⟩ := (splitFirst_iff c h1 h2).1 h
    exact ⟨ea, by rw [eb]⟩

theorem toNat_ofNat {n : Nat} (h : n < 0xd800) : (Char.ofNat n).toNat = n := by
  have : n.isValidChar := Or.inl h
  simp [Char.ofNat, this, Char.ofNatAux, Char.toNat]

theorem digitChar_eq : ∀ d, d < 10 → digitChar d = d.digitChar := by decide

theorem dec_eq_toDigits (n : Nat) : dec n = Nat.toDigits 10 n := by
  induction n using Nat.strongRecOn with
  | _ n ih =>
    rw [Nat.toDigits_eq_if (by decide), dec, digitsRev]
    split
    · next h => simp [digitChar_eq n h]
    · rw [← ih (n / 10) (by omega), dec, List.reverse_cons, List.map_append, List.map_singleton, digitChar_eq _ (by omega)]

theorem dec_inj_iff {n m : Nat} : dec n = dec m ↔ n = m := by
  refine ⟨fun h => ?_, congrArg dec⟩
  have := congrArg (Nat.ofDigitChars 10 · 0) h
  simpa [dec_eq_toDigits] using this

theorem dec_ne_nil (n : Nat) : dec n ≠ [] := dec_eq_toDigits n ▸ Nat.toDigits_ne_nil

def isDigit (c : Char) : Bool := c.toNat ≥ 48 && c.toNat ≤ 57

theorem isDigit_eq (c : Char) : isDigit c = c.isDigit := by
  simp only [isDigit, Char.isDigit, ge_iff_le, UInt32.le_iff_toNat_le]; rfl

theorem dec_isDigit (n : Nat) : ∀ c ∈ dec n, isDigit c = true := fun c hc => by
  rw [isDigit_eq]; exact Nat.isDigit_of_mem_toDigits (by decide) (by decide) (dec_eq_toDigits n ▸ hc)

theorem boolStr_nonl (b : Bool) : '\n' ∉ boolStr b := by cases b <;> decide

theorem boolStr_inj_iff {a b : Bool} : boolStr a = boolStr b ↔ a = b := by
  cases a <;> cases b <;> decide

/-- nothing in the Go code: only there to state `Balanced` -/
def splitClose : Nat → Str → Option (Str × Str)
  | _, [] => none
  | d, c :: s =>
    if c = '[' then (splitClose (d+1) s).map fun p => (c :: p.1, p.2)
    else if c = ']' then
      match d with
      | 0 => some ([], s)
      | d+1 => (splitClose d s).map fun p => (c :: p.1, p.2)
    else (splitClose d s).map fun p => (c :: p.1, p.2)

/-- stated as "`splitClose` commutes with the prefix `s`" rather than by a depth count because this form composes by `rw`
    (`balanced_append`) -/
def Balanced (s : Str) : Prop :=
  ∀ d rest, splitClose d (s ++ rest) = (splitClose d rest).map fun p => (s ++ p.1, p.2)

theorem balanced_nil : Balanced [] := by
  intro d rest; cases h : splitClose d rest <;> simp [h]

theorem balanced_append {a b : Str} (ha : Balanced a) (hb : Balanced b) : Balanced (a ++ b) := by
  intro d rest
  rw [List.append_assoc, ha, hb]
  cases splitClose d rest <;> simp

theorem balanced_plain : ∀ (s : Str), '[' ∉ s → ']' ∉ s → Balanced s
  | [], _, _ => balanced_nil
  | c :: s, h1, h2 => by
    simp at h1 h2
    have ih := balanced_plain s h1.2 h2.2
    intro d rest
    simp only [List.cons_append, splitClose]
    rw [if_neg (Ne.symm h1.1), if_neg (Ne.symm h2.1), ih]
    cases splitClose d rest <;> simp

theorem balanced_bracket {s : Str} (hs : Balanced s) : Balanced ('[' :: s ++ [']']) := by
  intro d rest
  simp only [List.cons_append, List.append_assoc, splitClose, if_true]
  rw [hs]
  simp [splitClose]
  cases splitClose d rest <;> simp

theorem split_close_iff {k₁ k₂ v₁ v₂ : Str} (h1 : Balanced k₁) (h2 : Balanced k₂) :
    k₁ ++ ']' :: v₁ = k₂ ++ ']' :: v₂ ↔ k₁ = k₂ ∧ v₁ = v₂ := by
  refine ⟨fun h => ?_, fun ⟨ek, ev⟩ => by rw [ek, ev]⟩
  have e1 := h1 0 (']' :: v₁)
  have e2 := h2 0 (']' :: v₂)
  rw [h] at e1
  rw [e1] at e2
  simp [splitClose] at e2
  exact e2

def ArgsShape (a : Str) : Prop := a = [] ∨ ∃ A, a = '[' :: A ++ [']'] ∧ Balanced A

/-- the argument part, if any, begins at the first `[` and ends at the matching `]` -/
theorem args_split {X₁ X₂ Z₁ Z₂ a₁ a₂ : Str} (hX₁ : '[' ∉ X₁) (hX₂ : '[' ∉ X₂) (hZ₁ : '[' ∉ Z₁) (hZ₂ : '[' ∉ Z₂)
    (s1 : ArgsShape a₁) (s2 : ArgsShape a₂) (h : X₁ ++ a₁ ++ Z₁ = X₂ ++ a₂ ++ Z₂) : X₁ ++ Z₁ = X₂ ++ Z₂ ∧ a₁ = a₂ := by
  rcases s1 with rfl | ⟨A₁, rfl, b1⟩ <;> rcases s2 with rfl | ⟨A₂, rfl, b2⟩
  · exact ⟨by simpa using h, rfl⟩
  · have : '[' ∈ X₁ ++ [] ++ Z₁ := by rw [h]; simp
    simp [hX₁, hZ₁] at this
  · have : '[' ∈ X₂ ++ [] ++ Z₂ := by rw [← h]; simp
    simp [hX₂, hZ₂] at this
  · have h' : X₁ ++ '[' :: (A₁ ++ ']' :: Z₁) = X₂ ++ '[' :: (A₂ ++ ']' :: Z₂) := by simpa using h
    obtain ⟨eX, r⟩ := (splitFirst_iff '[' hX₁ hX₂).1 h'
    obtain ⟨eA, eZ⟩ := (split_close_iff b1 b2).1 r
    rw [eX, eA, eZ]; exact ⟨rfl, rfl⟩

theorem lines_split {a₁ a₂ b₁ b₂ : Str} (h1 : '\n' ∉ a₁) (h2 : '\n' ∉ a₂)
    (h : a₁ ++ '\n' :: b₁ = a₂ ++ '\n' :: b₂) : a₁ = a₂ ∧ b₁ = b₂ := (splitFirst_iff '\n' h1 h2).1 h

end LlgoVerif.Types
