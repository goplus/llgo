import LlgoVerif.Lemmas.ChanPlain
/-! C10, select-free programs, continued: `ArmInv` (arming of the hand-off, fixed variant) and the vocabulary that links
    channel history and thread results (`sentVals` … `inflightOf`). -/
namespace LlgoVerif.Chan

theorem open_of_body_open (p : Point) (t : Tid) (ch : Chan) (h : (body p t ch).ch.closed = false) : ch.closed = false := by
  cases hc : ch.closed with
  | false => rfl
  | true => rw [(body_frame p t ch).closed hc] at h; cases h

/-- what the critical sections do to the arming of an unbuffered channel (`getp = chanHasRecv`, `slot`, the hand-off counter) -/
structure ArmFrame (ch : Chan) (r : BodyRes) : Prop where
  /-- a section that leaves the channel armed made no hand-off -/
  seq : r.ch.getp = hasRecv → r.ch.recvseq = ch.recvseq
  /-- fixed variant: an armed channel stays armed for the same receiver as long as no hand-off happens -/
  keeps : ch.fixed = true → ch.cap = 0 → ch.getp = hasRecv → r.ch.recvseq = ch.recvseq →
    r.ch.getp = hasRecv ∧ r.ch.slot = ch.slot
  /-- `getp` becomes `chanHasRecv` only by arming -/
  arms : ch.cap = 0 → r.ch.getp = hasRecv → ch.getp ≠ hasRecv → ∃ bc b seq, r.out.after = some (.finish bc (.recv2 b seq))

theorem body_armFrame (p : Point) (t : Tid) (ch : Chan) : ArmFrame ch (body p t ch) := by
  have hs := body_crit p t ch
  generalize body p t ch = r at hs
  cases hs with
  | sendHandOff | trySendHandOff =>
    simp only [Chan.handOff_eq]
    exact
      { seq := fun h => by cases h
        keeps := fun hf _ _ h => by simp only [Chan.bump, hf, if_true] at h; omega
        arms := fun _ h => by cases h }
  | recvArm _ _ hg' => exact ⟨fun _ => rfl, fun _ _ hg => absurd hg hg', fun _ _ _ => ⟨_, _, _, rfl⟩⟩
  | tryRecvArm _ hg' => exact ⟨fun _ => rfl, fun _ _ hg => absurd (Or.inr (Or.inl hg)) hg', fun _ _ _ => ⟨_, _, _, rfl⟩⟩
  | recvPop _ hcap' | tryRecvPop hcap' =>
    exact ⟨fun _ => rfl, fun _ hcap => absurd hcap hcap', fun hcap => absurd hcap hcap'⟩
  | _ => exact ⟨fun _ => rfl, fun _ _ hg _ => ⟨hg, rfl⟩, fun _ h hg => absurd h hg⟩

/-- fixed variant: an armed, unserved receiver that looks again goes (back) to sleep -/
theorem body_recv2_armed {p : Point} {c : Cid} {b : Bool} {seq : Nat} {t : Tid} {ch : Chan}
    (hp : p.lock = .recv2Lock c b seq) (hf : ch.fixed = true) (hs : ch.recvseq = seq) (hc : ch.closed = false) :
    (body p t ch).out = .wait (.recv2Wait c b seq) := by
  rcases Point.eq_of_lock_recv2 hp with rfl | rfl <;> simp [body, recv2Loop, hf, hs, hc]

def atRecv2 (pc : PC) (c : Cid) (b : Bool) (seq : Nat) : Prop :=
  ∃ p, pc = .at p ∧ p.lock = .recv2Lock c b seq

/-- what a second-phase receiver that armed the channel at `seq` for its variable `tg` knows of it: the channel is unbuffered,
    `recvseq - seq` hand-offs happened since, and if none did the channel is still armed for `tg` -/
structure ArmedAt (ch : Chan) (seq : Nat) (tg : Target) : Prop where
  cap : ch.cap = 0
  le : seq ≤ ch.recvseq
  still : seq = ch.recvseq → ch.getp = hasRecv ∧ ch.slot = some tg

/-- fixed variant: whoever runs the critical section (`recvseq_mono`, `ArmFrame.keeps`) -/
theorem ArmedAt.kept {ch : Chan} {seq : Nat} {tg : Target} (h : ArmedAt ch seq tg) (hf : ch.fixed = true) (p : Point)
    (t : Tid) : ArmedAt (body p t ch).ch seq tg := by
  have hmono := recvseq_mono p t ch
  refine ⟨by rw [body_cap]; exact h.cap, Nat.le_trans h.le hmono, fun hs => ?_⟩
  have hsq : (body p t ch).ch.recvseq = ch.recvseq := by have := h.le; omega
  obtain ⟨hg, hsl⟩ := h.still (by rw [hs, hsq])
  obtain ⟨k1, k2⟩ := (body_armFrame p t ch).keeps hf h.cap hg hsq
  exact ⟨k1, by rw [k2]; exact hsl⟩

/-- fixed variant, select-free programs only.  `b` is quantified although it is `false` at every plain point: the statements
    stay free of `Point.plain` -/
structure ArmInv (s : State) : Prop where
  arm : ∀ t c b seq, c < s.chans.length → atRecv2 (s.thread t).pc c b seq → ArmedAt (s.chan c) seq ⟨t, 0⟩
  /-- an armed open channel has its receiver: a thread in the second phase, armed at the current `recvseq` (open: a receiver
      woken by `close` returns `ok = false` and leaves `getp = chanHasRecv` behind) -/
  armed : ∀ c, c < s.chans.length → (s.chan c).cap = 0 → (s.chan c).getp = hasRecv → (s.chan c).closed = false →
    ∃ t b, (s.chan c).slot = some ⟨t, 0⟩ ∧ atRecv2 (s.thread t).pc c b (s.chan c).recvseq

theorem entry_not_atRecv2 {pc : PC} (h : pc.entry = true) (c : Cid) (b : Bool) (seq : Nat) : ¬ atRecv2 pc c b seq :=
  fun ⟨_, e, hl⟩ => (Point.eq_of_lock_recv2 hl).elim (fun ep => (entry_not_recv2 h c b seq).1 (ep ▸ e))
    (fun ep => (entry_not_recv2 h c b seq).2 (ep ▸ e))

theorem SelfAfter.atRecv2 {th th' : Thread} {p : Point} {t : Tid} {ch : Chan} {rv1 : List Val}
    (hself : SelfAfter th th' p.chan rv1 (body p t ch).out.after) {c : Cid} {b : Bool} {seq : Nat}
    (hat : atRecv2 th'.pc c b seq) :
    (∃ q, (body p t ch).out.after = some (.wait q) ∧ q.lock = .recv2Lock c b seq) ∨
    (∃ bc, (body p t ch).out.after = some (.finish bc (.recv2 b seq)) ∧ c = p.chan) := by
  obtain ⟨p', e, hl⟩ := hat
  cases hk : (body p t ch).out.after with
  | none => rw [hk] at hself; rw [hself.1] at e; cases e
  | some k =>
    rw [hk] at hself
    match k, hself with
    | .wait q, ⟨m, _⟩ => rw [m.pc] at e; cases e; exact Or.inl ⟨_, rfl, hl⟩
    | .finish bc (.ret r), en => exact absurd ⟨p', e, hl⟩ (entry_not_atRecv2 en.pc c b seq)
    | .finish bc (.recv2 b' seq'), m => rw [m.pc] at e; cases e; cases hl; exact Or.inr ⟨bc, rfl, rfl⟩

/-- the invariant reads of a thread only which second phase it is in -/
theorem ArmInv.setThread {s : State} (h : ArmInv s) (t : Tid) (th : Thread)
    (hth : ∀ c b seq, atRecv2 th.pc c b seq ↔ atRecv2 (s.thread t).pc c b seq) : ArmInv (s.setThread t th) := by
  have key : ∀ t' c b seq, atRecv2 ((s.setThread t th).thread t').pc c b seq ↔ atRecv2 (s.thread t').pc c b seq := by
    intro t' c b seq
    rcases thread_setThread_cases s t t' th with ⟨rfl, e⟩ | e <;> rw [e]
    exact hth c b seq
  constructor
  · intro t' c b seq hc hat
    exact h.arm t' c b seq hc ((key ..).mp hat)
  · intro c hc h1 h2 h3
    obtain ⟨t', b, hs, hat⟩ := h.armed c hc h1 h2 h3
    exact ⟨t', b, hs, (key ..).mpr hat⟩

theorem wake_armInv {s : State} (h : ArmInv s) (t : Tid) : ArmInv (s.setThread t { s.thread t with waiting := false }) :=
  h.setThread t _ fun _ _ _ => Iff.rfl

/-- A second phase after the step is the one before it (`ArmedAt.kept`) unless the acting thread has just armed the channel
    (`body_arm`); a channel armed after the step was armed before it, for a receiver that is still there (if it is the acting
    thread it looked again and re-parks: `body_recv2_armed`), unless it has just been armed. -/
theorem exec_armInv {s : State} {t : Tid} (h : ArmInv s) (hpi : PlainInv s) (hfx : FixInv true s)
    (hr : runnable s t = true) : ArmInv (exec s t) := by
  rcases plain_cases hpi hr with ⟨_, hpc, e, en⟩ | ⟨p0, hpc, hpl, st⟩
  · rw [e]
    exact h.setThread t _ fun c b seq =>
      ⟨fun hat => absurd hat (entry_not_atRecv2 en.pc c b seq), fun ⟨_, e, _⟩ => by rw [hpc] at e; cases e⟩
  · have hch := st.chans
    have hoth := st.others
    have hself := st.self
    have hlen := chans_length_set hch
    have old : ∀ t' c b seq, atRecv2 ((exec s t).thread t').pc c b seq → atRecv2 (s.thread t').pc c b seq ∨
        (t' = t ∧ c = p0.chan ∧ ∃ bc, (body p0 t (s.chan p0.chan)).out.after = some (.finish bc (.recv2 b seq))) := by
      intro t' c b seq hat
      by_cases htt : t' = t
      · rw [htt] at hat ⊢
        rcases hself.atRecv2 hat with ⟨q, hw, hq⟩ | ⟨bc, ho, hcc⟩
        · exact Or.inl ⟨p0, hpc, (body_sleep p0 q t _ hw).1 ▸ hq⟩
        · exact Or.inr ⟨rfl, hcc, bc, ho⟩
      · rw [(hoth t' htt).pc] at hat; exact Or.inl hat
    constructor
    · intro t' c b seq hc hat
      rw [hlen] at hc
      rcases old t' c b seq hat with hat0 | ⟨rfl, rfl, bc, ho⟩
      · have ih := h.arm t' c b seq hc hat0
        rcases chan_after_set s _ p0.chan _ hch c with e1 | ⟨hcc, e1⟩ <;> rw [e1]
        · exact ih
        · rw [hcc] at ih hc; exact ih.kept (hfx _ hc) p0 t
      · rw [chan_set_self hch hc]
        have a := body_arm p0 t' _ bc b seq hpl ho
        exact ⟨a.cap, by rw [a.recvseq, a.seq]; exact Nat.le_refl _, fun _ => ⟨a.getp, a.slot⟩⟩
    · intro c hc h1 h2 h3
      rw [hlen] at hc
      have keep : (s.chan c).cap = 0 → (s.chan c).getp = hasRecv → (s.chan c).closed = false →
          ∃ t' b, (s.chan c).slot = some ⟨t', 0⟩ ∧ atRecv2 ((exec s t).thread t').pc c b (s.chan c).recvseq := by
        intro g1 g2 g3
        obtain ⟨t', b, hsl, hat⟩ := h.armed c hc g1 g2 g3
        refine ⟨t', b, hsl, ?_⟩
        by_cases htt : t' = t
        · rw [htt] at hat ⊢
          obtain ⟨_, e, hl⟩ := hat
          rw [hpc] at e; cases e
          obtain rfl : c = p0.chan := Point.chan_of_lock hl
          have hw := body_recv2_armed (t := t) hl (hfx _ hc) rfl g3
          rw [show (body p0 t (s.chan p0.chan)).out.after = some (.wait (.recv2Wait p0.chan b (s.chan p0.chan).recvseq)) from
            congrArg Out.after hw] at hself
          exact ⟨_, hself.1.pc, rfl⟩
        · rw [(hoth t' htt).pc]; exact hat
      rcases chan_after_set s _ p0.chan _ hch c with e1 | ⟨hcc, e1⟩ <;> rw [e1] at h1 h2 h3 ⊢
      · exact keep h1 h2 h3
      · rw [hcc] at hc keep ⊢
        have hcap : (s.chan p0.chan).cap = 0 := by rw [← body_cap p0 t]; exact h1
        by_cases hg : (s.chan p0.chan).getp = hasRecv
        · have hsq := (body_armFrame p0 t _).seq h2
          rw [hsq, ((body_armFrame p0 t _).keeps (hfx _ hc) hcap hg hsq).2]
          exact keep hcap hg (open_of_body_open p0 t _ h3)
        · obtain ⟨bc, b, seq, hk⟩ := (body_armFrame p0 t _).arms hcap h2 hg
          have a := body_arm p0 t _ bc b seq hpl hk
          rw [hk] at hself
          exact ⟨t, b, a.slot, _, hself.pc, by rw [a.recvseq, a.seq]; rfl⟩

theorem init_armInv (cfg : Cfg) (caps : List Nat) (progs : List (List Op)) : ArmInv (init cfg caps progs) := by
  constructor
  · intro t c b seq _ hat
    obtain ⟨_, e, _⟩ := hat
    rcases init_thread_pc cfg caps progs t with e' | e' <;> (rw [e'] at e; cases e)
  · intro c _ _ h2 _
    obtain ⟨cfg', cap, e, _⟩ := init_chan cfg caps progs c
    rw [e] at h2; cases h2

/-- values of thread `th`'s completed sends on `c`, in order -/
def sentVals (th : Thread) (c : Cid) : List Val :=
  th.res.filterMap fun
    | .sent c' v => if c' = c then some v else none
    | _ => none

/-- values of thread `th`'s completed receives on `c` that returned `ok = true`, in order -/
def okVals (th : Thread) (c : Cid) : List Val :=
  th.res.filterMap fun
    | .recv c' v true => if c' = c then some v else none
    | _ => none

/-- values the channel history attributes to sender `t`, in order -/
def sentFrom (ch : Chan) (t : Tid) : List Val := (ch.sentBy.filter (·.1 == t)).map (·.2)
/-- values the channel history handed to receiver `t`, in order -/
def handedTo (ch : Chan) (t : Tid) : List Val := (ch.recvBy.filter (·.1 == t)).map (·.2)

/-- the value sitting in the variable of a second-phase receiver that has been served (`seq < recvseq`; the code tests
    `recvseq != seq`, the same by `ArmedAt.le`) but has not returned yet -/
def inflightOf (pc : PC) (rv : List Val) (c : Cid) (rs : Nat) : List Val :=
  match pc with
  | .at (.recv2Lock c' _ seq) => if c' = c ∧ seq < rs then [rv.getD 0 0] else []
  | .at (.recv2Wait c' _ seq) => if c' = c ∧ seq < rs then [rv.getD 0 0] else []
  | _ => []

def Ret.isPlainRet (c : Cid) : Ret → Bool
  | .sent c' _ => c' == c
  | .closed => true
  | .recv c' ok => c' == c && ok
  | _ => false

theorem inflightOf_entry {pc : PC} (h : pc.entry = true) (rv : List Val) (c : Cid) (rs : Nat) : inflightOf pc rv c rs = [] := by
  cases pc with
  | «at» p => cases p <;> simp_all [PC.entry, inflightOf]
  | _ => simp [inflightOf]

theorem inflightOf_other_chan (p : Point) (rv : List Val) (c : Cid) (rs : Nat) (h : p.chan ≠ c) :
    inflightOf (.at p) rv c rs = [] := by
  cases p <;> simp_all [inflightOf, Point.chan]

def sentOf (c : Cid) : Res → List Val
  | .sent c' v => if c' = c then [v] else []
  | _ => []

def okOf (c : Cid) : Res → List Val
  | .recv c' v true => if c' = c then [v] else []
  | _ => []

theorem sentVals_res {th th' : Thread} {r : Res} (h : th'.res = th.res ++ [r]) (c : Cid) :
    sentVals th' c = sentVals th c ++ sentOf c r := by
  unfold sentVals
  rw [h, List.filterMap_append]
  congr 1
  cases r with
  | sent c' v => by_cases hc : c' = c <;> simp [hc, sentOf]
  | _ => simp [sentOf]

theorem okVals_res {th th' : Thread} {r : Res} (h : th'.res = th.res ++ [r]) (c : Cid) :
    okVals th' c = okVals th c ++ okOf c r := by
  unfold okVals
  rw [h, List.filterMap_append]
  congr 1
  cases r with
  | recv c' v ok => cases ok <;> (by_cases hc : c' = c <;> simp [hc, okOf])
  | _ => simp [okOf]

theorem sentVals_snoc (th : Thread) (r : Res) (c : Cid) :
    sentVals { th with res := th.res ++ [r] } c =
      sentVals th c ++ (match r with | .sent c' v => if c' = c then [v] else [] | _ => []) :=
  sentVals_res (th' := { th with res := th.res ++ [r] }) rfl c

theorem okVals_snoc (th : Thread) (r : Res) (c : Cid) :
    okVals { th with res := th.res ++ [r] } c =
      okVals th c ++ (match r with | .recv c' v true => if c' = c then [v] else [] | _ => []) :=
  okVals_res (th' := { th with res := th.res ++ [r] }) rfl c

theorem inflightOf_eq_of_lock {p p' : Point} (h : p.lock = p') (rv : List Val) (c : Cid) (rs : Nat) :
    inflightOf (.at p) rv c rs = inflightOf (.at p') rv c rs := by
  subst h; cases p <;> rfl

end LlgoVerif.Chan
