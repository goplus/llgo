import LlgoVerif.Model.Mutex
import LlgoVerif.Lemmas.Total
/-! `Inv0` (owners = locked bit) holds in every reachable state.  Of the token invariant `Inv` (semaphore permits + threads
    carrying a wake-up = `woken + (starving ∧ ¬locked)`) only the lemma for ONE stepping thread is proved (`stepTh_delta`);
    that `Inv` holds in reachable states is NOT: the frame of the other threads' `LocOk` under a step that changes the
    word is missing, so nothing here bounds `sema` or rules out the hand-off `Add`'s crash. -/
namespace LlgoVerif.Mutex

def total (m : Th → Nat) : List Th → Nat
  | [] => 0
  | t :: l => m t + total m l

theorem total_eq (m : Th → Nat) (l : List Th) : total m l = (l.map m).sum := by
  induction l with
  | nil => rfl
  | cons a l ih => simp only [total, ih, List.map_cons, List.sum_cons]

def own (t : Th) : Nat := if t.pc = .owner then 1 else 0

/-- 1 while the thread carries a wake-up: permit taken, word not yet updated (`postSem`, `handoffAdd`); word updated,
    `Semrelease` not yet called (`rel`, `relH`); the woken bit is its own (`awoke`) -/
def tok (t : Th) : Nat :=
  match t.pc with
  | .postSem | .handoffAdd _ | .rel | .relH => 1
  | .loadOld | .top => t.awoke.toNat
  | _ => 0

def rhs (w : Word) : Nat := w.woken.toNat + (w.starving && !w.locked).toNat

/-- clause 2: `starvL` is set only in `postSem`, beside `awoke`: the CAS that sets `starving` clears `woken`
    (`casWord_sw`) -/
def LocOk (w : Word) (t : Th) : Prop :=
  (∀ c, t.pc = .handoffAdd c → w.starving = true ∧ w.locked = false ∧ w.woken = false ∧ w.waiters ≠ 0) ∧
  ((t.pc = .top ∨ t.pc = .loadOld) → t.starvL = true → t.awoke = true) ∧
  (t.pc = .tryCas → t.old.locked = false ∧ t.old.starving = false)

/-- not established for reachable states (header) -/
structure Inv (s : St) : Prop where
  own : total own s.ths = s.w.locked.toNat
  tok : s.sema + total tok s.ths = rhs s.w
  sw : s.w.starving = true → s.w.woken = false
  loc : ∀ (i : Nat) (t : Th), s.ths[i]? = some t → LocOk s.w t

theorem newWord_eq (o : Word) (s : Bool) : newWord o s =
    ⟨o.locked || !o.starving, o.woken, o.starving || s && o.locked, o.waiters + (o.locked || o.starving).toNat⟩ := by
  obtain ⟨l, _, st, _⟩ := o
  cases l <;> cases st <;> cases s <;> rfl

/-- the word the CAS of `lockSlow` installs -/
def casWord (t : Th) : Word :=
  let n := newWord t.old t.starvL
  if t.awoke then { n with woken := false } else n

/-- `stepTh` as rules, in the order of its branches, over-approximated: labels dropped, only the guards kept that `own`,
    `tok`, `rhs`, `LocOk` need -/
inductive Step (w : Word) (sema : Nat) (e : Env) (t : Th) : Word → Nat → Th → Prop
  | tryBusy : t.pc = .idle → Step w sema e t w sema t
  | tryRead : t.pc = .idle → w.locked = false → w.starving = false →
      Step w sema e t w sema { t with pc := .tryCas, old := w }
  | fastLock : t.pc = .idle → w = Word.zero → Step w sema e t { w with locked := true } sema { t with pc := .owner }
  | slowLock : t.pc = .idle →
      Step w sema e t w sema { t with pc := .loadOld, awoke := false, starvL := false, wst := 0 }
  | tryCas : t.pc = .tryCas → w = t.old → Step w sema e t { t.old with locked := true } sema { t with pc := .owner }
  | toIdle : t.pc = .tryCas ∨ t.pc = .uTop → Step w sema e t w sema { t with pc := .idle }
  | loadOld : t.pc = .loadOld → Step w sema e t w sema { t with pc := .top, old := w }
  | spinWake : t.pc = .top → t.old.starving = false → t.awoke = false → t.old.woken = false → w = t.old →
      Step w sema e t { t.old with woken := true } sema { t with pc := .loadOld, awoke := true }
  | again : t.pc = .top → Step w sema e t w sema { t with pc := .loadOld }
  | lockCas : t.pc = .top → (t.awoke = true → t.old.woken = true) → w = t.old → t.old.locked = false →
      t.old.starving = false → Step w sema e t (casWord t) sema { t with pc := .owner }
  | queueCas : t.pc = .top → (t.awoke = true → t.old.woken = true) → w = t.old →
      ¬(t.old.locked = false ∧ t.old.starving = false) → Step w sema e t (casWord t) sema { t with pc := .semReq }
  | semReq {c : Int} : t.pc = .semReq → Step w sema e t w sema { t with pc := .sleeping, wst := c }
  | semRet : t.pc = .sleeping → sema ≠ 0 → Step w sema e t w (sema - 1) { t with pc := .postSem }
  | handedOff {c st : Bool} : t.pc = .postSem → w.starving = true → w.locked = false → w.woken = false →
      w.waiters ≠ 0 → Step w sema e t w sema { t with pc := .handoffAdd c, old := w, starvL := st }
  | wokenUp {st : Bool} : t.pc = .postSem →
      Step w sema e t w sema { t with pc := .top, old := w, starvL := st, awoke := true }
  | handoffClear : t.pc = .handoffAdd true → w.locked = false →
      Step w sema e t { w with locked := true, waiters := w.waiters - 1, starving := false } sema { t with pc := .owner }
  | handoffKeep : t.pc = .handoffAdd false → w.locked = false →
      Step w sema e t { w with locked := true, waiters := w.waiters - 1 } sema { t with pc := .owner }
  | unlock : t.pc = .owner → w.locked = true → { w with locked := false } = Word.zero →
      Step w sema e t { w with locked := false } sema { t with pc := .idle }
  | unlockSlow : t.pc = .owner → w.locked = true → w.starving = false →
      Step w sema e t { w with locked := false } sema { t with pc := .uTop, old := { w with locked := false } }
  | unlockHandoff : t.pc = .owner → w.locked = true → w.starving = true →
      Step w sema e t { w with locked := false } sema { t with pc := .relH }
  | wakeCas : t.pc = .uTop → t.old.woken = false → t.old.starving = false → w = t.old →
      Step w sema e t { t.old with waiters := t.old.waiters - 1, woken := true } sema { t with pc := .rel }
  | uLost : t.pc = .uTop → Step w sema e t w sema { t with pc := .uLoad }
  | uLoad : t.pc = .uLoad → Step w sema e t w sema { t with pc := .uTop, old := w }
  | semrelease : t.pc = .rel ∨ t.pc = .relH → Step w sema e t w (sema + 1) { t with pc := .idle }

variable {w w' : Word} {sema sm' : Nat} {e : Env} {t t' : Th} {l : Lbl}

theorem stepTh_step (h : stepTh w sema e t = .ok w' sm' t' l) : Step w sema e t w' sm' t' := by
  revert h
  -- `stepTh`'s `let`s stay in the context as local definitions, hence `+zetaDelta` where a premise is read off a branch
  -- condition
  fun_cases stepTh w sema e t <;> intro h <;> injection h <;> subst_vars
  · exact .tryBusy ‹_›
  · exact .tryRead ‹_› (by simp_all +zetaDelta) (by simp_all +zetaDelta)
  · exact .fastLock ‹_› rfl
  · exact .slowLock ‹_›
  · exact .tryCas ‹_› rfl
  · exact .toIdle (.inl ‹_›)
  · exact .loadOld ‹_›
  · exact .spinWake ‹_› (by simp_all +zetaDelta) (by simp_all +zetaDelta) (by simp_all +zetaDelta) rfl
  · exact .again ‹_›
  · exact .again ‹_›
  · exact .lockCas ‹_› (by simp_all +zetaDelta [newWord_eq]) rfl (by simp_all +zetaDelta) (by simp_all +zetaDelta)
  · exact .queueCas ‹_› (by simp_all +zetaDelta [newWord_eq]) rfl (by simp_all +zetaDelta)
  · exact .again ‹_›
  · exact .semReq ‹_›
  · exact .semRet ‹_› ‹_›
  · exact .handedOff ‹_› ‹_› (by simp_all +zetaDelta) (by simp_all +zetaDelta) (by simp_all +zetaDelta)
  · exact .wokenUp ‹_›
  · rename_i c _ _ _
    cases c
    · exact .handoffKeep ‹_› (by simp_all +zetaDelta)
    · exact .handoffClear ‹_› (by simp_all +zetaDelta)
  · exact .unlock ‹_› (by simp_all +zetaDelta) ‹_›
  · exact .unlockSlow ‹_› (by simp_all +zetaDelta) (by simp_all +zetaDelta)
  · exact .unlockHandoff ‹_› (by simp_all +zetaDelta) (by simp_all +zetaDelta)
  · exact .toIdle (.inr ‹_›)
  · exact .wakeCas ‹_› (by simp_all +zetaDelta) (by simp_all +zetaDelta) rfl
  · exact .uLost ‹_›
  · exact .uLoad ‹_›
  · exact .semrelease (.inl ‹_›)
  · exact .semrelease (.inr ‹_›)

theorem casWord_eq (t : Th) : casWord t =
    ⟨t.old.locked || !t.old.starving, !t.awoke && t.old.woken, t.old.starving || t.starvL && t.old.locked,
      t.old.waiters + (t.old.locked || t.old.starving).toNat⟩ := by
  unfold casWord; rw [newWord_eq]; cases t.awoke <;> rfl

theorem Step.own
    (hs : Step w sema e t w' sm' t') (htry : t.pc = .tryCas → t.old.locked = false ∧ t.old.starving = false) :
    own t' + w.locked.toNat = own t + w'.locked.toNat := by
  cases hs with
  | fastLock hpc hw => subst hw; simp [Mutex.own, hpc, Word.zero]
  | tryCas hpc hw => subst hw; simp [Mutex.own, hpc, htry hpc]
  | lockCas hpc _ hw hl hs => subst hw; simp [Mutex.own, hpc, casWord_eq, hl, hs]
  | queueCas hpc _ hw hq =>
    subst hw
    have : (t.old.locked || !t.old.starving) = t.old.locked := by
      revert hq; cases t.old.locked <;> cases t.old.starving <;> simp
    simp [Mutex.own, hpc, casWord_eq, this]
  | handoffClear hpc hl | handoffKeep hpc hl => simp [Mutex.own, hpc, hl]
  | unlock hpc hl | unlockSlow hpc hl | unlockHandoff hpc hl => simp [Mutex.own, hpc, hl]
  | toIdle hpc | semrelease hpc => rcases hpc with hpc | hpc <;> simp [Mutex.own, hpc]
  | _ => simp [Mutex.own, *]

theorem Step.tryc (hs : Step w sema e t w' sm' t') : t'.pc = .tryCas → t'.old.locked = false ∧ t'.old.starving = false := by
  cases hs with
  | tryBusy hpc => intro h; rw [hpc] at h; cases h
  | tryRead _ hl hs => exact fun _ => ⟨hl, hs⟩
  | _ => intro h; cases h

theorem rhs_casWord (t : Th) (h : t.awoke = true → t.old.woken = true) : rhs (casWord t) + t.awoke.toNat = rhs t.old := by
  have hand : ∀ a b c : Bool, ((a || c && b) && !(b || !a)) = (a && !b) := by decide
  have wok : (!t.awoke && t.old.woken).toNat + t.awoke.toNat = t.old.woken.toNat := by
    revert h; cases t.awoke <;> cases t.old.woken <;> simp
  simp only [rhs, casWord_eq, hand]
  omega

theorem Step.tokens
    (hs : Step w sema e t w' sm' t') (hloc : LocOk w t) : sm' + tok t' + rhs w = sema + tok t + rhs w' := by
  cases hs with
  | tryCas hpc hw => subst hw; simp [tok, rhs, hpc, hloc.2.2 hpc]
  | lockCas hpc ha hw | queueCas hpc ha hw => subst hw; have := rhs_casWord t ha; simp [tok, hpc]; omega
  | handoffClear hpc hl | handoffKeep hpc hl => obtain ⟨a, b, c, _⟩ := hloc.1 _ hpc; simp [tok, rhs, hpc, a, b, c]
  | semRet hpc hs => simp [tok, hpc]; omega
  | toIdle hpc | semrelease hpc => rcases hpc with hpc | hpc <;> simp [tok, hpc]
  | unlockHandoff hpc hl hs => simp [tok, rhs, hpc, hl, hs]; omega
  -- the woken bit is set and the thread (a spinner; the unlocker on its way to `Semrelease`) carries the token
  | spinWake hpc _ ha hw hwd | wakeCas hpc hw _ hwd => subst hwd; simp [tok, rhs, *]
  -- the token of `postSem` becomes `awoke`
  | wokenUp hpc => simp [tok, hpc]
  | _ => simp_all [tok, rhs, Word.zero]

theorem casWord_sw (t : Th) (hsw : t.old.starving = true → t.old.woken = false) (ha : t.starvL = true → t.awoke = true) :
    (casWord t).starving = true → (casWord t).woken = false := by
  rw [casWord_eq]
  revert hsw ha
  cases t.old.starving <;> cases t.starvL <;> cases t.awoke <;> simp

theorem Step.sw
    (hs : Step w sema e t w' sm' t') (hsw : w.starving = true → w.woken = false) (hloc : LocOk w t) :
    w'.starving = true → w'.woken = false := by
  cases hs with
  | lockCas hpc _ hw | queueCas hpc _ hw => subst hw; exact casWord_sw t hsw (hloc.2.1 (.inl hpc))
  | handoffKeep hpc => intro _; exact (hloc.1 _ hpc).2.2.1
  | _ => simp_all [Word.zero]

theorem Step.locOk (hs : Step w sema e t w' sm' t') (hloc : LocOk w t) : LocOk w' t' := by
  refine ⟨?_, ?_, hs.tryc⟩
  · cases hs with
    | tryBusy hpc => intro c hc; rw [hpc] at hc; cases hc
    | handedOff _ a b c d => exact fun _ _ => ⟨a, b, c, d⟩
    | _ => intro c hc; cases hc
  · cases hs with
    | tryBusy hpc => rintro (h | h) <;> rw [hpc] at h <;> cases h
    | slowLock => intro _ h; cases h
    | loadOld hpc => exact fun _ => hloc.2.1 (.inr hpc)
    | again hpc => exact fun _ => hloc.2.1 (.inl hpc)
    | spinWake | wokenUp => exact fun _ _ => rfl
    | _ => rintro (h | h) <;> cases h

theorem stepTh_delta
    (h : stepTh w sema e t = .ok w' sm' t' l) (hsw : w.starving = true → w.woken = false) (hloc : LocOk w t) :
    Mutex.own t' + w.locked.toNat = Mutex.own t + w'.locked.toNat ∧
    sm' + tok t' + rhs w = sema + tok t + rhs w' ∧
    (w'.starving = true → w'.woken = false) ∧ LocOk w' t' :=
  have hs := stepTh_step h
  ⟨hs.own hloc.2.2, hs.tokens hloc, hs.sw hsw hloc, hs.locOk hloc⟩

theorem step_inv {s s' : St} {i : Nat} {e : Env} (h : step s i e = some s') :
    ∃ t, s.ths[i]? = some t ∧ ((∃ m, s' = { s with crash := some m }) ∨
      ∃ w sm t' l, stepTh s.w s.sema e t = .ok w sm t' l ∧ s' = { s with w := w, sema := sm, ths := s.ths.set i t' }) := by
  unfold step at h
  revert h
  fun_cases stepL s i e <;> intro h <;> cases h
  · exact ⟨_, ‹_›, .inl ⟨_, rfl⟩⟩
  · exact ⟨_, ‹_›, .inr ⟨_, _, _, _, ‹_›, rfl⟩⟩

structure Inv0 (s : St) : Prop where
  own : (s.ths.map own).sum = s.w.locked.toNat
  /-- `TryLock`'s CAS installs `{t.old with locked := true}`: `own` is kept only if `t.old.locked = false` -/
  tryc : ∀ (i : Nat) (t : Th), s.ths[i]? = some t → t.pc = .tryCas → t.old.locked = false ∧ t.old.starving = false

theorem inv0_init (n : Nat) : Inv0 (init n) := by
  refine ⟨?_, ?_⟩
  · simp [init, List.sum_replicate_nat, own, Th.start, Word.zero]
  · intro i t h hp
    simp [init, List.getElem?_replicate] at h
    obtain ⟨_, rfl⟩ := h
    simp [Th.start] at hp

theorem inv0_step {s s' : St} {i : Nat} {e : Env} (hi : Inv0 s) (h : step s i e = some s') : Inv0 s' := by
  obtain ⟨t, ht, ⟨m, rfl⟩ | ⟨w, sm, t', l, hst, rfl⟩⟩ := step_inv h
  · exact ⟨hi.own, hi.tryc⟩
  · have hs := stepTh_step hst
    refine ⟨?_, Total.forall_set hi.tryc ht hs.tryc fun _ _ _ h => h⟩
    have := Total.sum_set Mutex.own ht (x := t')
    have := hs.own (hi.tryc i t ht)
    have := hi.own
    simp only at *
    omega

theorem Inv0.reachable {s0 s : St} (h0 : Inv0 s0) (h : Reachable s0 s) : Inv0 s := by
  induction h with
  | refl => exact h0
  | step i e _ hs ih => exact inv0_step ih hs

theorem inv0_reachable {n : Nat} {s : St} (h : Reachable (init n) s) : Inv0 s :=
  (inv0_init n).reachable h

end LlgoVerif.Mutex
