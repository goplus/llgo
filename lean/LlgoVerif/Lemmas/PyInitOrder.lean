import LlgoVerif.Model.PyGuard
import LlgoVerif.Lemmas.Init
/-! `initPkg` of `Model/PyGuard.lean` is `Init.initPkg` on a program of ordinary packages, with the finished packages listed
    instead of their body events (`initPkg_toInit`). -/
namespace LlgoVerif.PyGuard

def toInit (P : Prog) : Init.Prog := fun p => { imports := (P p).imports }

def GSt.toInit (s : GSt) : Init.St := { guard := s.guard, trace := s.trace.map (Init.Ev.body · false) }

theorem initPkg_toInit (P : Prog) : ∀ fuel p s,
    Init.initPkg (toInit P) fuel p (GSt.toInit s) = (initPkg P fuel p s).toInit := by
  intro fuel
  induction fuel with
  | zero => intro p s; rfl
  | succ n ih =>
    intro p s
    have hfold : ∀ (l : List Nat) (t : GSt),
        Init.initImports (fun q st => Init.initPkg (toInit P) n q st) l t.toInit =
          (l.foldl (fun st q => initPkg P n q st) t).toInit :=
      fun _ _ => List.foldl_hom GSt.toInit fun t q => ih q t
    rw [initPkg, Init.initPkg]
    by_cases hg : p ∈ s.guard
    · rw [Init.initStep_guarded (show p ∈ (GSt.toInit s).guard from hg), if_pos hg]
    · rw [Init.initStep_plain (fun _ h => Init.Kind.noConfusion h) (show p ∉ (GSt.toInit s).guard from hg), if_neg hg]
      show (Init.initImports _ (P p).imports (GSt.toInit { s with guard := p :: s.guard })).emit _ = _
      rw [hfold]
      simp only [GSt.toInit, Init.St.emit, List.map_append, List.map_cons, List.map_nil]

theorem initOrder_consistent (P : Prog) (hT : Topo P) (main : Nat) :
    Consistent P (initOrder P main) ∧ main ∈ initOrder P main := by
  -- its trace is `initOrder P main` as body events
  have t : Init.Top (toInit P) [main] (initPkg P (main + 1) main {}).toInit :=
    initPkg_toInit P (main + 1) main {} ▸
      -- `hT` passes for `Init.Topo (toInit P)`: the `deps` of an ordinary package are `[] ++` its imports
      Init.Top.call (P := toInit P) hT (Init.Top.init _) (main + 1) main (Nat.lt_succ_self main)
  have mem : ∀ {x : Nat} {l : List Nat}, Init.Ev.body x false ∈ l.map (Init.Ev.body · false) → x ∈ l := fun h => by
    obtain ⟨y, hy, e⟩ := List.mem_map.1 h
    cases e
    exact hy
  refine ⟨⟨List.nodup_iff_count.2 fun p => ?_, fun l₁ p l₂ e q hq => ?_⟩, mem (t.fin main (List.mem_singleton_self _))⟩
  · exact Nat.le_trans (List.count_le_count_map (f := (Init.Ev.body · false))) (t.inv.once p false)
  · have e' : (initPkg P (main + 1) main {}).toInit.trace =
        l₁.map (Init.Ev.body · false) ++ .body p false :: l₂.map (Init.Ev.body · false) := by
      rw [← List.map_cons (f := (Init.Ev.body · false)), ← List.map_append]
      exact congrArg _ e
    exact mem (t.deps_in_prefix e' (.step (List.mem_append_right _ hq) (.refl q)) (Nat.ne_of_lt (hT p q hq)))

end LlgoVerif.PyGuard
