import LlgoVerif.Model.CoreGo
import LlgoVerif.Lemmas.SliceStr
/-! `for i, r := range s` over a string in the reference evaluator (`CoreGo.runesOf`) is the enumeration C05 proves
    correct for the runtime's `StringIterNext`; what a malformed lead byte yields. -/
namespace LlgoVerif.CoreGo
open LlgoVerif.Utf8 LlgoVerif.Slice

theorem runesOf_nil (fuel i : Nat) : runesOf fuel i [] = [] := by
  cases fuel <;> rfl

theorem runesOf_enumerates : ∀ (fuel i : Nat) (s : List Nat), s.length ≤ fuel → Enumerates i s (runesOf fuel i s)
  | fuel, i, [], _ => by rw [runesOf_nil]; exact .nil i
  | fuel + 1, i, b :: t, h =>
    .cons i (b :: t) _ (List.cons_ne_nil b t) (runesOf_enumerates fuel _ _ (by
      have := next_width_pos (b :: t)
      rw [List.length_drop]; rw [List.length_cons] at h ⊢; omega))

theorem runesOf_iterAll (s : List Nat) : runesOf s.length 0 s = iterAll s :=
  (runesOf_enumerates s.length 0 s (Nat.le_refl _)).unique (iter_spec' s)

theorem runesOf_invalid_lead (fuel i b : Nat) (t : List Nat) (h : (0x80 ≤ b ∧ b < 0xC2) ∨ 0xF5 ≤ b) :
    runesOf (fuel + 1) i (b :: t) = (i, 0xFFFD) :: runesOf fuel (i + 1) t := by
  simp only [runesOf, nextRune_invalid_lead b t h, List.drop_succ_cons, List.drop_zero]

theorem runesOf_ascii (fuel i b : Nat) (t : List Nat) (h : b < 0x80) :
    runesOf (fuel + 1) i (b :: t) = (i, b) :: runesOf fuel (i + 1) t := by
  simp only [runesOf, nextRune_cons, if_pos h, List.drop_succ_cons, List.drop_zero]

end LlgoVerif.CoreGo
