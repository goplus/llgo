import LlgoVerif.Lemmas.Arith
/-!
C03's index checks: each shape of IR that `ssa/datastruct.go` (`checkIndex`/`checkRange`/`IndexAddr`/`Index`) emits traps
exactly when the index, at its SOURCE type's value, is outside `[0, len)`.  `hlen : 0 ≤ len.toInt` (a slice or string length
is a non-negative `int`) is what lets ONE unsigned compare reject negative indexes too: read unsigned they are
`≥ 2^63 > len`.
-/
namespace LlgoVerif.Bounds
open LlgoVerif LlgoVerif.LLVM LlgoVerif.Arith

/-- the Go rule for `a[i]` -/
def idxSpec (v : Int) (len : BitVec 64) : M (BitVec 64) :=
  if 0 ≤ v ∧ v < len.toInt then .ok (BitVec.ofInt 64 v) else .error .indexRange

theorem or_some (a b : BitVec 1) : LLVM.or (some a) (some b) = some (a ||| b) := rfl
theorem ofBool_or (a b : Bool) : ofBool a ||| ofBool b = ofBool (a || b) := by
  cases a <;> cases b <;> decide

theorem idx_check (c len : BitVec 64) (v : Int) (b : Bool)
    (hb : b = true ↔ ¬ (0 ≤ v ∧ v < len.toInt)) (hv : BitVec.ofInt 64 v = c) :
    (do assert .indexRange (some (ofBool b)); ret (some c)) = idxSpec v len := by
  rw [idxSpec, hv]
  cases b
  · rw [if_pos (Decidable.not_not.1 (mt hb.2 Bool.false_ne_true))]; rfl
  · rw [if_neg (hb.1 rfl)]; rfl

theorem idx_s64 (i z len : BitVec 64) (hz : z = 0#64) (hlen : 0 ≤ len.toInt) :
    (do let v6 := icmp .slt (some i) (some z)
        let v7 := icmp .uge (some i) (some len)
        let v8 := LLVM.or v7 v6
        assert .indexRange v8
        ret (some i)) = idxSpec (GoArith.val true i) len := by
  simp only [hz, icmp_uge, icmp_slt, or_some, ofBool_or]
  refine idx_check i len _ _ ?_ (ofInt_val true i)
  rw [val_true, Bool.or_eq_true, decide_eq_true_eq, decide_eq_true_eq, BitVec.toInt_zero]
  have hl := toInt_nonneg_toNat len hlen
  by_cases hneg : i.toInt < 0
  · omega
  · have hi := toInt_nonneg_toNat i (Int.not_lt.1 hneg); omega

theorem idx_sext (i : BitVec u) (z len : BitVec 64) (hu : u ≤ 64) (hz : z = 0#64) (hlen : 0 ≤ len.toInt) :
    (do let v5 := sext 64 (some i)
        let v6 := icmp .slt v5 (some z)
        let v7 := icmp .uge v5 (some len)
        let v8 := LLVM.or v7 v6
        assert .indexRange v8
        ret v5) = idxSpec (GoArith.val true i) len := by
  have h := idx_s64 (i.signExtend 64) z len hz hlen
  rwa [val_true, BitVec.toInt_signExtend_of_le hu] at h

theorem idx_u64 (i len : BitVec 64) (hlen : 0 ≤ len.toInt) :
    (do let v7 := icmp .uge (some i) (some len)
        assert .indexRange v7
        ret (some i)) = idxSpec (GoArith.val false i) len := by
  simp only [icmp_uge]
  refine idx_check i len _ _ ?_ (ofInt_val false i)
  rw [val_false, decide_eq_true_eq]
  have hl := toInt_nonneg_toNat len hlen
  omega

theorem idx_zext (i : BitVec u) (len : BitVec 64) (hu : u ≤ 64) (hlen : 0 ≤ len.toInt) :
    (do let v5 := zext 64 (some i)
        let v7 := icmp .uge v5 (some len)
        assert .indexRange v7
        ret v5) = idxSpec (GoArith.val false i) len := by
  have h := idx_u64 (i.setWidth 64) len hlen
  rwa [val_false, BitVec.toNat_setWidth_of_le hu] at h

theorem idx_const (c len : BitVec 64) (n : Int) (hc : c = BitVec.ofInt 64 n) (hn : 0 ≤ n ∧ n < 2 ^ 63) (hlen : 0 ≤ len.toInt) :
    (do let v7 := icmp .uge (some c) (some len)
        assert .indexRange v7
        ret (some c)) = idxSpec n len := by
  have : (c.toNat : Int) = n := by
    rw [hc, BitVec.toNat_ofInt, Int.emod_eq_of_lt hn.1 (by omega), Int.toNat_of_nonneg hn.1]
  exact this ▸ idx_u64 c len hlen

/-- `_hl` only gives the lemma the arity of `idx_const`: `idxgen.py` prints both with the same argument list -/
theorem idx_const_nocheck (c len : BitVec 64) (n : Int) (hc : c = BitVec.ofInt 64 n) (hn : 0 ≤ n ∧ n < len.toInt) (_hl : True) :
    ret (some c) = idxSpec n len := by
  rw [idxSpec, if_pos hn, hc]; rfl

end LlgoVerif.Bounds
