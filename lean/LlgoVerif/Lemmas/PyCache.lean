import LlgoVerif.Model.PyCache
/-! `buildOne` takes `needPyInit` from the source it compiles, hit or miss, and keeps `CacheOk`. -/
namespace LlgoVerif.PyGuard

theorem tryLoad_linked (c : Cache) (k : BPkg) (a : APkg) : (tryLoadFromCache c k a).linked = a.linked := by
  unfold tryLoadFromCache
  cases c.lookup (k.id, k.fp) <;> rfl

/-- a compiled (ordinary or binding) package carries the flag computed from ITS SOURCE, hit or miss -/
theorem buildOne_needPy (c : Cache) (k : BPkg) (hk : k.kind = .ordinary ∨ k.kind = .binding) :
    (buildOne c k).2.needPyInit = k.needPy ∧ (buildOne c k).2.linked = true := by
  unfold buildOne
  rcases hk with h | h <;> simp [h, tryLoad_linked]

theorem buildAll_mem : ∀ (pkgs : List BPkg) (c : Cache), ∀ k ∈ pkgs, ∃ c', (buildOne c' k).2 ∈ (buildAll c pkgs).2 := by
  intro pkgs
  induction pkgs with
  | nil => intro c k hk; cases hk
  | cons k ks ih =>
    intro c x hx
    simp only [buildAll]
    rcases List.mem_cons.1 hx with rfl | hx
    · exact ⟨c, List.mem_cons_self⟩
    · exact (ih (buildOne c k).1 x hx).imp fun _ h => List.mem_cons_of_mem _ h

theorem buildAll_needPy (pkgs : List BPkg) (c : Cache) (h : progNeedsPy pkgs = true) :
    (((buildAll c pkgs).2.filter (·.linked)).any (·.needPyInit)) = true := by
  obtain ⟨k, hk, hp⟩ := List.any_eq_true.1 h
  simp only [Bool.and_eq_true, Bool.or_eq_true, beq_iff_eq] at hp
  obtain ⟨c', hm⟩ := buildAll_mem pkgs c k hk
  obtain ⟨h1, h2⟩ := buildOne_needPy c' k hp.1
  exact List.any_eq_true.2 ⟨_, List.mem_filter.2 ⟨hm, h2⟩, h1.trans hp.2⟩

theorem buildHistory_mem : ∀ (hist : List (List BPkg)) (c : Cache), ∀ pe ∈ hist.zip (buildHistory c hist),
    ∃ c', pe.2 = (build c' pe.1).2 := by
  intro hist
  induction hist with
  | nil => intro c pe h; simp [buildHistory] at h
  | cons p ps ih =>
    intro c pe h
    simp only [buildHistory, List.zip_cons_cons, List.mem_cons] at h
    rcases h with rfl | h
    · exact ⟨c, rfl⟩
    · exact ih _ pe h

theorem lookup_saved (c : Cache) (k : BPkg) (a : APkg) (hm : k.isMain = false) :
    (saveToCache c k a).lookup (k.id, k.fp) = some (metaOf a) := by
  unfold saveToCache
  simp [hm]

/-- C13's `cache_metadata_roundtrip` is the same fact on its model of `saveToCache` / `parseManifestMetadata` -/
theorem metaOf_getD (a : APkg) :
    (metaOf a).getD {} = { linkArgs := a.linkArgs, needRt := a.needRt, needPyInit := a.needPyInit } := by
  unfold metaOf
  split
  · next h =>
    simp only [Bool.and_eq_true, Bool.not_eq_true', List.isEmpty_iff] at h
    rw [h.1.1, h.1.2, h.2]; rfl
  · rfl

theorem cacheOk_save {F : Nat × Nat → Bool × Bool} {c : Cache} (k : BPkg) (a : APkg) (h : CacheOk F c)
    (hf : F (k.id, k.fp) = (a.needRt, a.needPyInit)) : CacheOk F (saveToCache c k a) := by
  unfold saveToCache
  by_cases hm : k.isMain = true
  · simpa [hm] using h
  · simp only [hm, Bool.false_eq_true, if_false]
    intro key md hl
    simp only [List.lookup_cons] at hl
    by_cases hk : (key == (k.id, k.fp)) = true
    · simp only [hk] at hl
      injection hl with hl
      subst hl
      have hk' : key = (k.id, k.fp) := by simpa using hk
      rw [hk', hf, metaOf_getD]; exact ⟨rfl, rfl⟩
    · simp only [hk] at hl
      exact h key md hl

/-- `F` is what compiling the package's source yields (binding and `link:` packages never carry `NeedRt`: `buildOne` sets
    only `needPyInit` for the one and nothing for the other, so on a miss `needRt` is the initial `false`) -/
def Describes (F : Nat × Nat → Bool × Bool) (k : BPkg) : Prop :=
  match k.kind with
  | .ordinary => F (k.id, k.fp) = (k.needRt, k.needPy)
  | .binding => F (k.id, k.fp) = (false, k.needPy)
  | .linkExtern => F (k.id, k.fp) = (false, false)
  | .declOnly => True

theorem restored_flags {F : Nat × Nat → Bool × Bool} {c : Cache} (k : BPkg) (h : CacheOk F c)
    (hit : (tryLoadFromCache c k {}).cacheHit = true) :
    ((tryLoadFromCache c k {}).needRt, (tryLoadFromCache c k {}).needPyInit) = F (k.id, k.fp) := by
  unfold tryLoadFromCache at hit ⊢
  cases hl : c.lookup (k.id, k.fp) with
  | none => rw [hl] at hit; exact absurd hit Bool.false_ne_true
  | some md => exact Prod.ext (h _ md hl).1 (h _ md hl).2

theorem tryLoad_miss_flags (c : Cache) (k : BPkg) (h : (tryLoadFromCache c k {}).cacheHit = false) :
    tryLoadFromCache c k {} = {} := by
  unfold tryLoadFromCache at h ⊢
  cases hl : c.lookup (k.id, k.fp) with
  | none => rfl
  | some md => simp [hl] at h

theorem buildOne_cacheOk {F : Nat × Nat → Bool × Bool} {c : Cache} (k : BPkg) (h : CacheOk F c) (hd : Describes F k) :
    CacheOk F (buildOne c k).1 := by
  unfold buildOne
  unfold Describes at hd
  cases hk : k.kind with
  | declOnly => simpa [hk] using h
  | ordinary | binding | linkExtern =>
    -- one script for the three: `ordinary` overrides both flags (the miss equation is idle there); the `link:` record
    -- also gains `extLinkArgs`, but `CacheOk` speaks of the two flags only
    simp only [hk] at hd ⊢
    by_cases hh : (tryLoadFromCache c k {}).cacheHit = true
    · simpa [hh] using h
    · simp only [hh, Bool.false_eq_true, if_false]
      have hm := tryLoad_miss_flags c k (by simpa using hh)
      apply cacheOk_save k _ h
      rw [hm]; exact hd

theorem buildAll_cacheOk {F : Nat × Nat → Bool × Bool} : ∀ (pkgs : List BPkg) (c : Cache), CacheOk F c →
    (∀ k ∈ pkgs, Describes F k) → CacheOk F (buildAll c pkgs).1 := by
  intro pkgs
  induction pkgs with
  | nil => intro c h _; exact h
  | cons k ks ih =>
    intro c h hd
    simp only [buildAll]
    exact ih _ (buildOne_cacheOk k h (hd k (by simp))) (fun x hx => hd x (by simp [hx]))

end LlgoVerif.PyGuard
