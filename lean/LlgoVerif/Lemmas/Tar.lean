import LlgoVerif.Spec.Container
import LlgoVerif.Lemmas.FixedLayout
/-! Lemmas for the tar layer of C20: `Tar.readTar` inverts the writers of `Spec/Container.lean`. -/
namespace LlgoVerif.Tar
open LlgoVerif.Container
open LlgoVerif.Gzip (Bytes Stream)

def isDigit8 (c : UInt8) : Prop := 48 ≤ c.toNat ∧ c.toNat ≤ 55

theorem length_octalN (k n : Nat) : (octalN k n).length = k := by
  induction k generalizing n with
  | zero => rfl
  | succ k ih => simp [octalN, ih]

theorem octalN_digits (k n : Nat) : ∀ d ∈ octalN k n, isDigit8 d := by
  induction k generalizing n with
  | zero => simp [octalN]
  | succ k ih =>
    intro d hd
    simp only [octalN, List.mem_append, List.mem_singleton] at hd
    rcases hd with h | rfl
    · exact ih _ d h
    · have : (48 + n % 8) % 256 = 48 + n % 8 := by omega
      simp [isDigit8, this]; omega

theorem octalDigits_append (a b : Bytes) (acc : Nat) :
    octalDigits (a ++ b) acc = (octalDigits a acc).bind (fun v => octalDigits b v) := by
  induction a generalizing acc with
  | nil => simp [octalDigits]
  | cons c cs ih =>
    simp only [List.cons_append, octalDigits]
    split
    · exact ih _
    · rfl

theorem octalDigits_octalN (k : Nat) : ∀ (n acc : Nat), octalDigits (octalN k n) acc = some (acc * 8 ^ k + n % 8 ^ k) := by
  induction k with
  | zero => intro n acc; simp [octalN, octalDigits, Nat.mod_one]
  | succ k ih =>
    intro n acc
    have hd : (48 + n % 8) % 256 = 48 + n % 8 := by omega
    simp only [octalN, octalDigits_append, ih, Option.bind_some, octalDigits, UInt8.toNat_ofNat', hd]
    have h1 : 48 ≤ 48 + n % 8 ∧ 48 + n % 8 ≤ 55 := by omega
    simp only [h1, and_self, if_true, Nat.add_sub_cancel_left]
    rw [Nat.pow_succ, Nat.mul_comm (8 ^ k) 8, Nat.mod_mul, Nat.mul_left_comm acc 8 (8 ^ k)]
    generalize acc * 8 ^ k = A
    generalize n / 8 % 8 ^ k = x
    congr 1
    omega

theorem digit_not_trim {c : UInt8} (h : isDigit8 c) : trimByte c = false := by
  unfold isDigit8 at h
  simp only [trimByte, Bool.or_eq_false_iff, decide_eq_false_iff_not]
  constructor <;> (intro e; subst e; simp at h)

theorem digit_ne_zero {c : UInt8} (h : isDigit8 c) : c ≠ 0 := by
  intro e; subst e; simp [isDigit8] at h

/-- digits followed by NULs / spaces: `bytes.Trim` leaves the digits -/
theorem trim_digits (ds t : Bytes) (hds : ∀ d ∈ ds, isDigit8 d) (ht : ∀ x ∈ t, trimByte x = true) :
    trim (ds ++ t) = ds := by
  unfold trim
  cases ds with
  | nil => rw [List.nil_append, ← List.append_nil t, List.dropWhile_append_of_pos ht]; rfl
  | cons d ds' =>
    rw [List.cons_append, List.dropWhile_cons_of_neg (by rw [digit_not_trim (hds d (by simp))]; simp),
      ← List.cons_append, List.reverse_append,
      List.dropWhile_append_of_pos (fun x hx => ht x (List.mem_reverse.1 hx))]
    -- the reversed digits start with a digit
    cases hrev : (d :: ds').reverse with
    | nil => simp at hrev
    | cons y ys =>
      have hy : isDigit8 y := hds y (List.mem_reverse.1 (by rw [hrev]; simp))
      rw [List.dropWhile_cons_of_neg (by rw [digit_not_trim hy]; simp), ← hrev, List.reverse_reverse]

theorem parseString_append (b t : Bytes) (h : (0 : UInt8) ∉ b) : parseString (b ++ t) = b ++ parseString t :=
  List.takeWhile_append_of_pos fun a ha => by simp only [ne_eq, decide_eq_true_eq]; rintro rfl; exact h ha

theorem parseString_append_NUL (b rest : Bytes) (h : (0 : UInt8) ∉ b) : parseString (b ++ 0 :: rest) = b := by
  rw [parseString_append b _ h]; exact List.append_nil b

theorem parseString_noNUL (b : Bytes) (h : (0 : UInt8) ∉ b) : parseString b = b := by
  simpa [parseString] using parseString_append b [] h

theorem octalN_ne_nil {k : Nat} (n : Nat) (hk0 : 0 < k) : octalN k n ≠ [] := fun h => by
  have := length_octalN k n
  rw [h] at this
  exact absurd this.symm (Nat.ne_of_gt hk0)

/-- an octal field as the writers produce it: `k` digits, then NULs/spaces -/
theorem parseOctal_field (k n : Nat) (t : Bytes) (hk0 : 0 < k) (hn : n < 8 ^ k) (hk : 8 ^ k ≤ 2 ^ 64)
    (ht : ∀ x ∈ t, trimByte x = true) : parseOctal (octalN k n ++ t) = some n := by
  unfold parseOctal
  rw [trim_digits _ _ (octalN_digits k n) ht, if_neg (octalN_ne_nil n hk0),
    parseString_noNUL _ (fun h => digit_ne_zero (octalN_digits k n 0 h) rfl), octalDigits_octalN]
  simp only [Nat.zero_mul, Nat.zero_add, Nat.mod_eq_of_lt hn]
  have : n < 2 ^ 64 := by omega
  simp [this]

theorem parseNumeric_field (k n : Nat) (t : Bytes) (hk0 : 0 < k) (hn : n < 8 ^ k) (hk : 8 ^ k ≤ 2 ^ 64)
    (ht : ∀ x ∈ t, trimByte x = true) : parseNumeric (octalN k n ++ t) = some (Int.ofNat n) := by
  have hp := parseOctal_field k n t hk0 hn hk ht
  unfold parseNumeric
  cases hd : octalN k n ++ t with
  | nil => rw [hd] at hp; simp [hp]
  | cons c cs =>
    have hc : ¬ c.toNat ≥ 128 := by
      cases ho : octalN k n with
      | nil => exact absurd ho (octalN_ne_nil n hk0)
      | cons d ds =>
        rw [ho] at hd; simp at hd
        have := octalN_digits k n d (by rw [ho]; simp)
        rw [← hd.1]; unfold isDigit8 at this; omega
    simp only [hc, if_false]
    rw [← hd, hp]; rfl

theorem length_field (n : Nat) (b : Bytes) (h : b.length ≤ n) : (field n b).length = n := by
  simp only [field, List.length_append, List.length_replicate]; omega

theorem length_octField (k n : Nat) : (octField k n).length = k + 1 := by simp [octField, length_octalN]
theorem length_chkField (n : Nat) : (chkField n).length = 8 := by simp [chkField, length_octalN]

theorem length_hdrPre (name : Bytes) (size : Nat) (h : name.length ≤ 100) : (hdrPre name size).length = 148 := by
  simp only [hdrPre, length_field 100 name h, length_octField, List.length_append]

theorem gnuMagic_eq : bytesOf "ustar  \x00" = [117, 115, 116, 97, 114, 32, 32, 0] := by
  simp only [bytesOf, String.reduceToList]; decide

theorem length_hdrPost (fl : UInt8) : (hdrPost fl).length = 356 := by
  simp only [hdrPost, gnuMagic_eq, List.length_cons, List.length_append, List.length_replicate, List.length_nil]

theorem length_tarHeader (name : Bytes) (fl : UInt8) (size : Nat) (h : name.length ≤ 100) :
    (tarHeader name fl size).length = 512 := by
  simp only [tarHeader, length_chkField, length_hdrPre name size h, length_hdrPost, List.length_append]

theorem getD_of_slice (b : Bytes) (off : Nat) (x d : UInt8) (h : slice b off 1 = [x]) : b.getD off d = x := by
  have : (slice b off 1)[0]? = b[off]? := by simp [slice, List.getElem?_drop]
  rw [List.getD_eq_getElem?_getD, ← this, h]; rfl

/-- the block cut at the offsets of `archive/tar`'s `headerV7` / `headerGNU` views (the magic of `gnuMagic_eq` as
    `magic` 6 + `version` 2) -/
def hdrFields (name : Bytes) (fl : UInt8) (size chk : Nat) : List (Nat × Bytes) :=
  [(100, field 100 name), (8, octField 7 420), (8, octField 7 0), (8, octField 7 0), (12, octField 11 size),
   (12, octField 11 0), (8, chkField chk), (1, [fl]), (100, zeros 100), (6, [117, 115, 116, 97, 114, 32]), (2, [32, 0]),
   (32, zeros 32), (32, zeros 32), (8, zeros 8), (8, zeros 8), (12, zeros 12), (12, zeros 12), (143, zeros 143)]

/-- 256 = 8 · 32: the checksum field itself counts as eight spaces -/
def hdrSum (name : Bytes) (fl : UInt8) (size : Nat) : Nat := sumBytes (hdrPre name size) + 256 + sumBytes (hdrPost fl)

theorem tarHeader_eq_fields (name : Bytes) (fl : UInt8) (size : Nat) :
    tarHeader name fl size = FixedLayout.bytes (fun _ c => c) (hdrFields name fl size (hdrSum name fl size)) := by
  have hz : List.replicate 247 (0 : UInt8) =
      zeros 32 ++ (zeros 32 ++ (zeros 8 ++ (zeros 8 ++ (zeros 12 ++ (zeros 12 ++ (zeros 143 ++ [])))))) := by
    simp only [zeros, List.replicate_append_replicate, List.append_nil, Nat.reduceAdd]
  simp only [tarHeader, hdrPre, hdrPost, gnuMagic_eq, hz, zeros, hdrFields, hdrSum, FixedLayout.bytes, List.append_assoc,
    List.cons_append, List.nil_append]

theorem hdrFields_wf (name : Bytes) (fl : UInt8) (size chk : Nat) (hn : name.length ≤ 100) :
    FixedLayout.WF (fun _ c => c) (hdrFields name fl size chk) :=
  ⟨length_field 100 name hn, length_octField _ _, length_octField _ _, length_octField _ _, length_octField _ _,
    length_octField _ _, length_chkField _, rfl, List.length_replicate, rfl, rfl, List.length_replicate,
    List.length_replicate, List.length_replicate, List.length_replicate, List.length_replicate, List.length_replicate,
    List.length_replicate, trivial⟩

theorem slice_tarHeader (name : Bytes) (fl : UInt8) (size : Nat) (hn : name.length ≤ 100) (off w : Nat) (c : Bytes)
    (h : FixedLayout.fieldAt (hdrFields name fl size (hdrSum name fl size)) off = some (w, c)) :
    slice (tarHeader name fl size) off w = c := by
  have := FixedLayout.drop_take _ _ (hdrFields_wf name fl size (hdrSum name fl size) hn) [] off w c h
  rwa [List.append_nil, ← tarHeader_eq_fields] at this

theorem foldl_sum (b : Bytes) (x : Nat) : b.foldl (fun a c => a + c.toNat) x = x + sumBytes b := by
  unfold sumBytes
  induction b generalizing x with
  | nil => rfl
  | cons y ys ih => simp only [List.foldl_cons]; rw [ih (x + y.toNat), ih (0 + y.toNat)]; omega

theorem sumBytes_append (a b : Bytes) : sumBytes (a ++ b) = sumBytes a + sumBytes b := by
  rw [sumBytes, List.foldl_append, foldl_sum b, ← sumBytes]

theorem sumBytes_le (b : Bytes) : sumBytes b ≤ 255 * b.length := by
  induction b with
  | nil => exact Nat.le_refl 0
  | cons x xs ih =>
    have : sumBytes (x :: xs) = x.toNat + sumBytes xs := by rw [sumBytes, List.foldl_cons, foldl_sum]; omega
    have hx := x.toNat_lt
    rw [this, List.length_cons]; omega

theorem parseNumeric_octField (k n : Nat) (hk0 : 0 < k) (hn : n < 8 ^ k) (hk : 8 ^ k ≤ 2 ^ 64) :
    parseNumeric (octField k n) = some (Int.ofNat n) :=
  parseNumeric_field k n [0] hk0 hn hk (by simp [trimByte])

theorem parseOctal_chkField (n : Nat) (hn : n < 8 ^ 6) : parseOctal (chkField n) = some n :=
  parseOctal_field 6 n [0, 32] (by decide) hn (by decide) (by simp [trimByte])

theorem parseString_field (n : Nat) (b : Bytes) (h0 : (0 : UInt8) ∉ b) : parseString (field n b) = b := by
  rw [field, parseString_append b _ h0]
  cases n - b.length <;> exact List.append_nil b

theorem parseHeader_gnu (blk : Bytes) (sz : Int) (hchk : checksumOK blk = true) (hfmt : getFormat blk = .gnu)
    (hmode : (parseNumeric (slice blk 100 8)).isSome = true) (huid : (parseNumeric (slice blk 108 8)).isSome = true)
    (hgid : (parseNumeric (slice blk 116 8)).isSome = true) (hsize : parseNumeric (slice blk 124 12) = some sz)
    (hmtime : (parseNumeric (slice blk 136 12)).isSome = true) (hmaj : (parseNumeric (slice blk 329 8)).isSome = true)
    (hmin : (parseNumeric (slice blk 337 8)).isSome = true)
    (ha : (slice blk 345 12).head? = some 0) (hc : (slice blk 357 12).head? = some 0) :
    parseHeader blk = some ⟨blk.getD 156 0, parseString (slice blk 0 100), sz⟩ := by
  unfold parseHeader
  simp only [hchk, hfmt, hmode, huid, hgid, hsize, hmtime, hmaj, hmin, ha, hc, Bool.not_true, Bool.false_eq_true,
    if_false, Option.isSome_some, Bool.and_self, Bool.or_true, ne_eq, not_true, decide_false, Bool.false_and,
    Bool.or_self, if_true]

theorem parseHeader_tarHeader (name : Bytes) (fl : UInt8) (size : Nat) (hn : name.length ≤ 100)
    (h0 : (0 : UInt8) ∉ name) (hs : size < 8 ^ 11) :
    parseHeader (tarHeader name fl size) = some ⟨fl, name, Int.ofNat size⟩ := by
  have rd := slice_tarHeader name fl size hn
  have hS : hdrSum name fl size < 8 ^ 6 := by
    have h1 := sumBytes_le (hdrPre name size)
    have h2 := sumBytes_le (hdrPost fl)
    rw [length_hdrPre name size hn] at h1
    rw [length_hdrPost] at h2
    unfold hdrSum; omega
  have hchk : checksumOK (tarHeader name fl size) = true := by
    have htake : (tarHeader name fl size).take 148 = hdrPre name size := by
      simp only [tarHeader, List.append_assoc]; exact List.take_left' (length_hdrPre name size hn)
    have hdrop : (tarHeader name fl size).drop 156 = hdrPost fl := by
      simp only [tarHeader]
      exact List.drop_left' (by simp only [List.length_append, length_hdrPre name size hn, length_chkField])
    unfold checksumOK
    rw [rd 148 8 _ rfl, parseOctal_chkField _ hS, htake, hdrop]
    simp only [sumBytes_append, hdrSum, show sumBytes (List.replicate 8 (32 : UInt8)) = 256 by decide, beq_self_eq_true,
      Bool.true_or]
  have hfmt : getFormat (tarHeader name fl size) = .gnu := by
    unfold getFormat
    simp only [rd 257 6 _ rfl, rd 263 2 _ rfl, bytesOf, String.reduceToList]
    rw [if_neg (fun h => absurd h.1 (by decide)), if_neg (by decide), if_pos (by decide)]
  have hflag : (tarHeader name fl size).getD 156 0 = fl := getD_of_slice _ _ _ _ (rd 156 1 [fl] rfl)
  have hz8 : (parseNumeric (zeros 8)).isSome = true := by decide
  rw [parseHeader_gnu _ (Int.ofNat size) hchk hfmt
    (by rw [rd 100 8 _ rfl, parseNumeric_octField 7 420 (by decide) (by decide) (by decide)]; rfl)
    (by rw [rd 108 8 _ rfl, parseNumeric_octField 7 0 (by decide) (by decide) (by decide)]; rfl)
    (by rw [rd 116 8 _ rfl, parseNumeric_octField 7 0 (by decide) (by decide) (by decide)]; rfl)
    (by rw [rd 124 12 _ rfl, parseNumeric_octField 11 size (by decide) hs (by decide)])
    (by rw [rd 136 12 _ rfl, parseNumeric_octField 11 0 (by decide) (by decide) (by decide)]; rfl)
    (by rw [rd 329 8 _ rfl]; exact hz8) (by rw [rd 337 8 _ rfl]; exact hz8)
    (by rw [rd 345 12 _ rfl]; rfl) (by rw [rd 357 12 _ rfl]; rfl),
    hflag, rd 0 100 _ rfl, parseString_field 100 name h0]

/-! ### `Next()` on what the writers produce -/

theorem readFull_append (blk rest : Bytes) (tl : Option Gzip.Err) (n : Nat) (h : blk.length = n) :
    readFull n ⟨blk ++ rest, tl⟩ = .ok blk ⟨rest, tl⟩ := by
  unfold readFull
  have : n ≤ (blk ++ rest).length := by simp [← h]
  simp only [this, if_true, List.take_left' h, List.drop_left' h]

theorem tarHeader_not_zero (name : Bytes) (fl : UInt8) (size : Nat) :
    (tarHeader name fl size).all (· = 0) = false := by
  -- the mode field `0000644` holds a `'0'`
  rw [List.all_eq_false]
  refine ⟨48, ?_, by decide⟩
  simp only [tarHeader, hdrPre, List.mem_append]
  refine Or.inl (Or.inl (Or.inl (Or.inl (Or.inl (Or.inl (Or.inr ?_))))))
  decide

theorem flag_cases (k : TKind) : k.flag = 53 ∨ k.flag = 48 ∨ k.flag = 50 ∨ k.flag = 54 := by
  cases k <;> simp [TKind.flag]

theorem next_plain (fuel : Nat) (s s1 : Stream) (blk longName : Bytes) (h : Hdr)
    (hrd : readFull 512 s = .ok blk s1) (hnz : blk.all (· = 0) = false) (hph : parseHeader blk = some h)
    (ht : h.typeflag ≠ 120 ∧ h.typeflag ≠ 103 ∧ h.typeflag ≠ 76 ∧ h.typeflag ≠ 75 ∧ h.typeflag ≠ 0 ∧ h.typeflag ≠ 83)
    (nb : Nat) (hnb : (if headerOnly h.typeflag then 0 else h.size) = Int.ofNat nb) :
    next (fuel + 1) s none longName =
      .member h.typeflag (if longName ≠ [] then longName else h.name) nb (padOf nb) s1 := by
  obtain ⟨t1, t2, t3, t4, t5, t6⟩ := ht
  have hneg : ¬ (Int.ofNat nb < 0) := Int.not_lt.2 (Int.natCast_nonneg nb)
  have hpv : ∀ k, paxVal [] k = none := fun _ => rfl
  rw [next, hrd]
  simp only [hnz, Bool.false_eq_true, if_false, hph, hnb, hneg, t1, t2, t3, t4, t5, t6, or_self, Option.getD_none,
    show paxNumbersOK [] = true by decide, Bool.not_true, hpv]
  rfl

theorem next_longName (fuel : Nat) (s s1 s2 s3 : Stream) (blk data longName : Bytes) (h : Hdr)
    (hrd : readFull 512 s = .ok blk s1) (hnz : blk.all (· = 0) = false) (hph : parseHeader blk = some h)
    (ht : h.typeflag = 76) (nb : Nat) (hnb : h.size = Int.ofNat nb)
    (hsp : readSpecial nb s1 = .ok data s2) (hpad : tryReadFull (padOf nb) s2 = .ok () s3) :
    next (fuel + 1) s none longName = next fuel s3 none (parseString data) := by
  have hneg : ¬ (Int.ofNat nb < 0) := Int.not_lt.2 (Int.natCast_nonneg nb)
  have hn : (Int.ofNat nb).toNat = nb := rfl
  rw [next, hrd]
  simp only [hnz, Bool.false_eq_true, if_false, hph, ht, show headerOnly 76 = false by decide, hnb, hneg, hn,
    show ¬ ((76 : UInt8) = 120 ∨ (76 : UInt8) = 103) by decide, true_or, if_true, hsp, hpad]

theorem next_header (fuel : Nat) (hname longName X : Bytes) (k : TKind) (size : Nat) (tl : Option Gzip.Err)
    (hn : hname.length ≤ 100) (h0 : (0 : UInt8) ∉ hname) (hs : size < 8 ^ 11) (hk : k ≠ .reg → size = 0) :
    next (fuel + 1) ⟨tarHeader hname k.flag size ++ X, tl⟩ none longName =
      .member k.flag (if longName ≠ [] then longName else hname) size (padOf size) ⟨X, tl⟩ := by
  refine next_plain fuel _ _ _ longName ⟨k.flag, hname, Int.ofNat size⟩
    (readFull_append _ _ _ _ (length_tarHeader hname k.flag size hn)) (tarHeader_not_zero ..)
    (parseHeader_tarHeader hname k.flag size hn h0 hs) ?_ size ?_
  · rcases flag_cases k with h | h | h | h <;> simp only [h] <;> decide
  · cases k with
    | reg => rfl
    | dir => rw [hk (by decide)]; rfl
    | sym => rw [hk (by decide)]; rfl
    | fifo => rw [hk (by decide)]; rfl

theorem content_length (m : TarMember) (wf : m.WF) : m.content.length < 8 ^ 11 := by
  unfold TarMember.content
  split
  · exact wf.dataLen
  · simp

theorem content_nonreg (m : TarMember) (h : m.kind ≠ .reg) : m.content = [] := if_neg h

theorem tryReadFull_zeros (n : Nat) (rest : Bytes) (tl : Option Gzip.Err) :
    tryReadFull n ⟨zeros n ++ rest, tl⟩ = .ok () ⟨rest, tl⟩ := by
  unfold tryReadFull
  have hl : (zeros n).length = n := by simp [zeros]
  have : n ≤ (zeros n ++ rest).length := by simp [hl]
  simp only [this, if_true, List.drop_left' hl]

theorem readSpecial_append (data rest : Bytes) (tl : Option Gzip.Err) (h : data.length ≤ 1048576) :
    readSpecial data.length ⟨data ++ rest, tl⟩ = .ok data ⟨rest, tl⟩ := by
  simp only [readSpecial, Nat.not_lt.2 h, if_false, List.length_append, Nat.le_add_right, if_true,
    List.take_left' rfl, List.drop_left' rfl]

theorem longLink_ok : (bytesOf "././@LongLink").length ≤ 100 ∧ (0 : UInt8) ∉ bytesOf "././@LongLink" := by
  simp only [bytesOf, String.reduceToList]; decide

/-- the GNU `L` member in front of a header: the next round runs with `name` pending -/
theorem next_long (fuel : Nat) (name X : Bytes) (tl : Option Gzip.Err) (hlen : name.length < 1048576)
    (h0 : (0 : UInt8) ∉ name) :
    next (fuel + 1) ⟨tarHeader (bytesOf "././@LongLink") 76 (name.length + 1) ++ (padded (name ++ [0]) ++ X), tl⟩ none [] =
      next fuel ⟨X, tl⟩ none name := by
  have hl : (name ++ [0]).length = name.length + 1 := by simp
  have hsp := readSpecial_append (name ++ [0]) (zeros (padOf (name.length + 1)) ++ X) tl (by omega)
  rw [hl] at hsp
  rw [show padded (name ++ [0]) = (name ++ [0]) ++ zeros (padOf (name.length + 1)) by rw [padded, hl],
    List.append_assoc (name ++ [0]),
    next_longName fuel _ _ _ _ _ _ [] ⟨76, bytesOf "././@LongLink", Int.ofNat (name.length + 1)⟩
      (readFull_append _ _ _ _ (length_tarHeader _ 76 _ longLink_ok.1)) (tarHeader_not_zero ..)
      (parseHeader_tarHeader _ 76 _ longLink_ok.1 longLink_ok.2 (by omega)) rfl _ rfl hsp (tryReadFull_zeros ..),
    parseString_append_NUL name [] h0]

/-- `Next()` on a member as written. `+ 2`: one round for the optional `L` member in front, one for the header;
    `readLoop` calls `next` with `… / 512 + 2` -/
theorem next_member (fuel : Nat) (m : TarMember) (wf : m.WF) (X : Bytes) (tl : Option Gzip.Err) :
    next (fuel + 2) ⟨m.encode ++ X, tl⟩ none [] =
      .member m.kind.flag m.name m.content.length (padOf m.content.length) ⟨padded m.content ++ X, tl⟩ := by
  have hc := content_length m wf
  have hk : m.kind ≠ .reg → m.content.length = 0 := fun h => by rw [content_nonreg m h]; rfl
  unfold TarMember.encode
  by_cases hlong : m.name.length > 100
  · simp only [hlong, if_true, List.append_assoc]
    rw [next_long (fuel + 1) m.name _ tl wf.nameLen wf.nameNoNUL,
      next_header fuel (m.name.take 100) m.name _ m.kind m.content.length tl (by simp; omega)
        (fun h => wf.nameNoNUL (List.mem_of_mem_take h)) hc hk]
    have : m.name ≠ [] := by intro e; rw [e] at hlong; simp at hlong
    simp [this]
  · simp only [hlong, if_false, List.nil_append, List.append_assoc]
    rw [List.take_of_length_le (by omega)]
    rw [next_header (fuel + 1) m.name [] _ m.kind m.content.length tl (by omega) wf.nameNoNUL hc hk]
    simp

/-- how a tar stream may end: the end-of-archive marker followed by anything at all, a single zero block at the
    very end, or simply the end of the stream at a member boundary -/
inductive EndsArchive : Bytes → Option Gzip.Err → Prop where
  | marker (junk : Bytes) (tl : Option Gzip.Err) : EndsArchive (zeros 1024 ++ junk) tl
  | oneBlock : EndsArchive (zeros 512) none
  | nothing : EndsArchive [] none

theorem zeros_all (n : Nat) : (zeros n).all (· = 0) = true := by
  simp only [zeros, List.all_replicate]; split <;> simp

theorem zeros_add (a b : Nat) : zeros (a + b) = zeros a ++ zeros b := by
  simp only [zeros, List.replicate_append_replicate]

theorem next_end (tail : Bytes) (tl : Option Gzip.Err) (h : EndsArchive tail tl) (fuel : Nat) :
    next (fuel + 1) ⟨tail, tl⟩ none [] = .eof := by
  have hl : (zeros 512).length = 512 := by simp only [zeros, List.length_replicate]
  cases h with
  | marker junk tl =>
    rw [show (1024 : Nat) = 512 + 512 from rfl, zeros_add, List.append_assoc, next, readFull_append _ _ _ _ hl]
    simp only [zeros_all, if_true, readFull_append _ _ _ _ hl]
  | oneBlock =>
    have := readFull_append (zeros 512) [] none 512 hl
    simp only [List.append_nil] at this
    rw [next, this]
    simp [zeros_all, readFull]
  | nothing =>
    rw [next]
    simp [readFull]

theorem kindOf_flag (k : TKind) : kindOf k.flag = k.kind := by
  cases k <;> rfl

/-- one round of `readLoop` on a member with content `data`, which only a regular file (`'0'` = 48) has -/
theorem readLoop_member (fuel : Nat) (s : Stream) (acc : List Extract.Entry) (t : UInt8) (name data rest : Bytes)
    (tl : Option Gzip.Err) (hd : t ≠ 48 → data = [])
    (hn : next (s.data.length / 512 + 2) s none [] =
      .member t name data.length (padOf data.length) ⟨padded data ++ rest, tl⟩) :
    readLoop (fuel + 1) s acc = readLoop fuel ⟨rest, tl⟩ (⟨kindOf t, toStr name, data, []⟩ :: acc) := by
  rw [readLoop, hn]
  by_cases ht : t = 48
  · have htake : (padded data ++ rest).take data.length = data := by
      simp only [padded, List.append_assoc]; exact List.take_left' rfl
    have hdrop : (padded data ++ rest).drop data.length = zeros (padOf data.length) ++ rest := by
      simp only [padded, List.append_assoc]; exact List.drop_left' rfl
    subst ht
    simp only [if_true, htake, hdrop, tryReadFull_zeros, show data.length ≤ (padded data ++ rest).length by simp [padded]]
    rfl
  · obtain rfl := hd ht
    simp only [ht, if_false, discard, tryReadFull, List.length_nil, Nat.zero_le, if_true, List.drop_zero]
    rfl

theorem readLoop_round (tl : Option Gzip.Err) (f : Nat) (m : TarMember) (wf : m.WF) (rest : Bytes)
    (acc : List Extract.Entry) :
    readLoop (f + 1) ⟨m.encode ++ rest, tl⟩ acc = readLoop f ⟨rest, tl⟩ (m.entry :: acc) := by
  have he : m.entry = ⟨kindOf m.kind.flag, toStr m.name, m.content, []⟩ := by rw [kindOf_flag]; rfl
  -- the stream is given explicitly: the hypothesis mentions it only under `.data.length`
  rw [he, readLoop_member f ⟨m.encode ++ rest, tl⟩ acc m.kind.flag m.name m.content rest tl
    (fun h => content_nonreg m fun hreg => h (by rw [hreg]; rfl))
    (next_member ((m.encode ++ rest).length / 512) m wf rest tl)]

theorem readLoop_members (ms : List TarMember) (tail : Bytes) (tl : Option Gzip.Err) (hend : EndsArchive tail tl) :
    ∀ (fuel : Nat) (acc : List Extract.Entry), (∀ m ∈ ms, m.WF) → ms.length < fuel →
    readLoop fuel ⟨tarStream ms ++ tail, tl⟩ acc = (acc.reverse ++ ms.map TarMember.entry, .eof) := by
  induction ms with
  | nil =>
    intro fuel acc _ hf
    obtain ⟨f, rfl⟩ := Nat.exists_eq_add_one_of_ne_zero (Nat.ne_zero_of_lt hf)
    simp only [tarStream, List.flatMap_nil, List.nil_append, List.map_nil, List.append_nil]
    rw [readLoop, next_end tail tl hend]
  | cons m ms ih =>
    intro fuel acc hwf hf
    obtain ⟨f, rfl⟩ := Nat.exists_eq_add_one_of_ne_zero (Nat.ne_zero_of_lt hf)
    rw [tarStream, List.flatMap_cons, List.append_assoc, readLoop_round tl f m (hwf m (List.mem_cons_self ..)), ← tarStream,
      ih f _ (fun x hx => hwf x (List.mem_cons_of_mem _ hx)) (by simp at hf; omega)]
    simp

theorem length_encode (m : TarMember) : 512 ≤ m.encode.length := by
  have h : (m.name.take 100).length ≤ 100 := by simp; omega
  simp only [TarMember.encode, List.length_append, length_tarHeader _ _ _ h]
  omega

theorem length_tarStream (ms : List TarMember) : 512 * ms.length ≤ (tarStream ms).length :=
  FixedLayout.length_flatMap_ge _ 512 ms fun m _ => length_encode m

theorem readTar_tarStream (ms : List TarMember) (hwf : ∀ m ∈ ms, m.WF) (tail : Bytes) (tl : Option Gzip.Err)
    (hend : EndsArchive tail tl) :
    readTar ⟨tarStream ms ++ tail, tl⟩ = (ms.map TarMember.entry, .eof) := by
  unfold readTar
  rw [readLoop_members ms tail tl hend _ [] hwf]
  · simp
  · have := length_tarStream ms
    simp only [List.length_append]
    omega

theorem finish_eof (cfg : Extract.Cfg) (dest : Path.Str) (r : Extract.FS × Option Extract.Err) :
    finish cfg dest r .eof = some r := by
  obtain ⟨fs, e⟩ := r; cases e <;> rfl

theorem finish_fs {cfg : Extract.Cfg} {dest : Path.Str} {r : Extract.FS × Option Extract.Err} {e : TarEnd}
    {fs' : Extract.FS} {err : Option Extract.Err} (h : finish cfg dest r e = some (fs', err)) :
    fs' = r.1 ∨ ∃ ent, Extract.tarStep cfg dest r.1 ent = .ok fs' := by
  revert h
  fun_cases finish cfg dest r e <;> intro h <;> cases h
  -- every exit hands back `r.1`, except the one behind a successful `tarStep`
  case case5 hstep => exact .inr ⟨_, hstep⟩
  all_goals exact .inl rfl

end LlgoVerif.Tar
