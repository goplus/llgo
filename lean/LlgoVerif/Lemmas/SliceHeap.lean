import LlgoVerif.Model.Slice
namespace LlgoVerif.Slice

theorem read_length (m : Mem) (a n : Nat) : (m.read a n).length = n := by simp [Mem.read]

theorem read_zero (m : Mem) (a : Nat) : m.read a 0 = [] := rfl

theorem read_congr {m m' : Mem} {a a' n : Nat} (h : ∀ i, i < n → m.bytes (a + i) = m'.bytes (a' + i)) :
    m.read a n = m'.read a' n :=
  List.map_congr_left fun i hi => h i (List.mem_range.1 hi)

theorem read_add (m : Mem) (a x y : Nat) : m.read a (x + y) = m.read a x ++ m.read (a + x) y := by
  simp only [Mem.read, List.range_add, List.map_append, List.map_map, Function.comp_def, Nat.add_assoc]

theorem read_succ (m : Mem) (a n : Nat) : m.read a (n + 1) = m.bytes a :: m.read (a + 1) n := by
  rw [Nat.add_comm n 1, read_add]; rfl

theorem read_take (m : Mem) (a n k : Nat) (h : k ≤ n) : (m.read a n).take k = m.read a k := by
  simp only [Mem.read, ← List.map_take, List.take_range, Nat.min_eq_left h]

theorem read_drop_take (m : Mem) (base C I J : Nat) (h : I + J ≤ C) :
    ((m.read base C).drop I).take J = m.read (base + I) J := by
  obtain ⟨K, rfl⟩ := Nat.exists_eq_add_of_le h
  rw [Nat.add_assoc, read_add, List.drop_left' (read_length ..), read_add, List.take_left' (read_length ..)]

theorem memmove_bytes (m : Mem) (dst src n x : Nat) :
    (memmove m dst src n).bytes x = if dst ≤ x ∧ x < dst + n then m.bytes (src + (x - dst)) else m.bytes x := rfl
theorem memmove_next (m : Mem) (dst src n : Nat) : (memmove m dst src n).next = m.next := rfl
theorem memset_bytes (m : Mem) (p c n x : Nat) :
    (memset m p c n).bytes x = if p ≤ x ∧ x < p + n then c else m.bytes x := rfl
theorem memset_next (m : Mem) (p c n : Nat) : (memset m p c n).next = m.next := rfl

theorem read_memmove (m : Mem) (dst src n : Nat) : (memmove m dst src n).read dst n = m.read src n :=
  read_congr fun i hi => by rw [memmove_bytes, if_pos (by omega)]; exact congrArg m.bytes (by omega)

theorem read_memmove_out (m : Mem) (dst src n a k : Nat) (h : a + k ≤ dst ∨ dst + n ≤ a) :
    (memmove m dst src n).read a k = m.read a k :=
  read_congr fun i hi => by rw [memmove_bytes, if_neg (by omega)]

theorem read_memset_out (m : Mem) (p c n a k : Nat) (h : a + k ≤ p ∨ p + n ≤ a) :
    (memset m p c n).read a k = m.read a k :=
  read_congr fun i hi => by rw [memset_bytes, if_neg (by omega)]

theorem read_memmove_behind (m : Mem) (d src L N : Nat) :
    (memmove m (d + L) src N).read d (L + N) = m.read d L ++ m.read src N := by
  rw [read_add, read_memmove, read_memmove_out _ _ _ _ _ _ (.inl (Nat.le_refl _))]

theorem memcpy_ok (m : Mem) (dst src n : Nat) (h : ¬ overlaps dst src n) :
    memcpy m dst src n = .ok (memmove m dst src n) := if_neg h

theorem memcpy_overlaps (m : Mem) (dst src n : Nat) (h : overlaps dst src n) : memcpy m dst src n = .error .ub := if_pos h

/-- the fresh-block case -/
theorem not_overlaps_above {dst src n : Nat} (h : src + n ≤ dst) : ¬ overlaps dst src n := fun ho => by
  unfold overlaps at ho; omega

theorem memmove_zero (m : Mem) (dst src : Nat) : memmove m dst src 0 = m := by
  cases m
  exact congrArg (Mem.mk · _) (funext fun x => if_neg (by omega))

/-- a copy that is skipped only when it is empty (`if len != 0 { memcpy }`) is the copy -/
theorem memcpy_if (c : Prop) [Decidable c] (m : Mem) (dst src n : Nat) (hc : ¬ c → n = 0) (h : ¬ overlaps dst src n) :
    (if c then memcpy m dst src n else .ok m) = .ok (memmove m dst src n) := by
  split
  · exact memcpy_ok m dst src n h
  · rw [hc ‹_›, memmove_zero]

theorem advance_nonneg (p : Nat) (off : Int) (h : 0 ≤ off) : advance p off = p + off.toNat := by
  unfold advance; omega

theorem blit_bytes_out (m : Mem) (a : Nat) (bs : List Nat) (x : Nat) (h : ¬ (a ≤ x ∧ x < a + bs.length)) :
    (m.blit a bs).bytes x = m.bytes x := by
  simp only [Mem.blit]; rw [if_neg h]

theorem blit_next (m : Mem) (a : Nat) (bs : List Nat) : (m.blit a bs).next = m.next := rfl

theorem read_blit (m : Mem) (a : Nat) (bs : List Nat) : (m.blit a bs).read a bs.length = bs := by
  apply List.ext_getElem (read_length ..)
  intro i h1 h2
  simp [Mem.read, Mem.blit, h2]

theorem read_blit_out (m : Mem) (a : Nat) (bs : List Nat) (p k : Nat) (h : p + k ≤ a ∨ a + bs.length ≤ p) :
    (m.blit a bs).read p k = m.read p k :=
  read_congr fun i hi => blit_bytes_out _ _ _ _ (by omega)

theorem allocU_fst (m : Mem) (n : Nat) : (allocU m n).1 = m.next := rfl
theorem allocU_next (m : Mem) (n : Nat) : (allocU m n).2.next = m.next + n + 1 := rfl
theorem allocU_bytes (m : Mem) (n : Nat) : (allocU m n).2.bytes = m.bytes := rfl

theorem allocZ_fst (m : Mem) (n : Nat) : (allocZ m n).1 = m.next := rfl
theorem allocZ_next (m : Mem) (n : Nat) : (allocZ m n).2.next = m.next + n + 1 := rfl
theorem allocZ_bytes (m : Mem) (n x : Nat) :
    (allocZ m n).2.bytes x = if m.next ≤ x ∧ x < m.next + n then 0 else m.bytes x := rfl

theorem read_allocZ_below (m : Mem) (n a k : Nat) (h : a + k ≤ m.next) : (allocZ m n).2.read a k = m.read a k :=
  read_congr fun i hi => by rw [allocZ_bytes, if_neg (by omega)]

theorem uintptr_nonneg (x : Int) (h : 0 ≤ x ∧ x < 2 ^ 64) : uintptr x = x.toNat := by unfold uintptr; omega

theorem uintptr_mul_mod (x : Int) (e : Nat) (h0 : 0 ≤ x) (hb : x * e < 2 ^ 64) :
    uintptr x * e % 2 ^ 64 = (x * e).toNat := by
  rcases Nat.eq_zero_or_pos e with rfl | he
  · simp
  · have h1 : x * 1 ≤ x * e := Int.mul_le_mul_of_nonneg_left (by omega) h0
    have h2 : ((x.toNat * e : Nat) : Int) = x * e := by rw [Int.natCast_mul, Int.toNat_of_nonneg h0]
    rw [uintptr_nonneg x ⟨h0, by omega⟩, Nat.mod_eq_of_lt (by omega)]; omega

end LlgoVerif.Slice
