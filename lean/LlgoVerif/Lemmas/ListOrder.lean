/-! Go's byte-wise string order is core's `<` on `List Nat`. Its laws are restated here because core's own rest on
    `Classical.choice` (`List.le_trans`, `le_total`, `Std.lt_trichotomy`; the `Std.Irrefl` instance that `List.lt_irrefl` finds at
    `Nat`), and the theorems of C16 (axioms: design/C16.md), C05 `stringLess` and C07 `implements_scan_correct` do without it. -/
namespace LlgoVerif.ListOrder

theorem eq_decide_lt {f : List Nat → List Nat → Bool}
    (h00 : f [] [] = false) (h01 : ∀ b y, f [] (b :: y) = true) (h10 : ∀ a x, f (a :: x) [] = false)
    (h11 : ∀ a x b y, f (a :: x) (b :: y) = if a < b then true else if b < a then false else f x y) :
    ∀ x y, f x y = decide (x < y)
  | [], [] => by simp [h00]
  | [], _ :: _ => by simp [h01]
  | _ :: _, [] => by simp [h10]
  | a :: x, b :: y => by
    simp only [h11, eq_decide_lt h00 h01 h10 h11 x y, List.cons_lt_cons_iff]
    rcases Nat.lt_trichotomy a b with h | h | h
    · simp [h]
    · simp [h]
    · simp [h, Nat.lt_asymm h, Nat.ne_of_gt h]

structure StrictLinear (β : Type) [LT β] : Prop where
  irrefl : ∀ a : β, ¬ a < a
  trans : ∀ {a b c : β}, a < b → b < c → a < c
  tri : ∀ a b : β, a < b ∨ a = b ∨ b < a

namespace StrictLinear
variable {α β : Type} [LT β] (h : StrictLinear β)
include h

theorem lt_of_not_lt {a b : β} (hba : ¬ b < a) (hne : a ≠ b) : a < b :=
  (h.tri a b).elim id fun h' => h'.elim (absurd · hne) (absurd · hba)

theorem not_lt_trans {a b c : β} (hba : ¬ b < a) (hcb : ¬ c < b) : ¬ c < a := fun hca =>
  (h.tri a b).elim (fun hab => hcb (h.trans hca hab)) fun h' => h'.elim (fun e => hcb (e ▸ hca)) hba

theorem list : StrictLinear (List β) where
  irrefl := List.lex_irrefl h.irrefl
  trans := List.lex_trans h.trans
  tri := by
    intro l₁
    induction l₁ with
    | nil => intro l₂; cases l₂ with
      | nil => exact .inr (.inl rfl)
      | cons b l₂ => exact .inl (List.nil_lt_cons b l₂)
    | cons a l₁ ih => intro l₂; cases l₂ with
      | nil => exact .inr (.inr (List.nil_lt_cons a l₁))
      | cons b l₂ =>
        rcases h.tri a b with hab | rfl | hba
        · exact .inl (.rel hab)
        · exact (ih l₂).imp .cons (.imp (congrArg _) .cons)
        · exact .inr (.inr (.rel hba))

theorem pairwise_mergeSort [DecidableLT β] (key : α → β) (l : List α) :
    (l.mergeSort fun a b => !decide (key b < key a)).Pairwise fun a b => ¬ key b < key a := by
  refine (List.pairwise_mergeSort (le := fun a b => !decide (key b < key a)) (fun a b c hab hbc => ?_) (fun a b => ?_) l).imp
    (by simp)
  · simp only [Bool.not_eq_true', decide_eq_false_iff_not] at *
    exact h.not_lt_trans hab hbc
  · simp only [Bool.or_eq_true, Bool.not_eq_true', decide_eq_false_iff_not]
    by_cases hab : key a < key b
    · exact .inl fun hba => h.irrefl _ (h.trans hab hba)
    · exact .inr hab

end StrictLinear

theorem strictLinear : StrictLinear (List Nat) := StrictLinear.list ⟨Nat.lt_irrefl, Nat.lt_trans, Nat.lt_trichotomy⟩

end LlgoVerif.ListOrder
