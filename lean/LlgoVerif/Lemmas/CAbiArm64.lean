import LlgoVerif.Lemmas.CAbiClassify
import LlgoVerif.Spec.AAPCS64
/-!
# C09 — lemmas: `TypeInfoArm64.GetTypeInfo` against AAPCS64 on good layouts

`direct` is judged through `directImage` (what LLVM's AArch64 convention does with an unchanged aggregate); its three exits are
a single leaf, two 8-byte integers, an HFA; everything else is size arithmetic.
-/
namespace LlgoVerif.CAbi
open LlgoVerif.SysV

theorem allEq_ptrOrI64 (a : Scalar) (r : List Scalar) (h : isPtrOrI64 a = true) :
    allEq (a :: r) .f32 = false ∧ allEq (a :: r) .f64 = false := by
  cases a <;> simp_all [isPtrOrI64, allEq]

theorem isHFA_single_sse (s : Scalar) (h : AAPCS64.isHFA [s] = none) : s.isSSE = false := by
  cases s <;> simp_all [AAPCS64.isHFA, allEq, Scalar.isSSE]

theorem isHFA_isSome (types : List Scalar) (hne : types ≠ []) :
    (AAPCS64.isHFA types).isSome = (decide (types.length ≤ 4) && (allEq types .f32 || allEq types .f64)) := by
  have : types.length ≠ 0 := fun h => hne (List.eq_nil_of_length_eq_zero h)
  unfold AAPCS64.isHFA
  by_cases hl : types.length ≤ 4
  · rw [if_neg (by omega)]
    cases h1 : allEq types .f32 <;> cases h2 : allEq types .f64 <;> simp [hl]
  · rw [if_pos (by omega)]
    simp [hl]

/-- on a non-empty object the classifier's test for a homogeneous floating-point aggregate is the specification's -/
theorem GoodView.hfa_test {v : View} (g : GoodView v) (h0 : v.size ≠ 0) :
    v.elems ≠ [] ∧ (AAPCS64.isHFA (v.elems.map (·.2))).isSome =
      (decide (v.types.length ≤ 4) && (allEq v.types .f32 || allEq v.types .f64)) := by
  obtain ⟨x, r, hel, _⟩ := g.head0 h0
  have hene : v.elems ≠ [] := hel ▸ List.cons_ne_nil x r
  refine ⟨hene, ?_⟩
  rw [g.types_eq]
  exact isHFA_isSome _ fun h => hene (List.map_eq_nil_iff.mp h)

theorem arm64_sound_single (v : View) (g : GoodView v) (h0 : v.size ≠ 0) (hn : v.types.length = 1) :
    AAPCS64.Sound .direct v := by
  obtain ⟨s, hel, _, h8⟩ := g.single h0 (by omega)
  unfold AAPCS64.Sound
  simp only [AAPCS64.kindImage, AAPCS64.directImage, AAPCS64.classify, hel, List.map_cons, List.map_nil, if_neg h0]
  cases hh : AAPCS64.isHFA [s] with
  | some p => simp
  | none =>
    have h1 : (v.size + 7) / 8 = 1 := by omega
    simp [isHFA_single_sse s hh, h1]; omega

theorem arm64_sound_twoPtr (v : View) (g : GoodView v) (hb2 : twoPtrOrI64 v.types = true) : AAPCS64.Sound .direct v := by
  obtain ⟨a, b, htab, ha, hb⟩ : ∃ a b, v.types = [a, b] ∧ isPtrOrI64 a = true ∧ isPtrOrI64 b = true := by
    unfold twoPtrOrI64 at hb2
    split at hb2
    · rename_i a b heq
      simp only [Bool.and_eq_true] at hb2
      exact ⟨a, b, heq, hb2.1, hb2.2⟩
    · cases hb2
  have sa : a.size = 8 := by revert ha; cases a <;> simp [isPtrOrI64, Scalar.size]
  have sb : b.size = 8 := by revert hb; cases b <;> simp [isPtrOrI64, Scalar.size]
  obtain ⟨hel, hs16⟩ := g.pair8 htab sa sb
  obtain ⟨f1, f2⟩ := allEq_ptrOrI64 a [b] ha
  simp [AAPCS64.Sound, AAPCS64.kindImage, AAPCS64.directImage, AAPCS64.classify, hel, AAPCS64.isHFA, f1, f2, ha, hb, hs16]

theorem arm64_sound_hfa (v : View) (g : GoodView v) (h0 : v.size ≠ 0)
    (h : (decide (v.types.length ≤ 4) && (allEq v.types .f32 || allEq v.types .f64)) = true) : AAPCS64.Sound .direct v := by
  obtain ⟨hene, hs⟩ := g.hfa_test h0
  obtain ⟨p, hp⟩ := Option.isSome_iff_exists.mp (hs.trans h)
  simp [AAPCS64.Sound, AAPCS64.kindImage, AAPCS64.directImage, AAPCS64.classify, hene, hp, h0]

theorem arm64_sound_int (v : View) (g : GoodView v) (h0 : v.size ≠ 0)
    (h : ¬ (decide (v.types.length ≤ 4) && (allEq v.types .f32 || allEq v.types .f64)) = true) (isRet : Bool) :
    AAPCS64.Sound (if v.size > 16 then .memory else if v.size ≤ 8 then (if isRet then .coerceInt v.size else .coerceI64)
      else .coerceI64x2) v := by
  have hnone : AAPCS64.isHFA (v.elems.map (·.2)) = none :=
    Option.isSome_eq_false_iff.mp ((g.hfa_test h0).2.trans (Bool.not_eq_true _ ▸ h)) |> Option.isNone_iff_eq_none.mp
  have hcls : AAPCS64.classify v.size v.elems = if v.size > 16 then .memory else .gpr ((v.size + 7) / 8) := by
    unfold AAPCS64.classify
    rw [if_neg h0, hnone]
  unfold AAPCS64.Sound
  rw [hcls]
  by_cases h16 : v.size > 16
  · rw [if_pos h16, if_pos h16]; rfl
  · rw [if_neg h16, if_neg h16]
    by_cases h8 : v.size ≤ 8
    · rw [if_pos h8, show (v.size + 7) / 8 = 1 by omega]
      cases isRet
      · exact if_pos h8
      · exact if_pos ⟨Nat.le_refl _, h8⟩
    · rw [if_neg h8, show (v.size + 7) / 8 = 2 by omega]
      exact if_pos (by omega)

theorem arm64_sound_ite {c : Prop} [Decidable c] {a b : PassKind64} {v : View} (ha : c → AAPCS64.Sound a v)
    (hb : ¬ c → AAPCS64.Sound b v) : AAPCS64.Sound (if c then a else b) v := by
  by_cases h : c
  · rw [if_pos h]; exact ha h
  · rw [if_neg h]; exact hb h

theorem arm64_sound_good (v : View) (g : GoodView v) (isAgg isRet : Bool) (hsc : isAgg = false → v.types.length = 1) :
    AAPCS64.Sound (classifyArm64V v isAgg isRet) v := by
  unfold classifyArm64V
  by_cases h0 : v.size = 0
  · cases isRet <;> simp [h0, g.elems_nil h0, AAPCS64.Sound, AAPCS64.kindImage, AAPCS64.classify, AAPCS64.directImage]
  · rw [if_neg h0]
    unfold getTypeInfoArm64
    refine arm64_sound_ite (fun h => arm64_sound_single v g h0 (hsc (by simpa using h))) fun _ => ?_
    refine arm64_sound_ite (fun h => arm64_sound_single v g h0 (by simpa using (Bool.and_eq_true_iff.mp h).2)) fun _ => ?_
    refine arm64_sound_ite (arm64_sound_twoPtr v g) fun _ => ?_
    exact arm64_sound_ite (arm64_sound_hfa v g h0) fun h => arm64_sound_int v g h0 h isRet

end LlgoVerif.CAbi
