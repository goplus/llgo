/-! Go's panic conditions (C02 operators, C03 run-time routines) are read off the `if`-form of a specification through these. -/
namespace LlgoVerif

theorem ite_error_iff {c : Prop} [Decidable c] {e : ε} {x : Except ε α} (hx : x ≠ .error e) :
    (if c then .error e else x) = .error e ↔ c := by
  by_cases h : c
  · simp [h]
  · simp [h, hx]

theorem ite_else_error_iff {c : Prop} [Decidable c] {e : ε} {x : Except ε α} (hx : x ≠ .error e) :
    (if c then x else .error e) = .error e ↔ ¬ c :=
  ite_not c (Except.error e) x ▸ ite_error_iff (c := ¬ c) hx

theorem ite_error_ok_iff {c : Prop} [Decidable c] {e : ε} {v : α} :
    (∃ p, (if c then .error e else .ok v : Except ε α) = .error p) ↔ c := by
  by_cases h : c
  · simp [h]
  · simp [h]

end LlgoVerif
