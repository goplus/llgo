import LlgoVerif.Model.CoreGo
import LlgoVerif.Lemmas.SoftFloat
/-! `==` on interface values in the reference semantics (`CoreGo.binop`, `Val.beq`): a comparable value equals itself exactly
    when it carries no NaN. -/
namespace LlgoVerif.CoreGo
open LlgoVerif.SoftFloat

/-- `binop` is a many-way match: `rw` needs its arms on interface operands as equations -/
theorem binop_eq_iface (t t' : Ty) (v v' : Val) :
    binop .eq (.iface (some (t, v))) (.iface (some (t', v'))) =
      if t = t' && Val.uncomparable v then .error (rtPanic "comparing uncomparable type")
      else .ok (.bool (t = t' && Val.beq v v')) := rfl

theorem binop_ne_iface (t t' : Ty) (v v' : Val) :
    binop .ne (.iface (some (t, v))) (.iface (some (t', v'))) =
      if t = t' && Val.uncomparable v then .error (rtPanic "comparing uncomparable type")
      else .ok (.bool (!(t = t' && Val.beq v v'))) := rfl

theorem binop_eq_iface_same (t : Ty) (v v' : Val) :
    binop .eq (.iface (some (t, v))) (.iface (some (t, v'))) =
      if Val.uncomparable v then .error (rtPanic "comparing uncomparable type") else .ok (.bool (Val.beq v v')) := by
  rw [binop_eq_iface, decide_eq_true rfl, Bool.true_and, Bool.true_and]

theorem binop_ne_iface_same (t : Ty) (v v' : Val) :
    binop .ne (.iface (some (t, v))) (.iface (some (t, v'))) =
      if Val.uncomparable v then .error (rtPanic "comparing uncomparable type") else .ok (.bool (!Val.beq v v')) := by
  rw [binop_ne_iface, decide_eq_true rfl, Bool.true_and, Bool.true_and]

theorem binop_eq_iface_diff {t t' : Ty} (h : t ≠ t') (v v' : Val) :
    binop .eq (.iface (some (t, v))) (.iface (some (t', v'))) = .ok (.bool false) := by
  rw [binop_eq_iface, decide_eq_false h, Bool.false_and, Bool.false_and]
  rfl

/-- IEEE equality is reflexive exactly off the NaNs -/
theorem f64Eq_self (a : Nat) : f64Eq a a = !isNaN f64 a := by
  rw [f64Eq, cmp_self]
  cases isNaN f64 a <;> rfl

mutual
/-- `x == x` for a value without slices / funcs: true iff no NaN takes part -/
theorem beq_self : (v : Val) → Val.uncomparable v = false → Val.beq v v = !Val.hasNaN v
  | .int k a, _ => by simp [Val.beq, Val.hasNaN]
  | .bool b, _ => by simp [Val.beq, Val.hasNaN]
  | .str s, _ => by simp [Val.beq, Val.hasNaN]
  | .float b, _ => f64Eq_self b
  | .struct fs, h => beqList_self fs h
  | .arr es, h => beqList_self es h
  | .ptr p, _ => by simp [Val.beq, Val.hasNaN]
  | .slice _ _ _ _, h => nomatch h
  | .func _, h => nomatch h
  | .bound _ _, h => nomatch h
  | .iface none, _ => rfl
  | .iface (some (t, v)), h => by
    simp only [Val.beq, Val.hasNaN, decide_true, Bool.true_and]
    exact beq_self v h
  | .blank v, _ => rfl
theorem beqList_self : (l : List Val) → Val.anyUncomparable l = false → Val.beqList l l = !Val.anyNaN l
  | [], _ => rfl
  | v :: vs, h => by
    have h : Val.uncomparable v = false ∧ Val.anyUncomparable vs = false := Bool.or_eq_false_iff.mp h
    simp only [Val.beqList, Val.anyNaN, beq_self v h.1, beqList_self vs h.2, Bool.not_or]
end

end LlgoVerif.CoreGo
