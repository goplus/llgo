import LlgoVerif.Lemmas.GoTypeClass
import LlgoVerif.Lemmas.GoTypeKey
namespace LlgoVerif.Types

section
variable {hc : Str → Str} (hclean : ∀ x, ∀ c ∈ hc x, hashChar c = true) {cfg : Cfg} {ex : Str → Bool}

theorem name_basic_flat (k : BasicKind) (pub : Bool) : Flat (nameC cfg hc pub (.basic k)) := by
  rw [nameC, basicAbiName_eq]
  exact all_append (all_lit _ (by decide)) (clean_flat (basicGoName_clean _))

theorem nameC_func (ps rs : TList) (v pub : Bool) :
    nameC cfg hc pub (.func ps rs v) = hashAtom .func []
      (hc (litFuncHdr ++ dec ps.length ++ ' ' :: dec rs.length ++ ' ' :: boolStr v ++ '\n' :: (tupleC cfg hc ps ++ tupleC cfg hc rs))) := by
  rw [nameC]; rfl

theorem nameC_struct {fs : FList} (h : wfF cfg ex fs = true) (pub : Bool) :
    nameC cfg hc pub (.struct fs) =
      hashAtom .struct (firstPkgF fs) (hc (litStructHdr ++ dec fs.length ++ '\n' :: fieldsC cfg hc fs)) := by
  simp only [nameC, isClosure_false fs h, Bool.and_false, Bool.false_eq_true, if_false, hashAtom, hashAtomPre]
  split
  · rfl
  · simp [litStructP, Stem.text]

theorem nameC_any (pub : Bool) : nameC cfg hc pub (.iface .nil) = llgoPrefix ++ litAnyName := by rw [nameC]; rfl

theorem nameC_iface (n : Str) (p : Option Str) (s : GoType) (r : MList) (pub : Bool) :
    nameC cfg hc pub (.iface (.cons n p s r)) = hashAtom .iface (firstPkgM (.cons n p s r))
      (hc (litIfaceHdr ++ dec (MList.cons n p s r).length ++ '\n' :: methodsC cfg hc (.cons n p s r))) := by
  simp only [nameC, MList.isNil, Bool.false_eq_true, if_false, hashAtom, hashAtomPre]
  split
  · rfl
  · simp [litIfaceP, Stem.text]

theorem name_named_eq (hc : Str → Str) {cfg : Cfg} {ex : Str → Bool} (pub : Bool) (d : Nat) (pkg : Option Str) (name : Str) (sc : Scope)
    (targs : TList) (h : wfT cfg ex (.named d pkg name sc targs) = true) :
    nameC cfg hc pub (.named d pkg name sc targs) = llgoPrefix ++ renderNamed (keyOf pkg name sc) (argsPart targs) ∧
      KeyOk (keyOf pkg name sc) ∧ wfArgs targs = true ∧ ((keyOf pkg name sc).1 = none → argsPart targs = []) := by
  obtain ⟨hn, ht, hs, hp, hq⟩ := wfT_named h
  refine ⟨?_, keyOk_of sc hn hp, ht, ?_⟩
  · simp only [nameC, namedName_eq, scopeStr_eq pkg name hs]
    cases pkg <;> simp [fullName, keyOf, renderNamed, keyStem]
  · cases pkg with
    | none => exact fun _ => by rw [hq.resolve_left (by simp)]; rfl
    | some p => exact fun e => nomatch e

theorem renderNamed_class {k : Key} {a : Str} (hk : KeyOk k) (ha : ArgInv a) (hz : k.1 = none → a = []) :
    classOf (llgoPrefix ++ renderNamed k a) = (.atom, some (if k.1.isSome then .dotted else .plain)) := by
  have hd : '$' ∉ llgoPrefix ++ renderNamed k a := (renderNamed_argInv hk ha).dollar
  have : headOf (llgoPrefix ++ renderNamed k a) = .atom := rfl
  simp only [classOf, this]
  obtain ⟨p, n, i⟩ := k
  cases p with
  | none =>
    have hi : i = [] := hk.2.1
    have : renderNamed (none, n, i) [] = n := by simp [renderNamed, keyStem, hi, scopeIdx]
    rw [hz rfl, this, atomClass_plain (identOk_notin hk.1 (by decide)) (identOk_notin hk.1 (by decide)), plainClass_other hk.2.2]
    rfl
  | some p =>
    rw [atomClass_dotted hd (by simp [renderNamed, keyStem])]
    rfl

include hclean in
/-- `pub` (`PublicType`) matters for closure structs only, and `wfF` has none (`nameC_struct`) -/
theorem name_spec : ∀ (pub : Bool) (t : GoType), wfT cfg ex t = true →
    Inv (nameC cfg hc pub t) ∧ HasClass (unalias t) (classOf (nameC cfg hc pub t))
  | pub, .pointer e, h => by
    have ih := (name_spec false e (by simpa [wfT] using h)).1
    simp only [nameC]
    exact ⟨inv_append (a := ['*']) (inv_lit _ (by decide)) ih, .pointer e⟩
  | pub, .slice e, h => by
    have ih := (name_spec false e (by simpa [wfT] using h)).1
    simp only [nameC]
    exact ⟨inv_append (inv_brackets (inv_flat (all_lit [] rfl))) ih, .slice e⟩
  | pub, .array n e, h => by
    have ih := (name_spec false e (by simpa [wfT] using h)).1
    simp only [nameC]
    exact ⟨by simpa using inv_append (inv_brackets (inv_flat (clean_flat (dec_clean n)))) ih,
      .of_eq (.array n e) (by rw [classOf, headOf_array])⟩
  | pub, .map k v, h => by
    simp only [wfT, Bool.and_eq_true] at h
    have ihk := (name_spec false k h.1).1
    have ihv := (name_spec false v h.2).1
    simp only [nameC]
    have h1 : Inv ['m', 'a', 'p'] := inv_flat (all_lit _ (by decide))
    exact ⟨by simpa [litMapOpen] using inv_append h1 (inv_append (inv_brackets ihk) ihv),
      .map k v⟩
  | pub, .chan d e, h => by
    have ih := (name_spec false e (by simpa [wfT] using h)).1
    simp only [nameC]
    have h1 : Inv (chanDirStr d ++ [' ']) := by
      cases d <;> exact inv_lit _ (by decide)
    refine ⟨by simpa using inv_append h1 ih, ?_⟩
    rw [chanDirStr_chars]
    cases d
    · exact .chanB e
    · exact .chanS e
    · exact .chanR e
  | pub, .alias _ a, h => by
    rw [nameC, unalias]
    exact name_spec pub a (by simpa [wfT] using h)
  | pub, .basic k, _ => by
    have hf := name_basic_flat (cfg := cfg) (hc := hc) k pub
    refine ⟨inv_flat hf, .of_eq (.basic k) ?_⟩
    rw [classOf_flat hf, nameC, basicAbiName_eq,
      atomClass_plain (clean_nodollar (basicGoName_clean _)) (not_mem_of_all (basicGoName_ident _) (by decide)),
      plainClass_basic]
  | pub, .func ps rs v, _ => by
    rw [nameC_func]
    exact ⟨inv_flat (hashAtom_flat _ all_nil (hclean _)), .of_eq (.func ps rs v) (hashAtom_class _ all_nil (hclean _))⟩
  | pub, .struct fs, h => by
    simp only [wfT, Bool.and_eq_true] at h
    have hP := firstPkgF_chars fs h.1
    rw [nameC_struct h.1]
    exact ⟨inv_flat (hashAtom_flat _ hP (hclean _)), .of_eq (.struct fs) (hashAtom_class _ hP (hclean _))⟩
  | pub, .iface .nil, _ => by
    rw [nameC_any]
    refine ⟨inv_lit _ (by decide), .of_eq .any ?_⟩
    rw [classOf_flat (all_lit _ (by decide))]
    exact congrArg (fun c => (Head.atom, some c)) (atomClass_plain (r := litAnyName) (by decide) (by decide))
  | pub, .iface (.cons n p s r), h => by
    simp only [wfT, Bool.and_eq_true] at h
    have hP := firstPkgM_chars _ h.1
    rw [nameC_iface]
    exact ⟨inv_flat (hashAtom_flat _ hP (hclean _)), .of_eq (.iface n p s r) (hashAtom_class _ hP (hclean _))⟩
  | pub, .named d pkg name sc targs, h => by
    obtain ⟨e, hk, ha, hz⟩ := name_named_eq hc pub d pkg name sc targs h
    have ia := argsPart_inv targs ha
    have c := renderNamed_class hk ia hz
    rw [e]
    refine ⟨(renderNamed_argInv hk ia).toInv, ?_⟩
    cases pkg with
    | none => exact .of_eq (.plain d name sc targs) (by rw [c]; rfl)
    | some p => exact .of_eq (.dotted d p name sc targs) (by rw [c]; rfl)

include hclean in
theorem name_inv (pub : Bool) (t : GoType) (h : wfT cfg ex t = true) : Inv (nameC cfg hc pub t) := (name_spec hclean pub t h).1

include hclean in
theorem class_name (pub : Bool) (t : GoType) (h : wfT cfg ex t = true) : HasClass (unalias t) (classOf (nameC cfg hc pub t)) :=
  (name_spec hclean pub t h).2

end

end LlgoVerif.Types
