import LlgoVerif.Model.Embed
import LlgoVerif.Lemmas.ListOrder
/-! Go's string order is core's list order; key lists of insertion-ordered tables. -/
namespace LlgoVerif.Embed

theorem strLt_eq : ∀ (a b : Str), strLt a b = decide (a < b) :=
  ListOrder.eq_decide_lt rfl (fun _ _ => rfl) (fun _ _ => rfl) (fun _ _ _ _ => rfl)

theorem strLe_eq (a b : Str) : strLe a b = decide (a ≤ b) := by
  simp only [strLe, strLt_eq, ← decide_not, List.not_lt]

/-- `m[k] = …` on the key list of `seen` and of `BuildFSEntries`' `entries` -/
def insKey (ks : List Str) (k : Str) : List Str := if k ∈ ks then ks else ks ++ [k]

theorem mem_insKey (ks : List Str) (k x : Str) : x ∈ insKey ks k ↔ x ∈ ks ∨ x = k := by
  unfold insKey
  split
  · exact ⟨Or.inl, fun h => h.elim id (· ▸ ‹k ∈ ks›)⟩
  · simp

theorem nodup_insKey (ks : List Str) (k : Str) (h : ks.Nodup) : (insKey ks k).Nodup := by
  unfold insKey
  split
  · exact h
  · rename_i hk
    rw [List.nodup_append]
    exact ⟨h, by simp, fun a ha b hb hab => hk (List.mem_singleton.1 hb ▸ hab ▸ ha)⟩

theorem mem_foldl_insKey (ks l : List Str) (x : Str) : x ∈ l.foldl insKey ks ↔ x ∈ ks ∨ x ∈ l := by
  induction l generalizing ks with
  | nil => simp
  | cons k l ih => simp [ih, mem_insKey, or_assoc]

theorem nodup_foldl_insKey (ks l : List Str) (h : ks.Nodup) : (l.foldl insKey ks).Nodup := by
  induction l generalizing ks with
  | nil => exact h
  | cons k l ih => exact ih _ (nodup_insKey ks k h)

theorem keys_addFile (seen : Seen) (rel data : Str) :
    (addFile seen rel data).map (·.1) = insKey (seen.map (·.1)) rel := by
  simp only [addFile, insKey, List.any_eq_true, decide_eq_true_eq, List.mem_map]
  split <;> simp

theorem keys_mapSet (m : Seen) (k v : Str) : (mapSet m k v).map (·.1) = insKey (m.map (·.1)) k := by
  simp only [mapSet, insKey, List.any_eq_true, decide_eq_true_eq, List.mem_map]
  split
  · rw [List.map_map]
    exact List.map_congr_left fun e _ => by by_cases h : e.1 = k <;> simp [h]
  · simp

theorem keys_addFiles (seen : Seen) (fs : List (Str × Str)) :
    (addFiles seen fs).map (·.1) = (fs.map (·.1)).foldl insKey (seen.map (·.1)) := by
  induction fs generalizing seen with
  | nil => rfl
  | cons f rest ih => rw [addFiles, ih, keys_addFile]; rfl

theorem keys_foldl_mapSet (m : Seen) (ds : List Str) :
    (ds.foldl (fun m d => mapSet m d []) m).map (·.1) = ds.foldl insKey (m.map (·.1)) := by
  induction ds generalizing m with
  | nil => rfl
  | cons d ds ih => rw [List.foldl_cons, ih, keys_mapSet]; rfl

theorem mem_addFile {seen : Seen} {rel data : Str} {x : Str × Str} (h : x ∈ addFile seen rel data) :
    x ∈ seen ∨ x = (rel, data) := by
  unfold addFile at h
  split at h
  · exact Or.inl h
  · exact (List.mem_append.1 h).imp_right List.mem_singleton.1

theorem mem_addFiles (seen : Seen) (fs : List (Str × Str)) (x : Str × Str) (h : x ∈ addFiles seen fs) :
    x ∈ seen ∨ x ∈ fs := by
  induction fs generalizing seen with
  | nil => exact Or.inl h
  | cons f rest ih =>
    rcases ih _ h with h | h
    · exact (mem_addFile h).imp_right fun (e : x = (f.1, f.2)) => e ▸ List.mem_cons_self
    · exact Or.inr (List.mem_cons_of_mem _ h)

theorem addFiles_append (seen : Seen) (a b : List (Str × Str)) :
    addFiles seen (a ++ b) = addFiles (addFiles seen a) b := by
  induction a generalizing seen with
  | nil => rfl
  | cons f rest ih => exact ih _

end LlgoVerif.Embed
