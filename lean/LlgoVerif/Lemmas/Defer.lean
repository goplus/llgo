import LlgoVerif.Model.Defer
import LlgoVerif.Spec.DeferSem
/-!
# Lemmas for C04: the replay of one defer frame against Go's LIFO rule

`replay_plan`, with the two slot lemmas before it (`drain_exe`, `afterCall_exe`), is where the replay code is taken apart: it
makes the calls of its `plan` (read off layout, bit set and node list alone) until one does not come back (`exe`). After it
`replay` is not unfolded again, and `exec` occurs only inside `exe` and `Spec.unwind`.
-/
namespace LlgoVerif.Defer

def pushesAt (ss : List Stmt) (k : Nat) : Bool :=
  match ss[k]? with
  | some s => s.pushes
  | none => false

def isCondAt (ss : List Stmt) (k : Nat) : Bool :=
  match ss[k]? with
  | some s => s.isCond
  | none => false

def isAlwaysAt (ss : List Stmt) (k : Nat) : Bool :=
  match ss[k]? with
  | some s => s.kind == .always
  | none => false

def isExtAt (ss : List Stmt) (k : Nat) : Bool :=
  match ss[k]? with
  | some s => s.kind == .ext
  | none => false

/-- every statement in positions `lo..hi` is a loop statement -/
def loopsBetween (ss : List Stmt) (lo hi : Nat) : Bool :=
  (List.range (hi + 1)).all (fun j => decide (j < lo) || isLoopId ss j)

/-- statement `k1` may execute before statement `k2`: either it comes earlier in the function, or both sit
    in one run of loop statements (the only way structured control flow goes backwards) -/
def okPair (ss : List Stmt) (k1 k2 : Nat) : Bool := decide (k1 < k2) || loopsBetween ss k2 k1

/-- **Well-formed history**: the list of executed defer statements (oldest first) can be produced by
    structured control flow over the layout `ss` — statements execute in layout order, and only loop
    statements of one run repeat or interleave. Defers of range-over-func bodies (`ext` entries, which execute
    at the position of their range loop, not at their position in the layout) are outside this notion. -/
def WF {α : Type} (ss : List Stmt) (hist : List (Nat × α)) : Prop :=
  (hist.map (·.1)).Pairwise (fun k1 k2 => okPair ss k1 k2 = true) ∧
    ∀ k ∈ hist.map (·.1), k < ss.length ∧ isExtAt ss k = false

instance {α : Type} (ss : List Stmt) (hist : List (Nat × α)) : Decidable (WF ss hist) := by
  unfold WF; infer_instance

/-- no node-less (`pushes = false`) non-loop statement lies between two loop statements -/
def noNodelessBetweenLoops (ss : List Stmt) : Bool :=
  (List.range ss.length).all fun k => (List.range k).all fun j => (List.range j).all fun i =>
    !(isLoopId ss i && isLoopId ss k) || isLoopId ss j || pushesAt ss j

def NoNodelessBetweenLoops (ss : List Stmt) : Prop := noNodelessBetweenLoops ss = true

instance (ss : List Stmt) : Decidable (NoNodelessBetweenLoops ss) := by
  unfold NoNodelessBetweenLoops; infer_instance

def allAlwaysExecuted {α : Type} (ss : List Stmt) (hist : List (Nat × α)) : Bool :=
  (List.range ss.length).all fun k => !isAlwaysAt ss k || (hist.map (·.1)).contains k

def AllAlwaysExecuted {α : Type} (ss : List Stmt) (hist : List (Nat × α)) : Prop := allAlwaysExecuted ss hist = true

instance {α : Type} (ss : List Stmt) (hist : List (Nat × α)) : Decidable (AllAlwaysExecuted ss hist) := by
  unfold AllAlwaysExecuted; infer_instance

section
variable {α σ ε : Type}

/-- nodes handed to deferred calls, in the order they were popped -/
def popped (log : List (Call α)) : List (Node α) := log.reverse.filterMap (·.node)

def nodelessCalls (k : Nat) (log : List (Call α)) : Nat :=
  (log.filter fun c => c.stmt == k && c.node.isNone).length

/-- the same deferred calls, except that a panic of a call is not reported to the frame -/
def calm (exec : Call α → σ → Out ε × σ) : Call α → σ → Out ε × σ := fun c st =>
  match exec c st with
  | (.landed, st') => (.ok, st')
  | r => r

/-- two replay results that differ at most in the `Rund` flag / the way they completed -/
def Sim (a b : U α σ × Fin ε) : Prop :=
  a.1.st = b.1.st ∧ a.1.log = b.1.log ∧ a.1.args = b.1.args ∧ a.2.esc = b.2.esc

end

inductive Status
  | ok
  | uncaught (v : Int)    -- the process ended with an uncaught panic
  | ub                    -- undefined behaviour was reached
  | stuck
  deriving DecidableEq, Repr

def Model.observe (r : Model.MSt × Model.Res) : List Line × Status :=
  (r.1.out.reverse, match r.2 with
    | .ret _ => .ok
    | .esc (.exit v) => .uncaught v
    | .esc .stuck => .stuck
    | .esc _ => .ub)

def Spec.observe (r : Spec.SSt × Spec.SRes) : List Line × Status :=
  (r.1.out.reverse, match r.2 with
    | .ret _ _ => .ok
    | .panic v _ => .uncaught v
    | .stuck => .stuck)

theorem loopsBetween_spec {ss : List Stmt} {lo hi : Nat} (h : loopsBetween ss lo hi = true) :
    ∀ j, lo ≤ j → j ≤ hi → isLoopId ss j = true := by
  intro j hlo hhi
  have := List.all_eq_true.mp h j (List.mem_range.mpr (Nat.lt_succ_of_le hhi))
  simpa [Nat.not_lt.mpr hlo] using this

theorem okPair_spec {ss : List Stmt} {k1 k2 : Nat} (h : okPair ss k1 k2 = true) :
    k1 < k2 ∨ ∀ j, k2 ≤ j → j ≤ k1 → isLoopId ss j = true := by
  rw [okPair, Bool.or_eq_true, decide_eq_true_eq] at h
  exact h.imp_right loopsBetween_spec

theorem okPair_lt {ss : List Stmt} {k1 k2 : Nat} (h : okPair ss k1 k2 = true)
    (hn : isLoopId ss k1 = false ∨ isLoopId ss k2 = false) : k1 < k2 := by
  rcases okPair_spec h with h | h
  · exact h
  · refine Nat.lt_of_not_le fun hle => ?_
    rcases hn with hn | hn
    · rw [h k1 hle (Nat.le_refl _)] at hn; cases hn
    · rw [h k2 (Nat.le_refl _) hle] at hn; cases hn

/-- `isLoopId`, `isCondAt`, `isAlwaysAt`, `isExtAt`, `pushesAt` all unfold to the match in `h` -/
theorem stmt_of_at {f : Stmt → Bool} {ss : List Stmt} {k : Nat}
    (h : (match ss[k]? with | some s => f s | none => false) = true) : ∃ s, ss[k]? = some s ∧ f s = true := by
  cases hg : ss[k]? with
  | none => rw [hg] at h; cases h
  | some s => rw [hg] at h; exact ⟨s, rfl, h⟩

theorem at_of_stmt {f : Stmt → Bool} {ss : List Stmt} {k : Nat} {s : Stmt} (hs : ss[k]? = some s) :
    (match ss[k]? with | some s => f s | none => false) = f s := by
  rw [hs]

theorem noNodeless_spec {ss : List Stmt} (h : NoNodelessBetweenLoops ss) {i j k : Nat}
    (hij : i < j) (hjk : j < k) (hi : isLoopId ss i = true) (hk : isLoopId ss k = true)
    (hj : isLoopId ss j = false) : pushesAt ss j = true := by
  obtain ⟨s, hs, _⟩ := stmt_of_at (f := Stmt.isLoop) hk
  have h3 := List.all_eq_true.mp (List.all_eq_true.mp (List.all_eq_true.mp h k
    (List.mem_range.mpr (List.getElem?_eq_some_iff.mp hs).1)) j (List.mem_range.mpr hjk)) i (List.mem_range.mpr hij)
  simpa [hi, hk, hj] using h3

theorem allAlways_spec {α : Type} {ss : List Stmt} {hist : List (Nat × α)} (h : AllAlwaysExecuted ss hist)
    {k : Nat} (hk : isAlwaysAt ss k = true) : k ∈ hist.map (·.1) := by
  obtain ⟨s, hs, _⟩ := stmt_of_at (f := fun s => s.kind == .always) hk
  have := List.all_eq_true.mp h k (List.mem_range.mpr (List.getElem?_eq_some_iff.mp hs).1)
  rw [hk] at this
  exact List.contains_iff_mem.mp this

/-- nodes pushed by the entries of `R` (most recent first) -/
def nodesOf {α : Type} (ss : List Stmt) (R : List (Nat × α)) : List (Node α) :=
  R.filterMap fun e => if pushesAt ss e.1 then some ⟨e.1, e.2⟩ else none

theorem execDefer_args {α : Type} (ss : List Stmt) (k : Nat) (v : α) (fr : Frame α) :
    (execDefer ss k v fr).args = nodesOf ss [(k, v)] ++ fr.args := by
  unfold execDefer nodesOf pushesAt
  rw [List.filterMap_cons]
  cases ss[k]? with
  | none => rfl
  | some s => cases hp : s.pushes <;> simp [hp]

theorem foldl_execDefer_args {α : Type} (ss : List Stmt) (hist : List (Nat × α)) (fr : Frame α) :
    (hist.foldl (fun fr e => execDefer ss e.1 e.2 fr) fr).args = nodesOf ss hist.reverse ++ fr.args := by
  induction hist generalizing fr with
  | nil => simp [nodesOf]
  | cons e t ih =>
    rw [List.foldl_cons, List.reverse_cons, ih, execDefer_args]
    simp [nodesOf, List.filterMap_append]

theorem frameOf_args {α : Type} (ss : List Stmt) (hist : List (Nat × α)) :
    (frameOf ss hist).args = nodesOf ss hist.reverse := by
  rw [frameOf, foldl_execDefer_args, Frame.empty, List.append_nil]

theorem execDefer_bits {α : Type} (ss : List Stmt) (k : Nat) (v : α) (fr : Frame α) (b : Nat) :
    (execDefer ss k v fr).bits.testBit b = (fr.bits.testBit b || (isCondAt ss k && decide (bitOf ss k = b))) := by
  unfold execDefer isCondAt
  cases h : ss[k]? with
  | none => simp
  | some s =>
    cases hc : s.isCond
    · simp [hc]
    · simp [hc, Nat.testBit_or, Nat.one_shiftLeft, Nat.testBit_two_pow]

theorem foldl_execDefer_bits {α : Type} (ss : List Stmt) (hist : List (Nat × α)) (b : Nat) (fr : Frame α) :
    (hist.foldl (fun fr e => execDefer ss e.1 e.2 fr) fr).bits.testBit b =
      (fr.bits.testBit b || hist.any (fun e => isCondAt ss e.1 && decide (bitOf ss e.1 = b))) := by
  induction hist generalizing fr with
  | nil => simp
  | cons e t ih => rw [List.foldl_cons, List.any_cons, ih, execDefer_bits, Bool.or_assoc]

theorem frameOf_bits {α : Type} (ss : List Stmt) (hist : List (Nat × α)) (b : Nat) :
    (frameOf ss hist).bits.testBit b = hist.any (fun e => isCondAt ss e.1 && decide (bitOf ss e.1 = b)) := by
  rw [frameOf, foldl_execDefer_bits, Frame.empty, Nat.zero_testBit, Bool.false_or]

theorem bitOf_succ (ss : List Stmt) (k : Nat) :
    bitOf ss (k + 1) = bitOf ss k + (ss[k]?.toList.filter Stmt.isCond).length := by
  rw [bitOf, bitOf, List.take_add_one, List.filter_append, List.length_append]

/-- `nextBit++`: bit numbers of conditional statements are strictly increasing -/
theorem bitOf_lt {ss : List Stmt} {k1 k2 : Nat} (h : k1 < k2) (hc : isCondAt ss k1 = true) :
    bitOf ss k1 < bitOf ss k2 := by
  obtain ⟨s, hs, hc⟩ := stmt_of_at (f := Stmt.isCond) hc
  obtain ⟨d, rfl⟩ := Nat.exists_eq_add_of_lt h
  induction d with
  | zero => rw [Nat.add_zero, bitOf_succ, hs, Option.toList, List.filter_cons_of_pos hc]; exact Nat.lt_succ_self _
  | succ d ih => rw [bitOf_succ]; exact Nat.lt_of_lt_of_le (ih (by omega)) (Nat.le_add_right ..)

theorem bitOf_inj {ss : List Stmt} {k1 k2 : Nat} (h1 : isCondAt ss k1 = true) (h2 : isCondAt ss k2 = true)
    (h : bitOf ss k1 = bitOf ss k2) : k1 = k2 := by
  rcases Nat.lt_trichotomy k1 k2 with hlt | heq | hgt
  · have := bitOf_lt hlt h1; omega
  · exact heq
  · have := bitOf_lt hgt h2; omega

theorem frameOf_bit_iff {α : Type} (ss : List Stmt) (hist : List (Nat × α)) {k : Nat} (hk : isCondAt ss k = true) :
    (frameOf ss hist).bits.testBit (bitOf ss k) = true ↔ k ∈ hist.map (·.1) := by
  rw [frameOf_bits, List.any_eq_true]
  constructor
  · rintro ⟨e, he, hx⟩
    simp only [Bool.and_eq_true, decide_eq_true_eq] at hx
    have := bitOf_inj hx.1 hk hx.2
    exact List.mem_map.mpr ⟨e, he, this⟩
  · intro hm
    obtain ⟨e, he, rfl⟩ := List.mem_map.mp hm
    exact ⟨e, he, by simp [hk]⟩

theorem slots_eq (ss : List Stmt) : slots ss = (ss.zipIdx.map fun p => (p.2, p.1)).reverse := by
  have h : ∀ (i : Nat) (l : List Stmt), indexed i l = (l.zipIdx i).map fun p => (p.2, p.1) := by
    intro i l
    induction l generalizing i with
    | nil => rfl
    | cons s t ih => simp only [indexed, List.zipIdx_cons, List.map_cons, ih]
  rw [slots, h]

theorem mem_slots {ss : List Stmt} {p : Nat × Stmt} (h : p ∈ slots ss) : ss[p.1]? = some p.2 := by
  simp only [slots_eq, List.mem_reverse, List.mem_map] at h
  obtain ⟨q, hq, rfl⟩ := h
  exact List.mem_zipIdx_iff_getElem?.mp hq

theorem slots_count_le (ss : List Stmt) (k : Nat) : ((slots ss).map (·.1)).count k ≤ 1 := by
  -- by hand: core's `List.nodup_range'` brings `Classical.choice`, which the C04 theorems do without
  have hr : ∀ n s, (List.range' s n).count k ≤ 1 ∧ (k < s → (List.range' s n).count k = 0) := by
    intro n
    induction n with
    | zero => intro s; exact ⟨Nat.zero_le _, fun _ => rfl⟩
    | succ n ih =>
      intro s
      have h := ih (s + 1)
      rw [List.range'_succ, List.count_cons]
      by_cases hs : s = k
      · rw [h.2 (hs ▸ Nat.lt_succ_self s)]; exact ⟨by split <;> omega, fun hk => absurd hk (hs ▸ Nat.lt_irrefl _)⟩
      · rw [if_neg (by simpa using hs)]; exact ⟨h.1, fun hk => h.2 (Nat.lt_succ_of_lt hk)⟩
  have : (slots ss).map (·.1) = (List.range' 0 ss.length).reverse := by
    simp [slots_eq, List.map_reverse, Function.comp_def, List.zipIdx_map_snd]
  rw [this, List.count_reverse]
  exact (hr _ _).1

theorem slots_isEmpty (l : List Stmt) : (slots l).isEmpty = l.isEmpty := by
  rw [slots_eq]; cases l <;> simp

theorem slots_take_succ (ss : List Stmt) (k : Nat) (s : Stmt) (h : ss[k]? = some s) :
    slots (ss.take (k + 1)) = (k, s) :: slots (ss.take k) := by
  have hk : k < ss.length := (List.getElem?_eq_some_iff.mp h).1
  simp [slots_eq, List.take_add_one, h, List.zipIdx_append, List.length_take, Nat.min_eq_left (Nat.le_of_lt hk)]

section plan
variable {α σ ε : Type}

def U.called (u : U α σ) (c : Call α) (st' : σ) : U α σ :=
  ⟨if c.node.isSome then u.args.tail else u.args, st', c :: u.log, u.rethrow⟩

def exe (exec : Call α → σ → Out ε × σ) : List (Call α) → U α σ → U α σ × Option ε
  | [], u => (u, none)
  | c :: cs, u =>
    match exec c u.st with
    | (.ok, st') => exe exec cs (u.called c st')
    | (.landed, st') => exe exec cs { u.called c st' with rethrow := true }
    | (.escaped e, st') => (u.called c st', some e)

/-- `callDefer` without `exec` -/
def slotCall (k : Nat) (s : Stmt) (a : List (Node α)) : List (Call α) × List (Node α) :=
  if s.pushes then
    match a with
    | [] => ([], [])
    | nd :: tl => ([⟨k, some nd⟩], tl)
  else ([⟨k, none⟩], a)

/-- `replay` without `exec`: the calls the replay code makes when every call comes back.
    Cases of `fun_induction plan`: 1 no slot left, 2 loop slot after a drain, 3 loop slot that drains, 4 `cond` with its bit
    set, 5 `cond` with its bit clear, 6 `always`, 7 `ext`. -/
def plan (ss : List Stmt) (bits : Nat) : List (Nat × Stmt) → Bool → List (Node α) → List (Call α)
  | [], _, _ => []
  | (k, s) :: rest, g, a =>
    match s.kind with
    | .loop =>
      if g then plan ss bits rest true a
      else (a.takeWhile (isLoopId ss ·.id)).map (fun nd => ⟨nd.id, some nd⟩) ++
        plan ss bits rest true (a.dropWhile (isLoopId ss ·.id))
    | .cond =>
      if bits.testBit (bitOf ss k) then (slotCall k s a).1 ++ plan ss bits rest false (slotCall k s a).2
      else plan ss bits rest false a
    | .always => (slotCall k s a).1 ++ plan ss bits rest false (slotCall k s a).2
    | .ext => plan ss bits rest g a

def out (r : U α σ × Fin ε) : U α σ × Option ε := (r.1, r.2.esc)

/-- `unwindView ss exec hist st = view (out (unwind …))` by `rfl` -/
def view (r : U α σ × Option ε) : σ × List (Call α) × Option ε := (r.1.st, r.1.log.reverse, r.2)

def pops (cs : List (Call α)) : List (Node α) := cs.filterMap (·.node)

theorem popped_eq_pops (log : List (Call α)) : popped log = pops log.reverse := rfl

theorem exe_calm (exec : Call α → σ → Out ε × σ) (cs : List (Call α)) (a : List (Node α)) (st : σ)
    (log : List (Call α)) (re re' : Bool) :
    exe (calm exec) cs ⟨a, st, log, re'⟩ =
      ({ (exe exec cs ⟨a, st, log, re⟩).1 with rethrow := re' }, (exe exec cs ⟨a, st, log, re⟩).2) := by
  induction cs generalizing a st log re with
  | nil => rfl
  | cons c cs ih =>
    rw [exe, exe, calm]
    cases exec c st with
    | mk o st' =>
      cases o with
      | ok => exact ih ..
      | landed => exact ih ..
      | escaped x => rfl

theorem exe_done (exec : Call α → σ → Out ε × σ) (cs : List (Call α)) (u : U α σ) :
    ∃ ds, ds <+: cs ∧ (exe exec cs u).1.log = ds.reverse ++ u.log ∧
      (exe exec cs u).1.args = u.args.drop (pops ds).length := by
  induction cs generalizing u with
  | nil => exact ⟨[], List.nil_prefix, rfl, rfl⟩
  | cons c cs ih =>
    have next : ∀ {r : U α σ × Option ε},
        (∃ ds, ds <+: cs ∧ r.1.log = ds.reverse ++ c :: u.log ∧
          r.1.args = (if c.node.isSome then u.args.tail else u.args).drop (pops ds).length) →
        ∃ ds, ds <+: c :: cs ∧ r.1.log = ds.reverse ++ u.log ∧ r.1.args = u.args.drop (pops ds).length := by
      rintro r ⟨ds, hds, h1, h2⟩
      refine ⟨c :: ds, List.cons_prefix_cons.mpr ⟨rfl, hds⟩, ?_, ?_⟩
      · rw [h1, List.reverse_cons, List.append_assoc]; rfl
      · rw [h2, pops, pops, List.filterMap_cons]
        cases c.node with
        | none => rfl
        | some nd => exact List.drop_tail
    rw [exe]
    cases exec c u.st with
    | mk o st' =>
      cases o with
      | ok => exact next (ih _)
      | landed => exact next (ih _)
      | escaped x => exact next ⟨[], List.nil_prefix, rfl, rfl⟩

def topNonLoop (ss : List Stmt) (l : List (Node α)) : Prop := ∀ nd ∈ l.head?, isLoopId ss nd.id = false

theorem drain_stop (ss : List Stmt) (exec : Call α → σ → Out ε × σ) (l : List (Node α)) (st : σ)
    (log : List (Call α)) (re : Bool) (h : topNonLoop ss l) :
    drain ss exec l st log re = (⟨l, st, log, re⟩, none) := by
  cases l with
  | nil => simp [drain]
  | cons nd rest =>
    have := h nd (by simp)
    simp [drain, this]

/-- a loop slot: the drain loop, then the rest of the replay (`cont`), makes the calls of the loop nodes on top and then
    those of `cont` -/
theorem drain_exe (ss : List Stmt) (exec : Call α → σ → Out ε × σ) (cont : U α σ → U α σ × Fin ε) (cs : List (Call α))
    (a : List (Node α)) (st : σ) (log : List (Call α)) (re : Bool)
    (hcont : ∀ u', u'.args = a.dropWhile (isLoopId ss ·.id) → out (cont u') = exe exec cs u') :
    out (match drain ss exec a st log re with
      | (u', none) => cont u'
      | (u', some e) => (u', .escaped e)) =
      exe exec ((a.takeWhile (isLoopId ss ·.id)).map (fun nd => ⟨nd.id, some nd⟩) ++ cs) ⟨a, st, log, re⟩ := by
  fun_induction drain ss exec a st log re with
  | case1 => exact hcont _ rfl
  | case2 nd rest st log re hl c st' hex ih | case3 nd rest st log re hl c st' hex ih =>
    rw [List.dropWhile_cons_of_pos (by exact hl)] at hcont
    rw [List.takeWhile_cons_of_pos (by exact hl), List.map_cons, List.cons_append, exe, hex]
    exact ih hcont
  | case4 nd rest st log re hl c e st' hex =>
    rw [List.takeWhile_cons_of_pos (by exact hl), List.map_cons, List.cons_append, exe, hex]
    rfl
  | case5 nd rest st log re hl =>
    rw [List.takeWhile_cons_of_neg (by exact hl)]
    exact hcont _ (List.dropWhile_cons_of_neg (by exact hl)).symm

/-- a `cond` / `always` slot: `callDefer`, then the rest of the replay (`cont`), makes the call of `slotCall` (if any)
    and then those of `cont` -/
theorem afterCall_exe (exec : Call α → σ → Out ε × σ) (k : Nat) (s : Stmt) (last : Bool) (cont : U α σ → U α σ × Fin ε)
    (cs : List (Call α)) (u : U α σ)
    (hcont : ∀ u', u'.args = (slotCall k s u.args).2 → out (cont u') = exe exec cs u') (hlast : last = true → cs = []) :
    out (afterCall last cont (callDefer exec k s u)) = exe exec ((slotCall k s u.args).1 ++ cs) u := by
  obtain ⟨a, st, log, re⟩ := u
  have one : ∀ (c : Call α) (a' : List (Node α)), (if c.node.isSome then a.tail else a) = a' →
      (∀ u', u'.args = a' → out (cont u') = exe exec cs u') →
      out (afterCall last cont (match exec c st with | (o, st') => (⟨a', st', c :: log, re⟩, some o))) =
        exe exec (c :: cs) ⟨a, st, log, re⟩ := by
    rintro c a' rfl hcont
    rw [exe]
    cases exec c st with
    | mk o st' =>
      cases o with
      | ok => exact hcont _ rfl
      | escaped x => rfl
      | landed =>
        cases last with
        | false => exact hcont _ rfl
        | true => rw [hlast rfl]; rfl
  revert hcont
  unfold callDefer slotCall
  split
  · cases a with
    | nil => exact fun hcont => hcont _ rfl
    | cons nd tl => exact one _ _ rfl
  · exact one _ _ rfl

theorem replay_plan (ss : List Stmt) (exec : Call α → σ → Out ε × σ) (bits : Nat) (rs : List (Nat × Stmt))
    (g : Bool) (u : U α σ) : out (replay ss exec bits rs g u) = exe exec (plan ss bits rs g u.args) u := by
  induction rs generalizing g u with
  | nil => rfl
  | cons p rest ih =>
    obtain ⟨k, s⟩ := p
    have call := afterCall_exe exec k s rest.isEmpty (replay ss exec bits rest false)
      (plan ss bits rest false (slotCall k s u.args).2) u (fun u' h => h ▸ ih false u')
      (fun h => by rw [List.isEmpty_iff.mp h, plan])
    unfold replay plan
    cases s.kind with
    | loop =>
      dsimp only
      split
      · exact ih ..
      · exact drain_exe ss exec _ _ u.args u.st u.log u.rethrow (fun u' h => h ▸ ih true u')
    | cond =>
      dsimp only
      split
      · exact call
      · exact ih ..
    | always => exact call
    | ext => exact ih ..

theorem replay_calm (ss : List Stmt) (exec : Call α → σ → Out ε × σ) (bits : Nat) (rs : List (Nat × Stmt)) (g : Bool)
    (a : List (Node α)) (st : σ) (log : List (Call α)) (re re' : Bool) :
    out (replay ss (calm exec) bits rs g ⟨a, st, log, re'⟩) =
      ({ (replay ss exec bits rs g ⟨a, st, log, re⟩).1 with rethrow := re' },
        (replay ss exec bits rs g ⟨a, st, log, re⟩).2.esc) := by
  rw [replay_plan, exe_calm exec _ a st log re re']
  exact congrArg (fun r : U α σ × Option ε => ({ r.1 with rethrow := re' }, r.2))
    (replay_plan ss exec bits rs g ⟨a, st, log, re⟩).symm

def fires (ss : List Stmt) (bits : Nat) (p : Nat × Stmt) : Prop :=
  p.2.kind = .always ∨ (p.2.kind = .cond ∧ bits.testBit (bitOf ss p.1) = true)

theorem slotCall_pops (k : Nat) (s : Stmt) (a : List (Node α)) : pops (slotCall k s a).1 ++ (slotCall k s a).2 = a := by
  unfold slotCall
  split
  · cases a <;> rfl
  · rfl

theorem slotCall_calls (k : Nat) (s : Stmt) (a : List (Node α)) :
    (slotCall k s a).1 = [] ∨ ∃ nd, (slotCall k s a).1 = [⟨k, nd⟩] := by
  unfold slotCall
  split
  · cases a
    · exact .inl rfl
    · exact .inr ⟨_, rfl⟩
  · exact .inr ⟨_, rfl⟩

theorem pops_append_prefix {cs ds : List (Call α)} {a a' : List (Node α)} (h : pops cs ++ a' = a)
    (hd : pops ds <+: a') : pops (cs ++ ds) <+: a := by
  obtain ⟨t, rfl⟩ := hd
  exact ⟨t, by simp [pops, ← h]⟩

theorem plan_pops (ss : List Stmt) (bits : Nat) (rs : List (Nat × Stmt)) (g : Bool) (a : List (Node α)) :
    pops (plan ss bits rs g a) <+: a := by
  fun_induction plan ss bits rs g a with
  | case1 => exact List.nil_prefix
  | case3 k s rest g a _ _ ih =>
    exact pops_append_prefix (by simp [pops, List.filterMap_map, Function.comp_def]) ih
  | case4 k s rest g a _ _ ih | case6 k s rest g a _ ih => exact pops_append_prefix (slotCall_pops ..) ih
  | case2 | case5 | case7 => assumption

theorem plan_calls (ss : List Stmt) (bits : Nat) (rs : List (Nat × Stmt)) (g : Bool) (a : List (Node α)) :
    ∀ c ∈ plan ss bits rs g a, isLoopId ss c.stmt = true ∨ ∃ s, (c.stmt, s) ∈ rs ∧ fires ss bits (c.stmt, s) := by
  intro c hc
  have own : ∀ {k : Nat} {s : Stmt} {rest : List (Nat × Stmt)} {a : List (Node α)}, fires ss bits (k, s) →
      c ∈ (slotCall k s a).1 →
      isLoopId ss c.stmt = true ∨ ∃ s', (c.stmt, s') ∈ (k, s) :: rest ∧ fires ss bits (c.stmt, s') := by
    intro k s rest a hf hc
    rcases slotCall_calls k s a with h | ⟨nd, h⟩ <;> rw [h] at hc
    · cases hc
    · rw [List.mem_singleton.mp hc]; exact .inr ⟨s, List.mem_cons_self .., hf⟩
  have later : ∀ {p : Nat × Stmt} {rest : List (Nat × Stmt)},
      (isLoopId ss c.stmt = true ∨ ∃ s, (c.stmt, s) ∈ rest ∧ fires ss bits (c.stmt, s)) →
      isLoopId ss c.stmt = true ∨ ∃ s, (c.stmt, s) ∈ p :: rest ∧ fires ss bits (c.stmt, s) :=
    fun h => h.imp_right fun ⟨s, hs, h⟩ => ⟨s, List.mem_cons_of_mem _ hs, h⟩
  fun_induction plan ss bits rs g a with
  | case1 => cases hc
  | case3 k s rest g a _ _ ih =>
    rcases List.mem_append.mp hc with h | h
    · obtain ⟨nd, hnd, rfl⟩ := List.mem_map.mp h
      exact .inl (List.all_eq_true.mp List.all_takeWhile nd hnd)
    · exact later (ih h)
  | case4 k s rest g a hk hb ih => exact (List.mem_append.mp hc).elim (own (.inr ⟨hk, hb⟩)) fun h => later (ih h)
  | case6 k s rest g a hk ih => exact (List.mem_append.mp hc).elim (own (.inl hk)) fun h => later (ih h)
  | case2 _ _ _ _ _ ih | case5 _ _ _ _ _ _ _ ih | case7 _ _ _ _ _ _ ih => exact later (ih hc)

theorem popped_cons (c : Call α) (log : List (Call α)) : popped (c :: log) = popped log ++ c.node.toList := by
  unfold popped
  cases h : c.node <;> simp [List.filterMap_append, h]

theorem nodelessCalls_cons (k : Nat) (c : Call α) (log : List (Call α)) :
    nodelessCalls k (c :: log) = nodelessCalls k log + if c.stmt == k && c.node.isNone then 1 else 0 := by
  unfold nodelessCalls
  rw [List.filter_cons]
  split <;> rfl

theorem nodelessCalls_append (k : Nat) (l1 l2 : List (Call α)) :
    nodelessCalls k (l1 ++ l2) = nodelessCalls k l1 + nodelessCalls k l2 := by
  rw [nodelessCalls, nodelessCalls, nodelessCalls, List.filter_append, List.length_append]

theorem plan_nodeless (ss : List Stmt) (bits : Nat) (rs : List (Nat × Stmt)) (g : Bool) (a : List (Node α)) (k : Nat) :
    nodelessCalls k (plan ss bits rs g a) ≤ (rs.map (·.1)).count k := by
  have own : ∀ (k' : Nat) (s : Stmt) (a : List (Node α)),
      nodelessCalls k (slotCall k' s a).1 ≤ if k' == k then 1 else 0 := by
    intro k' s a
    rcases slotCall_calls k' s a with h | ⟨nd, h⟩ <;> rw [h]
    · exact Nat.zero_le _
    · rw [nodelessCalls_cons]
      cases k' == k
      · exact Nat.le_refl _
      · cases nd
        · exact Nat.le_refl _
        · exact Nat.zero_le _
  have loops : ∀ l : List (Node α), nodelessCalls k (l.map fun nd => (⟨nd.id, some nd⟩ : Call α)) = 0 := by
    intro l
    induction l with
    | nil => rfl
    | cons nd l ih => rw [List.map_cons, nodelessCalls_cons, ih, Option.isNone_some, Bool.and_false]; rfl
  fun_induction plan ss bits rs g a with
  | case1 => exact Nat.le_refl _
  | case3 k' s rest g a _ _ ih =>
    rw [nodelessCalls_append, loops, Nat.zero_add]
    exact Nat.le_trans ih List.count_le_count_cons
  | case4 k' s rest g a _ _ ih | case6 k' s rest g a _ ih =>
    rw [nodelessCalls_append, List.map_cons, List.count_cons, Nat.add_comm]
    exact Nat.add_le_add ih (own k' s a)
  | case2 _ _ _ _ _ ih | case5 _ _ _ _ _ _ _ ih | case7 _ _ _ _ _ _ ih => exact Nat.le_trans ih List.count_le_count_cons

theorem replay_done (ss : List Stmt) (exec : Call α → σ → Out ε × σ) (fr : Frame α) (st : σ) (re : Bool) :
    ∃ ds, ds <+: plan ss fr.bits (slots ss) false fr.args ∧ (unwind ss exec fr st re).1.log = ds.reverse ∧
      pops ds ++ (unwind ss exec fr st re).1.args = fr.args := by
  obtain ⟨ds, hds, h1, h2⟩ := exe_done exec (plan ss fr.bits (slots ss) false fr.args) ⟨fr.args, st, [], re⟩
  rw [← replay_plan ss exec fr.bits (slots ss) false ⟨fr.args, st, [], re⟩] at h1 h2
  exact ⟨ds, hds, h1.trans (List.append_nil _), h2 ▸ List.prefix_iff_eq_append.mp ((hds.filterMap _).trans (plan_pops ..))⟩

end plan

section refine
variable {α σ ε : Type}

/-- `R` is most recent first: every entry may have executed after each one behind it -/
def Desc (ss : List Stmt) (R : List (Nat × α)) : Prop :=
  R.Pairwise (fun later earlier => okPair ss earlier.1 later.1 = true)

def headNonLoop (ss : List Stmt) (R : List (Nat × α)) : Prop := ∀ e ∈ R.head?, isLoopId ss e.1 = false

theorem pushesAt_of_loop {ss : List Stmt} {k : Nat} (h : isLoopId ss k = true) : pushesAt ss k = true := by
  obtain ⟨s, hs, hl⟩ := stmt_of_at (f := Stmt.isLoop) h
  simp only [pushesAt, hs, Stmt.pushes]
  rw [Stmt.isLoop] at hl
  rw [hl]; rfl

theorem Spec.callOf_eq (ss : List Stmt) (e : Nat × α) :
    Spec.callOf ss e = if pushesAt ss e.1 then ⟨e.1, some ⟨e.1, e.2⟩⟩ else ⟨e.1, none⟩ := by
  unfold Spec.callOf pushesAt
  cases ss[e.1]? <;> simp

theorem Spec.unwind_calls (ss : List Stmt) (exec : Call α → σ → Out ε × σ)
    (R : List (Nat × α)) (st : σ) (log : List (Call α)) (h : (Spec.unwind ss exec R st log).2.2 = none) :
    (Spec.unwind ss exec R st log).2.1 = log.reverse ++ R.map (Spec.callOf ss) := by
  fun_induction Spec.unwind ss exec R st log with
  | case1 => simp
  | case2 => cases h
  | case3 e rest st log c o st' hex hne ih => rw [ih h]; simp [c]

theorem unwind_exe (ss : List Stmt) (exec : Call α → σ → Out ε × σ) (R : List (Nat × α)) (a : List (Node α)) (st : σ)
    (log : List (Call α)) (re : Bool) :
    view (exe exec (R.map (Spec.callOf ss)) ⟨a, st, log, re⟩) = Spec.unwind ss exec R st log := by
  induction R generalizing a st log re with
  | nil => rfl
  | cons e R ih =>
    rw [List.map_cons, exe, Spec.unwind]
    cases exec (Spec.callOf ss e) st with
    | mk o st' =>
      cases o with
      | ok => exact ih ..
      | landed => exact ih ..
      | escaped x => rfl

theorem nodesOf_cons_push {ss : List Stmt} {e : Nat × α} {R : List (Nat × α)} (h : pushesAt ss e.1 = true) :
    nodesOf ss (e :: R) = ⟨e.1, e.2⟩ :: nodesOf ss R := by
  simp [nodesOf, h]

theorem nodesOf_cons_nopush {ss : List Stmt} {e : Nat × α} {R : List (Nat × α)} (h : pushesAt ss e.1 = false) :
    nodesOf ss (e :: R) = nodesOf ss R := by
  simp [nodesOf, h]

theorem nodesOf_head_nonloop {ss : List Stmt} {R : List (Nat × α)} (h : ∀ e ∈ R, isLoopId ss e.1 = false) :
    topNonLoop ss (nodesOf ss R) := by
  intro nd hnd
  obtain ⟨e, he, hx⟩ := List.mem_filterMap.mp (List.mem_of_mem_head? hnd)
  split at hx
  · cases hx; exact h e he
  · cases hx

theorem split_loops (ss : List Stmt) (R : List (Nat × α)) :
    ∃ L T, R = L ++ T ∧ (∀ e ∈ L, isLoopId ss e.1 = true) ∧ headNonLoop ss T := by
  induction R with
  | nil => exact ⟨[], [], rfl, List.forall_mem_nil _, nofun⟩
  | cons e R ih =>
    cases h : isLoopId ss e.1 with
    | false => exact ⟨[], e :: R, rfl, List.forall_mem_nil _, by rintro _ ⟨⟩; exact h⟩
    | true =>
      obtain ⟨L, T, rfl, hL, hT⟩ := ih
      exact ⟨e :: L, T, rfl, List.forall_mem_cons.mpr ⟨h, hL⟩, hT⟩

/-- Where `NoNodelessBetweenLoops` is needed: below loop statement `K`, a node-less first entry with a loop entry
    further down would put a loop node on top. -/
theorem top_nonloop {ss : List Stmt} (hN : NoNodelessBetweenLoops ss) {K : Nat} (hK : isLoopId ss K = true)
    {T : List (Nat × α)} (hD : Desc ss T) (hH : headNonLoop ss T) (hB : ∀ e ∈ T, e.1 < K) :
    topNonLoop ss (nodesOf ss T) := by
  cases T with
  | nil => exact nofun
  | cons e T =>
    have hl : isLoopId ss e.1 = false := hH e rfl
    cases hp : pushesAt ss e.1 with
    | true => rw [nodesOf_cons_push hp]; rintro nd ⟨⟩; exact hl
    | false =>
      rw [nodesOf_cons_nopush hp]
      apply nodesOf_head_nonloop
      intro e' he'
      have hlt : e'.1 < e.1 := okPair_lt ((List.pairwise_cons.mp hD).1 e' he') (.inr hl)
      cases hq : isLoopId ss e'.1 with
      | false => rfl
      | true => rw [noNodeless_spec hN hlt (hB e (List.mem_cons_self ..)) hq hK hl] at hp; cases hp

theorem nodesOf_loops {ss : List Stmt} {L T : List (Nat × α)} (hL : ∀ e ∈ L, isLoopId ss e.1 = true)
    (hT : topNonLoop ss (nodesOf ss T)) :
    ((nodesOf ss (L ++ T)).takeWhile (isLoopId ss ·.id)).map (fun nd => (⟨nd.id, some nd⟩ : Call α)) =
        L.map (Spec.callOf ss) ∧
      (nodesOf ss (L ++ T)).dropWhile (isLoopId ss ·.id) = nodesOf ss T := by
  induction L with
  | nil =>
    rw [List.nil_append]
    generalize nodesOf ss T = l at hT
    cases l with
    | nil => exact ⟨rfl, rfl⟩
    | cons nd tl => simp [hT nd rfl]
  | cons e L ih =>
    obtain ⟨hl, hL⟩ := List.forall_mem_cons.mp hL
    have hp := pushesAt_of_loop hl
    rw [List.cons_append, nodesOf_cons_push hp, List.takeWhile_cons_of_pos (by exact hl),
      List.dropWhile_cons_of_pos (by exact hl), List.map_cons, List.map_cons, (ih hL).1, (ih hL).2, Spec.callOf_eq, if_pos hp]
    exact ⟨rfl, rfl⟩

theorem slotCall_spec (ss : List Stmt) {k : Nat} {s : Stmt} (hs : ss[k]? = some s) (v : α) (R1 : List (Nat × α)) :
    slotCall k s (nodesOf ss ((k, v) :: R1)) = ([Spec.callOf ss (k, v)], nodesOf ss R1) := by
  have hpa : pushesAt ss k = s.pushes := at_of_stmt hs
  cases hp : s.pushes <;> simp [slotCall, nodesOf, Spec.callOf_eq, hpa, hp]

/-- **The invariant of the simulation**: slots `m-1 … 0` are still to be visited, the entries `R` are not yet run. -/
structure Pending (ss : List Stmt) (bits m : Nat) (R : List (Nat × α)) : Prop where
  desc : Desc ss R
  below : ∀ e ∈ R, e.1 < m
  noExt : ∀ e ∈ R, isExtAt ss e.1 = false
  fires_iff : ∀ k s, k < m → ss[k]? = some s → s.isLoop = false → (fires ss bits (k, s) ↔ k ∈ R.map (·.1))

theorem Pending.lower {ss : List Stmt} {bits k : Nat} {R : List (Nat × α)} (h : Pending ss bits (k + 1) R)
    (hk : ∀ e ∈ R, e.1 ≠ k) : Pending ss bits k R :=
  ⟨h.desc, fun e he => Nat.lt_of_le_of_ne (Nat.le_of_lt_succ (h.below e he)) (hk e he), h.noExt,
    fun k' s' hk' => h.fires_iff k' s' (Nat.lt_succ_of_lt hk')⟩

theorem Pending.pop {ss : List Stmt} {bits k : Nat} {R : List (Nat × α)} (h : Pending ss bits (k + 1) R)
    (hk : isLoopId ss k = false) (hm : k ∈ R.map (·.1)) : ∃ v R1, R = (k, v) :: R1 ∧ Pending ss bits k R1 := by
  cases R with
  | nil => cases hm
  | cons e0 R1 =>
    have hpw := List.pairwise_cons.mp h.desc
    have h0 : e0.1 = k := by
      rcases List.mem_cons.mp hm with h' | h'
      · exact h'.symm
      · obtain ⟨e', he', rfl⟩ := List.mem_map.mp h'
        exact absurd (okPair_lt (hpw.1 e' he') (.inl hk))
          (Nat.not_lt_of_ge (Nat.le_of_lt_succ (h.below e0 (List.mem_cons_self ..))))
    obtain ⟨k0, v⟩ := e0
    cases h0
    refine ⟨v, R1, rfl, hpw.2, fun e he => okPair_lt (hpw.1 e he) (.inr hk),
      fun e he => h.noExt e (List.mem_cons_of_mem _ he), fun k' s' hk' hs' hn' => ?_⟩
    rw [h.fires_iff k' s' (Nat.lt_succ_of_lt hk') hs' hn', List.map_cons, List.mem_cons]
    exact ⟨fun h => h.resolve_left (Nat.ne_of_lt hk'), Or.inr⟩

theorem Pending.drain {ss : List Stmt} {bits k : Nat} {L T : List (Nat × α)} (h : Pending ss bits (k + 1) (L ++ T))
    (hL : ∀ e ∈ L, isLoopId ss e.1 = true) (hT : headNonLoop ss T) (hk : isLoopId ss k = true) :
    Pending ss bits k T := by
  have hD : Desc ss T := (List.pairwise_append.mp h.desc).2.1
  have hB : ∀ e ∈ T, e.1 < k + 1 := fun e he => h.below e (List.mem_append_right _ he)
  refine ⟨hD, ?_, fun e he => h.noExt e (List.mem_append_right _ he), fun k' s' hk' hs' hn' => ?_⟩
  · cases T with
    | nil => intro e he; cases he
    | cons e0 T1 =>
      have h0 : isLoopId ss e0.1 = false := hT e0 rfl
      have hlt0 : e0.1 < k := Nat.lt_of_le_of_ne (Nat.le_of_lt_succ (hB e0 (List.mem_cons_self ..)))
        (fun h => by rw [h, hk] at h0; cases h0)
      intro e he
      rcases List.mem_cons.mp he with rfl | he1
      · exact hlt0
      · exact Nat.lt_trans (okPair_lt ((List.pairwise_cons.mp hD).1 e he1) (.inr h0)) hlt0
  · rw [h.fires_iff k' s' (Nat.lt_succ_of_lt hk') hs' hn', List.map_append, List.mem_append]
    refine ⟨fun h => h.resolve_left fun h => ?_, Or.inr⟩
    obtain ⟨e, he, rfl⟩ := List.mem_map.mp h
    have := hL e he
    simp [isLoopId, hs', hn'] at this

/-- `g`: the slot above was a loop slot, whose drain stopped at a non-loop node: the most recent pending entry is no loop
    entry -/
theorem plan_pending (ss : List Stmt) (bits : Nat) (hN : NoNodelessBetweenLoops ss) :
    ∀ (m : Nat), m ≤ ss.length → ∀ (R : List (Nat × α)) (g : Bool), Pending ss bits m R →
      (g = true → headNonLoop ss R) → plan ss bits (slots (ss.take m)) g (nodesOf ss R) = R.map (Spec.callOf ss) := by
  intro m
  induction m with
  | zero =>
    intro _ R g hP _
    cases R with
    | nil => rfl
    | cons e t => exact absurd (hP.below e (List.mem_cons_self ..)) (Nat.not_lt_zero _)
  | succ k ih =>
    intro hm R g hP hG
    have hk : k < ss.length := hm
    obtain ⟨s, hs⟩ : ∃ s, ss[k]? = some s := ⟨ss[k], List.getElem?_eq_getElem hk⟩
    rw [slots_take_succ ss k s hs]
    have ihk := ih (Nat.le_of_lt hk)
    have hloopk : isLoopId ss k = s.isLoop := at_of_stmt hs
    have called : s.isLoop = false → k ∈ R.map (·.1) →
        (slotCall k s (nodesOf ss R)).1 ++ plan ss bits (slots (ss.take k)) false (slotCall k s (nodesOf ss R)).2 =
          R.map (Spec.callOf ss) := by
      intro hnl hmem
      obtain ⟨v, R1, rfl, hP1⟩ := hP.pop (hloopk.trans hnl) hmem
      rw [slotCall_spec ss hs, ihk R1 false hP1 (by intro h; cases h)]
      rfl
    unfold plan
    cases hkind : s.kind with
    | loop =>
      have hlk : isLoopId ss k = true := by rw [hloopk, Stmt.isLoop, hkind]; rfl
      cases g with
      | true => exact ihk R true (hP.drain (L := []) (List.forall_mem_nil _) (hG rfl) hlk) hG
      | false =>
        obtain ⟨L, T, rfl, hL, hT⟩ := split_loops ss R
        have hPT := hP.drain hL hT hlk
        have h := nodesOf_loops hL (top_nonloop hN hlk hPT.desc hT hPT.below)
        simp only [Bool.false_eq_true, if_false]
        rw [h.1, h.2, ihk T true hPT (fun _ => hT), List.map_append]
    | cond =>
      have hnl : s.isLoop = false := by rw [Stmt.isLoop, hkind]; rfl
      have hb : bits.testBit (bitOf ss k) = true ↔ k ∈ R.map (·.1) := by
        rw [← hP.fires_iff k s (Nat.lt_succ_self k) hs hnl]; simp [fires, hkind]
      by_cases hmem : k ∈ R.map (·.1)
      · simp only [if_pos (hb.mpr hmem)]; exact called hnl hmem
      · simp only [if_neg (mt hb.mp hmem)]
        exact ihk R false (hP.lower fun e he h => hmem (List.mem_map.mpr ⟨e, he, h⟩)) (by intro h; cases h)
    | always =>
      have hnl : s.isLoop = false := by rw [Stmt.isLoop, hkind]; rfl
      exact called hnl ((hP.fires_iff k s (Nat.lt_succ_self k) hs hnl).mp (.inl hkind))
    | ext =>
      refine ihk R g (hP.lower fun e he h => ?_) hG
      have := hP.noExt e he
      simp [isExtAt, h, hs, hkind] at this

theorem pending_whole (ss : List Stmt) (hist : List (Nat × α)) (hwf : WF ss hist) (h2 : AllAlwaysExecuted ss hist) :
    Pending ss (frameOf ss hist).bits ss.length hist.reverse := by
  have hmem : ∀ e ∈ hist.reverse, e.1 ∈ hist.map (·.1) := fun e he =>
    List.mem_map.mpr ⟨e, List.mem_reverse.mp he, rfl⟩
  refine ⟨?_, fun e he => (hwf.2 e.1 (hmem e he)).1, fun e he => (hwf.2 e.1 (hmem e he)).2, ?_⟩
  · rw [Desc, List.pairwise_reverse]
    exact List.pairwise_map.mp hwf.1
  · intro k s _ hs hnl
    rw [List.map_reverse, List.mem_reverse]
    cases hkind : s.kind with
    | always =>
      have : isAlwaysAt ss k = true := (at_of_stmt hs).trans (by rw [hkind]; rfl)
      exact ⟨fun _ => allAlways_spec h2 this, fun _ => .inl hkind⟩
    | cond =>
      have : isCondAt ss k = true := (at_of_stmt hs).trans (by rw [Stmt.isCond, hkind]; rfl)
      rw [← frameOf_bit_iff ss hist this]
      simp [fires, hkind]
    | loop => simp [Stmt.isLoop, hkind] at hnl
    | ext => simp [Stmt.isLoop, hkind] at hnl

end refine

end LlgoVerif.Defer
