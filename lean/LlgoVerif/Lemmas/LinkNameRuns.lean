import LlgoVerif.Model.LinkName
/-!
# Lemmas for C14: reading a link name back, the tools

A link name is a concatenation of pieces, and each piece can be read back from the left because of what may follow it:
a maximal run of characters of a class is determined by the string (`seg_eq`), and "what may follow" is always a
condition on the first character of the rest (`HeadNot`). The package path is the one piece that needs more
(`path_split`).
-/
namespace LlgoVerif.LinkName

/-- `r` is empty or starts with a character on which `p` fails -/
def HeadNot {α} (p : α → Bool) (r : List α) : Prop := ∀ c ∈ r.head?, p c = false

theorem takeWhile_headNot {α} {p : α → Bool} {r : List α} (h : HeadNot p r) : r.takeWhile p = [] := by
  cases r with
  | nil => rfl
  | cons c r => simp [List.takeWhile, h c (by simp)]

theorem headNot_nil {α} {p : α → Bool} : HeadNot p ([] : List α) := by simp [HeadNot]

theorem headNot_cons {α} {p : α → Bool} {c : α} {r : List α} (h : p c = false) : HeadNot p (c :: r) := by
  simp [HeadNot, h]

theorem headNot_head {α} {p : α → Bool} {r : List α} (h : HeadNot p r) {c : α} (hc : p c = true) : r.head? ≠ some c := by
  intro e
  rw [h c e] at hc
  cases hc

theorem headNot_ne {α} {p : α → Bool} {r : List α} (h : HeadNot p r) {c : α} (hc : p c = true) (x : List α) :
    r ≠ c :: x :=
  fun e => headNot_head h hc (congrArg List.head? e)

theorem headNot_left {α} {p q : α → Bool} {r : List α} (h : HeadNot (fun c => p c || q c) r) : HeadNot p r :=
  fun c hc => (Bool.or_eq_false_iff.mp (h c hc)).1

theorem ne_of_pred {α} {q : α → Bool} {c d : α} (hd : q d = false) (h : q c = true) : c ≠ d := by
  intro e; subst e; rw [h] at hd; cases hd

theorem head_of_all {α} {q : α → Bool} {n : List α} (h0 : n ≠ []) (hc : ∀ c ∈ n, q c = true) (X : List α) :
    HeadNot (!q ·) (n ++ X) := by
  cases n with
  | nil => exact absurd rfl h0
  | cons c s => exact headNot_cons (by rw [hc c (by simp)]; rfl)

theorem optPrefix_inj {α} {p₁ p₂ : α → Bool} {c : α} {o : List α} (hc₁ : p₁ c = true) (hc₂ : p₂ c = true) {f₁ f₂ : Bool}
    {b₁ b₂ : List α} (h₁ : HeadNot p₁ b₁) (h₂ : HeadNot p₂ b₂)
    (h : (if f₁ then c :: o else []) ++ b₁ = (if f₂ then c :: o else []) ++ b₂) : f₁ = f₂ ∧ b₁ = b₂ := by
  cases f₁ <;> cases f₂ <;> simp only [if_true, if_false, Bool.false_eq_true, List.nil_append] at h
  · exact ⟨rfl, h⟩
  · exact absurd h (headNot_ne h₁ hc₁ _)
  · exact absurd h.symm (headNot_ne h₂ hc₂ _)
  · exact ⟨rfl, List.append_cancel_left h⟩

theorem takeWhile_run {α} {p : α → Bool} {a r : List α} (ha : ∀ x ∈ a, p x = true) (hr : HeadNot p r) :
    (a ++ r).takeWhile p = a := by
  rw [List.takeWhile_append_of_pos ha, takeWhile_headNot hr, List.append_nil]

theorem seg_eq {α} {p : α → Bool} {a a' r r' : List α}
    (ha : ∀ x ∈ a, p x = true) (ha' : ∀ x ∈ a', p x = true) (hr : HeadNot p r) (hr' : HeadNot p r')
    (h : a ++ r = a' ++ r') : a = a' ∧ r = r' := by
  have h1 := congrArg (List.takeWhile p) h
  rw [takeWhile_run ha hr, takeWhile_run ha' hr'] at h1
  subst h1
  exact ⟨rfl, List.append_cancel_left h⟩

theorem brk_iff {c : Char} : brk c = true ↔ c ∈ ['[', ']', '(', ')', ',', ' ', '*'] := by
  simp [brk, or_assoc]

theorem not_brk {q : Char → Bool} (hq : ∀ d ∈ ['[', ']', '(', ')', ',', ' ', '*'], q d = false) {c : Char}
    (h : q c = true) : brk c = false := by
  cases hb : brk c with
  | false => rfl
  | true => rw [hq c (brk_iff.1 hb)] at h; cases h

theorem natStr_digits (n : Nat) : ∀ c ∈ natStr n, c.isDigit = true :=
  fun _ hc => Nat.isDigit_of_mem_toDigits (by decide) (by decide) hc

theorem natStr_ident (n : Nat) : ∀ c ∈ natStr n, identChar c = true :=
  fun c hc => by simp [identChar, Char.isAlphanum, natStr_digits n c hc]

theorem natStr_ne_nil (n : Nat) : natStr n ≠ [] := Nat.toDigits_ne_nil

theorem natStr_inj {a b : Nat} (h : natStr a = natStr b) : a = b := by
  have := congrArg (fun l => Nat.ofDigitChars 10 l 0) h
  simpa [natStr, Nat.ofDigitChars_ten_toDigits] using this

def nb (c : Char) : Bool := !brk c

theorem ident_nb {c : Char} (h : identChar c = true) : nb c = true := by simp [nb, not_brk (by decide) h]

theorem path_nb {c : Char} (h : pathChar c = true) : nb c = true := by simp [nb, not_brk (by decide) h]

/-- the first word of `s` (maximal prefix free of `brk` characters) lies in class `q`; `Word noSlash` is what
    `path_split` asks of the rest -/
def Word (q : Char → Bool) (s : Str) : Prop := ∀ c ∈ s.takeWhile nb, q c = true

theorem word_of_headNot {q : Char → Bool} {r : Str} (h : HeadNot nb r) : Word q r := by
  intro c hc
  rw [takeWhile_headNot h] at hc
  cases hc

theorem word_of_all {q : Char → Bool} {a : Str} (h : ∀ c ∈ a, q c = true) : Word q a :=
  fun c hc => h c (List.takeWhile_subset _ hc)

theorem word_append {q : Char → Bool} {a b : Str} (ha : Word q a) (hb : Word q b) : Word q (a ++ b) := by
  induction a with
  | nil => exact hb
  | cons x a ih =>
    cases hx : nb x with
    | false => exact word_of_headNot (headNot_cons hx)
    | true =>
      have e : ∀ l, (x :: l).takeWhile nb = x :: l.takeWhile nb := fun l => List.takeWhile_cons_of_pos hx
      intro c hc
      rw [List.cons_append, e] at hc
      rcases List.mem_cons.mp hc with rfl | hc
      · exact ha c (by rw [e]; exact List.mem_cons_self ..)
      · exact ih (fun d hd => ha d (by rw [e]; exact List.mem_cons_of_mem _ hd)) c hc

theorem takeWhile_dot {p : Str} (hp : ∀ c ∈ p, nb c = true) (R : Str) :
    (p ++ '.' :: R).takeWhile nb = p ++ '.' :: R.takeWhile nb := by
  rw [List.takeWhile_append_of_pos hp, List.takeWhile_cons_of_pos (by decide)]

theorem dot_mem_word {p : Str} (hp : ∀ c ∈ p, nb c = true) (R : Str) : '.' ∈ (p ++ '.' :: R).takeWhile nb := by
  rw [takeWhile_dot hp]
  exact List.mem_append_right _ (List.mem_cons_self ..)

abbrev noSlash (c : Char) : Bool := c != '/'

theorem identOK_iff {s : Str} : identOK s = true ↔ s ≠ [] ∧ ∀ c ∈ s, identChar c = true := by
  cases s <;> simp [identOK]

theorem word_ident {n : Str} (hn : identOK n = true) : Word noSlash n :=
  word_of_all fun c hc => by simpa using ne_of_pred (d := '/') (by decide) ((identOK_iff.mp hn).2 c hc)

theorem lastElem_append_dot (P X : Str) (hX : ∀ c ∈ X, noSlash c = true) :
    lastElem (P ++ '.' :: X) = lastElem P ++ '.' :: X := by
  unfold lastElem
  have h1 : (P ++ '.' :: X).reverse = (X.reverse ++ ['.']) ++ P.reverse := by simp
  rw [h1, List.takeWhile_append_of_pos]
  · simp
  · intro c hc
    simp only [List.mem_append, List.mem_reverse, List.mem_singleton] at hc
    rcases hc with hc | hc
    · exact hX c hc
    · subst hc; decide

/-- `Word noSlash` holds of every rest that occurs: identifier, `$n` suffixes and scope indices have no `/`; a bracket
    starts the type arguments. -/
theorem path_split {P P' R R' : Str}
    (hP : ∀ c ∈ P, nb c = true) (hP' : ∀ c ∈ P', nb c = true)
    (hd : ∀ c ∈ lastElem P, (c != '.') = true) (hd' : ∀ c ∈ lastElem P', (c != '.') = true)
    (hR : Word noSlash R) (hR' : Word noSlash R')
    (h : P ++ '.' :: R = P' ++ '.' :: R') : P = P' ∧ R = R' := by
  -- the words up to the first break character agree: `P.R₀ = P'.R₀'` with `R₀`, `R₀'` free of `/`
  have h1 := congrArg (List.takeWhile nb) h
  rw [takeWhile_dot hP, takeWhile_dot hP'] at h1
  -- so do their last path elements `lastElem P ++ "." ++ R₀`, whose first dot is the one after `P`: `R₀ = R₀'`
  have h2 := congrArg lastElem h1
  rw [lastElem_append_dot _ _ hR, lastElem_append_dot _ _ hR'] at h2
  have h3 := seg_eq (p := fun c => c != '.') hd hd' (headNot_cons (by decide)) (headNot_cons (by decide)) h2
  rw [h3.2] at h1
  cases List.append_cancel_right h1
  exact ⟨rfl, (List.cons.inj (List.append_cancel_left h)).2⟩

theorem pathOK_unpack {p : Str} (h : pathOK p = true) :
    p ≠ [] ∧ (∀ c ∈ p, pathChar c = true) ∧ pathOf p = p ∧ (∀ c ∈ lastElem p, (c != '.') = true) := by
  simp only [pathOK, pathValid, noDotInLastPathElem, Bool.and_eq_true, Bool.not_eq_true'] at h
  obtain ⟨⟨⟨h1, h2⟩, h3⟩, h4⟩ := h
  refine ⟨?_, ?_, ?_, ?_⟩
  · intro e; subst e; simp at h1
  · simpa using h2
  · simp [pathOf, trimPrefix, h3]
  · intro c hc
    have : c ≠ '.' := by
      intro e; subst e
      have := List.contains_iff_mem.mpr hc
      rw [h4] at this; cases this
    simpa using this

theorem pathOf_of_ok {p : Str} (h : pathOK p = true) : pathOf p = p := (pathOK_unpack h).2.2.1

theorem pkg_split {p₁ p₂ R₁ R₂ : Str} (h₁ : pathOK p₁ = true) (h₂ : pathOK p₂ = true)
    (w₁ : Word noSlash R₁) (w₂ : Word noSlash R₂) (h : p₁ ++ '.' :: R₁ = p₂ ++ '.' :: R₂) : p₁ = p₂ ∧ R₁ = R₂ := by
  obtain ⟨_, c₁, _, d₁⟩ := pathOK_unpack h₁
  obtain ⟨_, c₂, _, d₂⟩ := pathOK_unpack h₂
  exact path_split (fun c hc => path_nb (c₁ c hc)) (fun c hc => path_nb (c₂ c hc)) d₁ d₂ w₁ w₂ h

/-- what may follow a type argument: nothing, a comma, or the closing bracket -/
def StopB : Str → Bool
  | [] => true
  | c :: _ => c == ',' || c == ']'

theorem stop_headNot {p : Char → Bool} (hc : p ',' = false) (hb : p ']' = false) {r : Str} (h : StopB r = true) :
    HeadNot p r := by
  cases r with
  | nil => exact headNot_nil
  | cons c r =>
    simp only [StopB, Bool.or_eq_true, beq_iff_eq] at h
    rcases h with h | h <;> subst h <;> exact headNot_cons ‹_›

/-- `scopeStr` with `.`, go/ssa's closure suffixes `$1$2` with `$` -/
def numsStr (d : Char) : List Nat → Str
  | [] => []
  | i :: r => d :: natStr i ++ numsStr d r

theorem scopeStr_eq : scopeStr = numsStr '.' := by
  funext l
  induction l with
  | nil => rfl
  | cons i r ih => rw [scopeStr, numsStr, ih]

theorem nums_chars (d : Char) : ∀ (l : List Nat), ∀ c ∈ numsStr d l, identChar c = true ∨ c = d
  | [] => nofun
  | i :: l => by
    intro c hc
    simp only [numsStr, List.mem_cons, List.mem_append] at hc
    rcases hc with (hc | hc) | hc
    · exact Or.inr hc
    · exact Or.inl (natStr_ident i c hc)
    · exact nums_chars d l c hc

theorem word_nums {d : Char} (hd : noSlash d = true) (l : List Nat) : Word noSlash (numsStr d l) :=
  word_of_all fun c hc => by
    rcases nums_chars d l c hc with h | rfl
    · simpa using ne_of_pred (d := '/') (by decide) h
    · exact hd

theorem nums_headNot {p : Char → Bool} {d : Char} (hd : p d = false) (l : List Nat) {s : Str} (hs : HeadNot p s) :
    HeadNot p (numsStr d l ++ s) := by
  cases l with
  | nil => exact hs
  | cons k l => exact headNot_cons hd

theorem nums_inj_prefix {d : Char} (hd : identChar d = false) {s₁ s₂ : Str}
    (h₁ : HeadNot (fun c => identChar c || c == d) s₁) (h₂ : HeadNot (fun c => identChar c || c == d) s₂) :
    ∀ (l₁ l₂ : List Nat), numsStr d l₁ ++ s₁ = numsStr d l₂ ++ s₂ → l₁ = l₂ ∧ s₁ = s₂
  | [], [] => fun h => ⟨rfl, h⟩
  | [], j :: l₂ => fun h => absurd h (headNot_ne h₁ (by simp) _)
  | i :: l₁, [] => fun h => absurd h.symm (headNot_ne h₂ (by simp) _)
  | i :: l₁, j :: l₂ => fun h => by
    simp only [numsStr, List.cons_append, List.append_assoc, List.cons.injEq, true_and] at h
    have hn : ∀ {s : Str} (l : List Nat), HeadNot (fun c => identChar c || c == d) s → HeadNot identChar (numsStr d l ++ s) :=
      fun l hs => nums_headNot hd l (headNot_left hs)
    obtain ⟨ij, rest⟩ := seg_eq (natStr_ident i) (natStr_ident j) (hn l₁ h₁) (hn l₂ h₂) h
    obtain ⟨e, es⟩ := nums_inj_prefix hd h₁ h₂ l₁ l₂ rest
    exact ⟨by rw [natStr_inj ij, e], es⟩

theorem scopeStr_inj_prefix (s₁ s₂ : List Nat) (r₁ r₂ : Str) (h₁ : StopB r₁ = true) (h₂ : StopB r₂ = true) :
    scopeStr s₁ ++ r₁ = scopeStr s₂ ++ r₂ → s₁ = s₂ ∧ r₁ = r₂ := by
  rw [scopeStr_eq]
  exact nums_inj_prefix rfl (stop_headNot rfl rfl h₁) (stop_headNot rfl rfl h₂) s₁ s₂

end LlgoVerif.LinkName
