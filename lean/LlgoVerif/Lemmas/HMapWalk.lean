import LlgoVerif.Lemmas.HMapTable
/-!
# Lemmas for C06: `mapiternext` over a table that does not grow

Two inductions over `iterLoop`: from any iterator on the current array (`IterCur`) what is yielded is an entry; from a
consistent position (`PosOK`), on a table that is also not mutated between the calls, the calls yield `remOf` one by one.
-/
namespace LlgoVerif.HMap
open LlgoVerif.AssocList

variable {K V : Type}

theorem ne_of_ge5 {t m : UInt8} (h : 5 ≤ t.toNat) (hm : m.toNat < 5) : t ≠ m := fun e => by subst e; omega

/-- on a cell without an evacuation mark the tests of the scan come down to `live` -/
theorem scan_tests {c : Cell K V} (hm : c.top.toNat ≤ 1 ∨ 5 ≤ c.top.toNat) :
    (isEmptyTop c.top || c.top == evacuatedEmpty) = !c.live ∧
      (c.live = true → (c.top != evacuatedX && c.top != evacuatedY) = true) := by
  cases he : isEmptyTop c.top with
  | true => exact ⟨by rw [dead_of_isEmpty he]; rfl, fun hl => by rw [dead_of_isEmpty he] at hl; cases hl⟩
  | false =>
    have hl := live_of_not_empty hm he
    have h5 := live_iff.1 hl
    exact ⟨by rw [hl, beq_eq_false_iff_ne.2 (ne_of_ge5 h5 (by decide))]; rfl,
      fun _ => by rw [bne_iff_ne.2 (ne_of_ge5 h5 (by decide)), bne_iff_ne.2 (ne_of_ge5 h5 (by decide))]; rfl⟩

theorem iterScan_succ {o : Ops K} {h : HMap K V} {it : Iter K V} {cells : List (Cell K V)} (hN : NoMarks cells)
    (n i : Nat) :
    iterScan o h it cells none (n + 1) i =
      if i ≥ 8 then pure .done else
        match cells[(i + it.offset) % 8]? with
        | none => pure .done
        | some c => if c.live then pure (.yield c.key c.val (i + 1)) else iterScan o h it cells none n (i + 1) := by
  rw [iterScan, bucketCnt]
  by_cases h8 : i ≥ 8
  · rw [if_pos h8, if_pos h8]
  · rw [if_neg h8, if_neg h8]
    cases hc : cells[(i + it.offset) % 8]? with
    | none => simp only [hc]
    | some c =>
      obtain ⟨h1, h2⟩ := scan_tests (hN c (List.mem_of_getElem? hc))
      cases hl : c.live with
      | false => simp only [hc, h1, hl, Bool.not_false, if_true, Bool.false_eq_true, if_false]
      | true => simp only [hc, h1, h2 hl, hl, Bool.not_true, Bool.true_or, Bool.false_eq_true, if_false, if_true]

/-- the scan of a bucket ends, or yields a filled cell of it -/
theorem iterScan_cases {o : Ops K} {h : HMap K V} {it : Iter K V} {cells : List (Cell K V)} (hN : NoMarks cells) :
    ∀ (n i : Nat), iterScan o h it cells none n i = .ok .done ∨
      ∃ c ∈ cells, ∃ i', c.live = true ∧ iterScan o h it cells none n i = .ok (.yield c.key c.val i') := by
  intro n
  induction n with
  | zero => exact fun _ => .inl rfl
  | succ n ih =>
    intro i
    rw [iterScan_succ hN]
    by_cases h8 : i ≥ 8
    · exact .inl (if_pos h8)
    · rw [if_neg h8]
      cases hc : cells[(i + it.offset) % 8]? with
      | none => exact .inl rfl
      | some c =>
        dsimp only
        cases hl : c.live with
        | true => exact .inr ⟨c, List.mem_of_getElem? hc, _, hl, rfl⟩
        | false => exact ih _

/-- weak on purpose (nothing about `bucket`, `i`, `B`), so that it survives every mutation that keeps the array -/
structure IterCur (h : HMap K V) (it : Iter K V) : Prop where
  gen : it.gen = h.gen
  cb : it.checkBucket = none
  bptr : ∀ br, it.bptr = some br → br.gen = h.gen

/-- bucket number `p` of a chain -/
def blockOf (c : List (Cell K V)) (p : Nat) : List (Cell K V) := (c.drop (p * 8)).take 8

theorem bucketAt_gen {h : HMap K V} {br : BRef} (hg : br.gen = h.gen) :
    h.bucketAt br =
      if (blockOf (h.buckets.getD br.idx []) br.pos).length == bucketCnt then
        some (blockOf (h.buckets.getD br.idx []) br.pos,
          decide ((h.buckets.getD br.idx []).length > (br.pos + 1) * bucketCnt))
      else none := by
  unfold HMap.bucketAt HMap.arrayOf
  simp only [hg, beq_self_eq_true, if_true]
  rfl

/-- what the scan of one bucket yields from scan position `8 - d` on (offset `r`) -/
def byf (r : Nat) (cells : List (Cell K V)) : Nat → AList K V
  | 0 => []
  | d + 1 => (match cells[((8 - (d + 1)) + r) % 8]? with
      | some c => chainAbs [c]
      | none => []) ++ byf r cells d

/-- what the chain walk yields from bucket `p` on, `m` buckets -/
def cy (r : Nat) (c : List (Cell K V)) : Nat → Nat → AList K V
  | 0, _ => []
  | m + 1, p => byf r (blockOf c p) 8 ++ cy r c m (p + 1)

def chainYield (r : Nat) (c : List (Cell K V)) : AList K V := cy r c (c.length / 8) 0

theorem getElem?_rot {r : Nat} (hr : r < 8) {cells : List (Cell K V)} (hl : cells.length = 8) {p : Nat} (hp : p < 8) :
    (cells.drop r ++ cells.take r)[p]? = cells[(p + r) % 8]? := by
  by_cases h : p + r < 8
  · rw [List.getElem?_append_left (by rw [List.length_drop]; omega), List.getElem?_drop, Nat.mod_eq_of_lt h,
      Nat.add_comm]
  · rw [List.getElem?_append_right (by rw [List.length_drop]; omega), List.length_drop,
      List.getElem?_take_of_lt (by omega)]
    congr 1; omega

theorem byf_drop {r : Nat} (hr : r < 8) {cells : List (Cell K V)} (hl : cells.length = 8) : ∀ d, d ≤ 8 →
    byf r cells d = chainAbs ((cells.drop r ++ cells.take r).drop (8 - d)) := by
  have hlen : (cells.drop r ++ cells.take r).length = 8 := by
    rw [List.length_append, List.length_drop, List.length_take]; omega
  intro d
  induction d with
  | zero => intro _; rw [List.drop_eq_nil_of_le (by omega)]; rfl
  | succ d ih =>
    intro hd
    have hlt : 8 - (d + 1) < (cells.drop r ++ cells.take r).length := by omega
    rw [byf, ih (by omega), ← getElem?_rot hr hl (by omega), List.drop_eq_getElem_cons hlt,
      List.getElem?_eq_getElem hlt, show 8 - (d + 1) + 1 = 8 - d by omega]
    exact (chainAbs_append [_] _).symm

theorem byf_perm {r : Nat} (hr : r < 8) {cells : List (Cell K V)} (hl : cells.length = 8) :
    (byf r cells 8).Perm (chainAbs cells) := by
  rw [byf_drop hr hl 8 (Nat.le_refl _), Nat.sub_self, List.drop_zero, chainAbs_append]
  conv => rhs; rw [← List.take_append_drop r cells, chainAbs_append]
  exact List.perm_append_comm

theorem blockOf_length {c : List (Cell K V)} {p : Nat} (h : (p + 1) * 8 ≤ c.length) : (blockOf c p).length = 8 := by
  simp [blockOf]; omega

theorem cy_perm {r : Nat} (hr : r < 8) (c : List (Cell K V)) : ∀ (m p : Nat), (p + m) * 8 = c.length →
    (cy r c m p).Perm (chainAbs (c.drop (p * 8))) := by
  intro m
  induction m with
  | zero =>
    intro p h
    have : c.drop (p * 8) = [] := List.drop_eq_nil_of_le (by omega)
    rw [this]; exact List.Perm.refl _
  | succ m ih =>
    intro p h
    have hb : (blockOf c p).length = 8 := blockOf_length (by omega)
    have hsplit : c.drop (p * 8) = blockOf c p ++ c.drop ((p + 1) * 8) := by
      unfold blockOf
      have : c.drop ((p + 1) * 8) = (c.drop (p * 8)).drop 8 := by
        rw [List.drop_drop]; congr 1; omega
      rw [this]
      exact (List.take_append_drop 8 (c.drop (p * 8))).symm
    rw [cy, hsplit, chainAbs_append]
    exact List.Perm.append (byf_perm hr hb) (ih (p + 1) (by omega))

theorem chainYield_perm {r : Nat} (hr : r < 8) {c : List (Cell K V)} (hl : c.length % 8 = 0) :
    (chainYield r c).Perm (chainAbs c) := by
  have := cy_perm hr c (c.length / 8) 0 (by omega)
  simpa [chainYield] using this

theorem byf_scan {r i : Nat} {cells : List (Cell K V)} (hi : i < 8) (hc : (i + r) % 8 < cells.length) :
    byf r cells (8 - i) = chainAbs [cells[(i + r) % 8]] ++ byf r cells (8 - (i + 1)) := by
  have h1 : 8 - i = 8 - (i + 1) + 1 := by omega
  rw [h1, byf, ← h1, Nat.sub_sub_self (Nat.le_of_lt hi), List.getElem?_eq_getElem hc]

/-- the scan of a bucket from position `i` on yields the head of `byf … (8 - i)` and stops behind it, or ends with
    nothing left -/
theorem iterScan_byf {o : Ops K} {h : HMap K V} {it : Iter K V} {cells : List (Cell K V)} (hN : NoMarks cells)
    (hl : cells.length = 8) : ∀ (n i : Nat), i ≤ 8 → 8 ≤ i + n →
    (∃ k v i', i' ≤ 8 ∧ iterScan o h it cells none n i = .ok (.yield k v i') ∧
      byf it.offset cells (8 - i) = (k, v) :: byf it.offset cells (8 - i')) ∨
    (iterScan o h it cells none n i = .ok .done ∧ byf it.offset cells (8 - i) = []) := by
  intro n
  induction n with
  | zero =>
    intro i hi hn
    obtain rfl : i = 8 := Nat.le_antisymm hi hn
    exact .inr ⟨rfl, rfl⟩
  | succ n ih =>
    intro i hi hn
    rw [iterScan_succ hN]
    by_cases h8 : i ≥ 8
    · obtain rfl : i = 8 := Nat.le_antisymm hi h8
      exact .inr ⟨rfl, rfl⟩
    · have hi' : i < 8 := Nat.lt_of_not_le h8
      have hidx : (i + it.offset) % 8 < cells.length := by rw [hl]; exact Nat.mod_lt _ (by decide)
      rw [if_neg h8, List.getElem?_eq_getElem hidx, byf_scan hi' hidx]
      cases hlv : cells[(i + it.offset) % 8].live with
      | true => exact .inl ⟨_, _, i + 1, hi', by simp only [hlv, if_true]; rfl, by rw [chainAbs_cons_live hlv]; rfl⟩
      | false =>
        simp only [hlv, Bool.false_eq_true, if_false, chainAbs_cons_dead hlv]
        exact ih (i + 1) hi' (Nat.succ_add_eq_add_succ i n ▸ hn)

/-- the chains still to be walked: `bucket` is the next chain, `wrapped` says whether the walk passed the end -/
def restChains (L : List (Chain K V)) (start bucket : Nat) (wrapped : Bool) : List (Chain K V) :=
  if wrapped then (L.take start).drop bucket else L.drop bucket ++ L.take start

/-- the model's `totalCells` on a list (`totalCells a = costs a.toList` by `rfl`) -/
def costs (l : List (Chain K V)) : Nat := (l.map (fun c => c.length / 8 + 1)).sum

/-- everything the rest of the loop yields, from the local state of `mapiternext` -/
def remOf (h : HMap K V) (r start : Nat) (wrapped : Bool) (bucket : Nat) (b : Option BRef) (i : Nat) : AList K V :=
  (match b with
    | none => []
    | some br =>
      byf r (blockOf (h.buckets.getD br.idx []) br.pos) (8 - i) ++
        cy r (h.buckets.getD br.idx []) ((h.buckets.getD br.idx []).length / 8 - br.pos - 1) (br.pos + 1)) ++
  (restChains h.buckets.toList start bucket wrapped).flatMap (chainYield r)

/-- a bound on the number of `next:` rounds still needed -/
def stepsOf (h : HMap K V) (start : Nat) (wrapped : Bool) (bucket : Nat) (b : Option BRef) : Nat :=
  (match b with
    | none => 0
    | some br => (h.buckets.getD br.idx []).length / 8 - br.pos) + 1 +
  costs (restChains h.buckets.toList start bucket wrapped)

/-- the local state of `mapiternext` is consistent with a table that is not growing -/
structure PosOK (h : HMap K V) (it : Iter K V) (bucket : Nat) (b : Option BRef) (i : Nat) : Prop where
  B : it.B = h.B
  gen : it.gen = h.gen
  start : it.startBucket < h.buckets.size
  off : it.offset < 8
  bkt : bucket < h.buckets.size
  /-- what makes `restChains_step` applicable after the wrap-around -/
  wr : it.wrapped = true → bucket ≤ it.startBucket
  bref : ∀ br, b = some br → br.gen = h.gen ∧ br.idx < h.buckets.size ∧ br.pos < (h.buckets.getD br.idx []).length / 8
  i : i ≤ 8

theorem restChains_end (L : List (Chain K V)) (start : Nat) (hs : start ≤ L.length) :
    restChains L start start true = [] := by
  simp only [restChains, if_true]
  apply List.drop_eq_nil_of_le
  simp [List.length_take]; omega

theorem restChains_step (L : List (Chain K V)) {start bucket : Nat} {wrapped : Bool} (hs : start < L.length)
    (hb : bucket < L.length) (hw : wrapped = true → bucket ≤ start) (hne : ¬ (bucket = start ∧ wrapped = true)) :
    restChains L start bucket wrapped =
      L[bucket] :: if bucket + 1 = L.length then restChains L start 0 true else restChains L start (bucket + 1) wrapped := by
  cases wrapped with
  | true =>
    have hlt : bucket < start := Nat.lt_of_le_of_ne (hw rfl) fun e => hne ⟨e, rfl⟩
    have hbt : bucket < (L.take start).length := by rw [List.length_take]; omega
    rw [if_neg (by omega)]
    simp only [restChains, if_true]
    rw [List.drop_eq_getElem_cons hbt, List.getElem_take]
  | false =>
    simp only [restChains, Bool.false_eq_true, if_false, if_true]
    rw [List.drop_eq_getElem_cons hb, List.cons_append]
    split
    · rename_i hn
      rw [hn, List.drop_length, List.nil_append, List.drop_zero]
    · rfl

section
variable {h : HMap K V} {r start bucket : Nat} {wrapped : Bool}

theorem remOf_none {i : Nat} :
    remOf h r start wrapped bucket none i = (restChains h.buckets.toList start bucket wrapped).flatMap (chainYield r) :=
  rfl

theorem remOf_end (hs : start ≤ h.buckets.size) {i : Nat} : remOf h r start true start none i = [] := by
  rw [remOf_none, restChains_end _ _ (by simpa using hs)]
  rfl

theorem remOf_cells {br : BRef} {i : Nat} :
    remOf h r start wrapped bucket (some br) i =
      byf r (blockOf (h.buckets.getD br.idx []) br.pos) (8 - i) ++ remOf h r start wrapped bucket (some br) 8 := by
  simp only [remOf, Nat.sub_self, byf, List.nil_append, List.append_assoc]

theorem remOf_next_block {br : BRef} {i : Nat} (hby : byf r (blockOf (h.buckets.getD br.idx []) br.pos) (8 - i) = [])
    (hp : br.pos + 1 < (h.buckets.getD br.idx []).length / 8) :
    remOf h r start wrapped bucket (some br) i =
      remOf h r start wrapped bucket (some { br with pos := br.pos + 1 }) 0 := by
  obtain ⟨m, hm⟩ : ∃ m, (h.buckets.getD br.idx []).length / 8 - br.pos - 1 = m + 1 := ⟨_, (Nat.sub_add_cancel (by omega)).symm⟩
  simp only [remOf, hby, List.nil_append, hm, cy, Nat.sub_zero, List.append_assoc,
    show (h.buckets.getD br.idx []).length / 8 - (br.pos + 1) - 1 = m by omega]

theorem remOf_leave {br : BRef} {i j : Nat} (hby : byf r (blockOf (h.buckets.getD br.idx []) br.pos) (8 - i) = [])
    (hp : (h.buckets.getD br.idx []).length / 8 ≤ br.pos + 1) :
    remOf h r start wrapped bucket (some br) i = remOf h r start wrapped bucket none j := by
  simp only [remOf, hby, List.nil_append,
    show (h.buckets.getD br.idx []).length / 8 - br.pos - 1 = 0 by omega, cy]

theorem remOf_enter {wrapped1 : Bool} {bucket1 g i : Nat}
    (hst : restChains h.buckets.toList start bucket wrapped =
      h.buckets.getD bucket [] :: restChains h.buckets.toList start bucket1 wrapped1)
    (hlen : 1 ≤ (h.buckets.getD bucket []).length / 8) :
    remOf h r start wrapped bucket none i =
      remOf h r start wrapped1 bucket1 (some { gen := g, idx := bucket, pos := 0 }) 0 := by
  obtain ⟨m, hm⟩ : ∃ m, (h.buckets.getD bucket []).length / 8 = m + 1 := ⟨_, (Nat.sub_add_cancel hlen).symm⟩
  simp only [remOf, hst, List.flatMap_cons, chainYield, hm, cy, Nat.sub_zero, Nat.zero_add, Nat.add_sub_cancel,
    List.nil_append, List.append_assoc]

theorem stepsOf_pos {b : Option BRef} : 0 < stepsOf h start wrapped bucket b := by
  unfold stepsOf; omega

theorem stepsOf_next_block {br : BRef} (hp : br.pos + 1 < (h.buckets.getD br.idx []).length / 8) :
    stepsOf h start wrapped bucket (some { br with pos := br.pos + 1 }) < stepsOf h start wrapped bucket (some br) := by
  simp only [stepsOf]; omega

theorem stepsOf_leave {br : BRef} (hp : br.pos < (h.buckets.getD br.idx []).length / 8) :
    stepsOf h start wrapped bucket none < stepsOf h start wrapped bucket (some br) := by
  simp only [stepsOf]; omega

theorem stepsOf_enter {wrapped1 : Bool} {bucket1 g : Nat}
    (hst : restChains h.buckets.toList start bucket wrapped =
      h.buckets.getD bucket [] :: restChains h.buckets.toList start bucket1 wrapped1) :
    stepsOf h start wrapped1 bucket1 (some { gen := g, idx := bucket, pos := 0 }) <
      stepsOf h start wrapped bucket none := by
  simp only [stepsOf, hst, costs, List.map_cons, List.sum_cons]; omega

end

def WalkPost (h : HMap K V) (it : Iter K V) (bucket : Nat) (b : Option BRef) (i : Nat) (it' : Iter K V) : Prop :=
  (it'.key = none ∧ remOf h it.offset it.startBucket it.wrapped bucket b i = []) ∨
  ∃ k v, it'.key = some k ∧ it'.elem = some v ∧ it'.checkBucket = none ∧
    it'.startBucket = it.startBucket ∧ it'.offset = it.offset ∧ PosOK h it' it'.bucket it'.bptr it'.i ∧
    remOf h it.offset it.startBucket it.wrapped bucket b i =
      (k, v) :: remOf h it.offset it.startBucket it'.wrapped it'.bucket it'.bptr it'.i

/-- a round of `next:` that yields nothing: it arrives at a consistent position with the same entries left to yield
    and a smaller bound on the rounds -/
structure Silent (h : HMap K V) (it it1 : Iter K V) (bucket bucket1 : Nat) (b b1 : Option BRef) (i : Nat) : Prop where
  pos : PosOK h it1 bucket1 b1 0
  start : it1.startBucket = it.startBucket
  off : it1.offset = it.offset
  rem : remOf h it.offset it.startBucket it.wrapped bucket b i =
    remOf h it.offset it.startBucket it1.wrapped bucket1 b1 0
  steps : stepsOf h it.startBucket it1.wrapped bucket1 b1 < stepsOf h it.startBucket it.wrapped bucket b

/-- after a silent round the rest of the loop (`x`, with the induction hypothesis `ih`) does what was to be shown -/
theorem walk_silent {h : HMap K V} {it it1 : Iter K V} {bucket bucket1 i fuel : Nat} {b b1 : Option BRef}
    {x : Except Err (Iter K V)} (hq : Silent h it it1 bucket bucket1 b b1 i)
    (hs : stepsOf h it.startBucket it.wrapped bucket b ≤ fuel + 1)
    (ih : PosOK h it1 bucket1 b1 0 → stepsOf h it1.startBucket it1.wrapped bucket1 b1 ≤ fuel →
      ∃ it', x = .ok it' ∧ WalkPost h it1 bucket1 b1 0 it') :
    ∃ it', x = .ok it' ∧ WalkPost h it bucket b i it' := by
  obtain ⟨it', hrun, hpost⟩ := ih hq.pos (hq.start ▸ Nat.le_of_lt_succ (Nat.lt_of_lt_of_le hq.steps hs))
  refine ⟨it', hrun, ?_⟩
  unfold WalkPost at hpost ⊢
  rw [hq.start, hq.off] at hpost
  rw [hq.rem]
  exact hpost

theorem walk_block_end {h : HMap K V} {it : Iter K V} {bucket i : Nat} {br : BRef} (hp : PosOK h it bucket (some br) i)
    (hby : byf it.offset (blockOf (h.buckets.getD br.idx []) br.pos) (8 - i) = []) :
    Silent h it it bucket bucket (some br)
      (if decide (br.pos + 1 < (h.buckets.getD br.idx []).length / 8) = true then
        some { br with pos := br.pos + 1 } else none) i := by
  obtain ⟨hbg, hbi, hbp⟩ := hp.bref br rfl
  by_cases hov : br.pos + 1 < (h.buckets.getD br.idx []).length / 8
  · rw [if_pos (decide_eq_true hov)]
    exact ⟨{ hp with bref := fun br' e => by cases e; exact ⟨hbg, hbi, hov⟩, i := Nat.zero_le _ }, rfl, rfl,
      remOf_next_block hby hov, stepsOf_next_block hov⟩
  · rw [if_neg (mt of_decide_eq_true hov)]
    exact ⟨{ hp with bref := nofun, i := Nat.zero_le _ }, rfl, rfl, remOf_leave hby (Nat.le_of_not_lt hov),
      stepsOf_leave hbp⟩

theorem costs_append (a b : List (Chain K V)) : costs (a ++ b) = costs a + costs b := by
  simp [costs]

theorem costs_take_drop_le (L : List (Chain K V)) (n : Nat) : costs (L.take n) ≤ costs L ∧ costs (L.drop n) ≤ costs L := by
  have := costs_append (L.take n) (L.drop n)
  rw [List.take_append_drop] at this
  omega

theorem cost_mem_le {L : List (Chain K V)} {c : Chain K V} (hc : c ∈ L) : c.length / 8 + 1 ≤ costs L := by
  obtain ⟨s, t, rfl⟩ := List.append_of_mem hc
  simp [costs]
  omega

theorem restChains_costs_le (L : List (Chain K V)) (start bucket : Nat) (wrapped : Bool) :
    costs (restChains L start bucket wrapped) ≤ 2 * costs L := by
  unfold restChains
  split
  · have := (costs_take_drop_le (L.take start) bucket).2
    have := (costs_take_drop_le L start).1
    omega
  · rw [costs_append]
    have := (costs_take_drop_le L bucket).2
    have := (costs_take_drop_le L start).1
    omega

/-- every chain is walked at most twice over (`restChains_costs_le`), the current one once more -/
theorem stepsOf_le {h : HMap K V} {start bucket : Nat} {wrapped : Bool} {b : Option BRef}
    (hb : ∀ br, b = some br → br.idx < h.buckets.size) :
    stepsOf h start wrapped bucket b ≤ 3 * totalCells h.buckets + 1 := by
  have htc : totalCells h.buckets = costs h.buckets.toList := rfl
  have hr := restChains_costs_le h.buckets.toList start bucket wrapped
  cases b with
  | none => simp only [stepsOf]; omega
  | some br =>
    have hmem : h.buckets.getD br.idx [] ∈ h.buckets.toList := by
      rw [← Array.getElem_eq_getD (h := hb br rfl) []]; simp
    have := cost_mem_le hmem
    simp only [stepsOf]; omega

theorem iterFuel_ge {h : HMap K V} {it : Iter K V} {bucket : Nat} {b : Option BRef} {i : Nat}
    (hp : PosOK h it bucket b i) : stepsOf h it.startBucket it.wrapped bucket b ≤ h.iterFuel it := by
  have harr : h.arrayOf it.gen = some h.buckets := by simp [HMap.arrayOf, hp.gen]
  have := stepsOf_le (start := it.startBucket) (wrapped := it.wrapped) (bucket := bucket) fun br e => (hp.bref br e).2.1
  unfold HMap.iterFuel
  rw [harr]
  simp only [Option.map_some, Option.getD_some]
  omega

/-- repeated `mapiternext` until the loop ends, collecting what is yielded (the table is not touched) -/
def drainIter (o : Ops K) (h : HMap K V) : Nat → Iter K V → Except Err (AList K V)
  | 0, _ => .error .loop
  | n + 1, it =>
    match mapiternext o h it with
    | .error e => .error e
    | .ok it' =>
      match it'.key, it'.elem with
      | some k, some v =>
        match drainIter o h n it' with
        | .error e => .error e
        | .ok ys => .ok ((k, v) :: ys)
      | _, _ => .ok []

/-- `for k, v := range m` over a table nobody touches: `mapiterinit`, then `mapiternext` until the loop ends
    (at most `n` further steps); the entries in the order they are produced -/
def iterAll (o : Ops K) (h : HMap K V) (n : Nat) : Except Err (AList K V) :=
  match mapiterinit o h with
  | .error e => .error e
  | .ok (it, h') =>
    match it.key, it.elem with
    | some k, some v =>
      match drainIter o h' n it with
      | .error e => .error e
      | .ok ys => .ok ((k, v) :: ys)
    | _, _ => .ok []

theorem flatMap_perm {α β : Type} {l : List α} {f g : α → List β} (hfg : ∀ a ∈ l, (f a).Perm (g a)) :
    (l.flatMap f).Perm (l.flatMap g) := by
  induction l with
  | nil => exact List.Perm.refl _
  | cons a r ih =>
    simp only [List.flatMap_cons]
    exact List.Perm.append (hfg a (by simp)) (ih (fun b hb => hfg b (by simp [hb])))

theorem flatMap_chainAbs (l : List (Chain K V)) : l.flatMap chainAbs = chainAbs l.flatten := by
  induction l with
  | nil => rfl
  | cons a r ih => simp only [List.flatMap_cons, List.flatten_cons, chainAbs_append, ih]

theorem mapiterinit_eq (o : Ops K) {h : HMap K V} (hc : h.count ≠ 0) :
    ∃ (h2 : HMap K V) (s f : Nat), Same h h2 ∧ s < 2 ^ h2.B ∧ f < 8 ∧
      mapiterinit o h = (do
        let it ← mapiternext o h2 { active := true, B := h2.B, gen := h2.gen, startBucket := s, offset := f, bucket := s }
        pure (it, h2)) := by
  have hc' : (h.count == 0) = false := by simpa using hc
  obtain ⟨r, h1, hrh, hs1⟩ : ∃ (r : Nat) (h1 : HMap K V),
      (if h.B > 31 - 3 then fastrand64 h else (h.fastrand.1.toNat, h.fastrand.2)) = (r, h1) ∧ Same h h1 := by
    split
    · exact ⟨_, _, rfl, same_fastrand64 h⟩
    · exact ⟨_, _, rfl, same_fastrand h⟩
  refine ⟨{ h1 with iterFlag := true, oldIterFlag := true }, r % 2 ^ h1.B, (r / 2 ^ h1.B) % bucketCnt,
    ⟨hs1.buckets, hs1.old, hs1.B, hs1.ssg, hs1.nev, hs1.hash0, hs1.count, hs1.gen⟩,
    Nat.mod_lt _ (Nat.pow_pos (by omega)), Nat.mod_lt _ (by decide), ?_⟩
  unfold mapiterinit
  simp only [hc', Bool.false_eq_true, if_false, hrh]

theorem mapIterNext_empty (o : Ops K) {m : MapRef K V} (hm : mapLen m = 0) (it : Iter K V) :
    mapIterNext o m it = .ok (none, { it with key := none, elem := none }) := by
  cases m with
  | nil r => rfl
  | ref h => simp [mapIterNext, show h.count = 0 from hm, pure, Except.pure]

variable [Inhabited K] [Inhabited V]

theorem block_cells {o : Ops K} {h : HMap K V} (hw : WF o h) (idx pos : Nat) :
    NoMarks (blockOf (h.buckets.getD idx []) pos) ∧ ∀ c ∈ blockOf (h.buckets.getD idx []) pos, c ∈ allCells h := by
  by_cases hi : idx < h.buckets.size
  · rw [← Array.getElem_eq_getD (h := hi) []]
    exact ⟨fun c hc => (hw.chain hi).marks c (List.mem_of_mem_drop (List.mem_of_mem_take hc)),
      fun c hc => mem_allCells_new hi (List.mem_of_mem_drop (List.mem_of_mem_take hc))⟩
  · rw [show h.buckets.getD idx [] = [] by simp [Array.getD, hi]]
    exact ⟨by simp [NoMarks, blockOf], by simp [blockOf]⟩

theorem bucketAt_cur {o : Ops K} {h : HMap K V} (hw : WF o h) {br : BRef} (hg : br.gen = h.gen)
    {cells : List (Cell K V)} {ovf : Bool} (hb : h.bucketAt br = some (cells, ovf)) :
    NoMarks cells ∧ ∀ c ∈ cells, c ∈ allCells h := by
  rw [bucketAt_gen hg] at hb
  split at hb
  · cases hb; exact block_cells hw _ _
  · cases hb

theorem iterLoop_yields_live {o : Ops K} {h : HMap K V} (hw : WF o h) (hold : h.old = none) :
    ∀ (fuel : Nat) (it : Iter K V) (bucket : Nat) (b : Option BRef) (i : Nat) (it' : Iter K V),
      IterCur h it → (∀ br, b = some br → br.gen = h.gen) →
      iterLoop o h fuel it bucket b i none = .ok it' →
      IterCur h it' ∧ ∀ k v, it'.key = some k → it'.elem = some v → (k, v) ∈ abs h := by
  intro fuel it bucket b i it' hic hb e
  have hgrow := growing_of_old_none hold
  -- `fun_induction` wants `cb` a variable; without growth it stays `none` (case3, by `hgrow`)
  generalize hcb : (none : Option Nat) = cb at e
  fun_induction iterLoop o h fuel it bucket b i cb generalizing it' with
  | case1 => cases e
  | case2 fuel it bucket i cb hend =>
    cases e
    exact ⟨⟨hic.gen, hic.cb, hic.bptr⟩, fun k v hk _ => by cases hk⟩
  | case3 fuel it bucket i cb hend b' cb' hb' bucket' bucket1 it1 h1 ih =>
    simp only [hgrow, Bool.false_and, Bool.false_eq_true, if_false, Prod.mk.injEq] at hb'
    obtain ⟨rfl, rfl⟩ := hb'
    have hic1 : IterCur h it1 := by
      split at h1 <;> (cases h1; exact ⟨hic.gen, hic.cb, hic.bptr⟩)
    exact ih it' hic1 (fun br hbr => by cases hbr; exact hic.gen) rfl e
  | case4 fuel it bucket i cb br hba ih => exact ih it' hic nofun hcb e
  | case5 fuel it bucket i cb br cells ovf hba ih =>
    have hbg := hb br rfl
    subst hcb
    obtain ⟨hN, hsub⟩ := bucketAt_cur hw hbg hba
    rcases iterScan_cases (o := o) (h := h) (it := it) hN bucketCnt i with hsc | ⟨c, hc, i', hl, hsc⟩
    · simp only [hsc, bind, Except.bind] at e
      refine ih it' hic (fun br' hbr' => ?_) rfl e
      split at hbr'
      · cases hbr'; exact hbg
      · cases hbr'
    · simp only [hsc, bind, Except.bind] at e
      cases e
      exact ⟨⟨hic.gen, rfl, fun br' hbr' => by cases hbr'; exact hbg⟩, fun k' v' hk' hv' => by
        cases hk'; cases hv'; exact mem_chainAbs_of_mem (hsub c hc) hl⟩

theorem mapiternext_yields_live {o : Ops K} {h : HMap K V} (hw : WF o h) (hold : h.old = none) {it it' : Iter K V}
    (hic : IterCur h it) (e : mapiternext o h it = .ok it') :
    IterCur h it' ∧ ∀ k v, it'.key = some k → it'.elem = some v → (k, v) ∈ abs h := by
  unfold mapiternext at e
  rw [hic.cb] at e
  exact iterLoop_yields_live hw hold _ it _ _ _ it' hic hic.bptr e

/-- at a consistent position the bucket pointer reads a whole bucket of the chain; chains being made of whole
    buckets, `hasOvf` says whether the chain has a further one -/
theorem bucketAt_pos {o : Ops K} {h : HMap K V} (hw : WF o h) {br : BRef}
    (hb : br.gen = h.gen ∧ br.idx < h.buckets.size ∧ br.pos < (h.buckets.getD br.idx []).length / 8) :
    h.bucketAt br = some (blockOf (h.buckets.getD br.idx []) br.pos,
        decide (br.pos + 1 < (h.buckets.getD br.idx []).length / 8)) ∧
      NoMarks (blockOf (h.buckets.getD br.idx []) br.pos) ∧
      (blockOf (h.buckets.getD br.idx []) br.pos).length = 8 := by
  have hl8 := (hw.chain_getD hb.2.1).len8.2
  have hlen : (blockOf (h.buckets.getD br.idx []) br.pos).length = bucketCnt := blockOf_length (by omega)
  have hov : ((h.buckets.getD br.idx []).length > (br.pos + 1) * bucketCnt) =
      (br.pos + 1 < (h.buckets.getD br.idx []).length / 8) := propext (by simp only [bucketCnt]; omega)
  rw [bucketAt_gen hb.1, if_pos (beq_iff_eq.2 hlen)]
  simp only [hov, true_and]
  exact ⟨(block_cells hw _ _).1, hlen⟩

theorem walk_enter {o : Ops K} {h : HMap K V} (hw : WF o h) {it it1 : Iter K V} {bucket bucket1 i : Nat}
    (hp : PosOK h it bucket none i) (hend : ¬ (bucket == it.startBucket && it.wrapped) = true)
    (h1 : (if (bucket + 1 == 2 ^ it.B) = true then (0, { it with wrapped := true }) else (bucket + 1, it)) =
      (bucket1, it1)) :
    Silent h it it1 bucket bucket1 none (some { gen := it.gen, idx := bucket, pos := 0 }) i := by
  have hne : ¬ (bucket = it.startBucket ∧ it.wrapped = true) := by simpa [Bool.and_eq_true] using hend
  have hlen8 := (hw.chain_getD hp.bkt).len8.one_le
  have h2B : 2 ^ it.B = h.buckets.size := by rw [hp.B, hw.size]
  have hstep := restChains_step h.buckets.toList (start := it.startBucket) (wrapped := it.wrapped)
    (Array.length_toList ▸ hp.start) (Array.length_toList ▸ hp.bkt) hp.wr hne
  simp only [Array.length_toList, Array.getElem_toList, Array.getElem_eq_getD []] at hstep
  have hbref : ∀ br, some ({ gen := it.gen, idx := bucket, pos := 0 } : BRef) = some br →
      br.gen = h.gen ∧ br.idx < h.buckets.size ∧ br.pos < (h.buckets.getD br.idx []).length / 8 := by
    rintro _ ⟨⟩; exact ⟨hp.gen, hp.bkt, hlen8⟩
  simp only [beq_iff_eq, h2B] at h1
  split at h1 <;> rename_i hc <;> cases h1
  · rw [if_pos hc] at hstep
    exact ⟨{ hp with bkt := Nat.zero_lt_of_lt hp.bkt, wr := fun _ => Nat.zero_le _, bref := hbref, i := Nat.zero_le _ },
      rfl, rfl, remOf_enter hstep hlen8, stepsOf_enter hstep⟩
  · rw [if_neg hc] at hstep
    exact ⟨{ hp with
        bkt := Nat.lt_of_le_of_ne hp.bkt hc
        wr := fun hwr => Nat.lt_of_le_of_ne (hp.wr hwr) fun heq => hne ⟨heq, hwr⟩
        bref := hbref, i := Nat.zero_le _ },
      rfl, rfl, remOf_enter hstep hlen8, stepsOf_enter hstep⟩

theorem iterLoop_walk {o : Ops K} {h : HMap K V} (hw : WF o h) (hold : h.old = none) :
    ∀ (fuel : Nat) (it : Iter K V) (bucket : Nat) (b : Option BRef) (i : Nat),
      PosOK h it bucket b i → stepsOf h it.startBucket it.wrapped bucket b ≤ fuel →
      ∃ it', iterLoop o h fuel it bucket b i none = .ok it' ∧ WalkPost h it bucket b i it' := by
  intro fuel it bucket b i hp hs
  have hgrow := growing_of_old_none hold
  generalize hcb : (none : Option Nat) = cb
  fun_induction iterLoop o h fuel it bucket b i cb with
  | case1 => exact absurd hs (Nat.not_le.2 stepsOf_pos)
  | case2 fuel it bucket i cb hend =>
    simp only [Bool.and_eq_true, beq_iff_eq] at hend
    refine ⟨_, rfl, .inl ⟨rfl, ?_⟩⟩
    rw [hend.1, hend.2]
    exact remOf_end (Nat.le_of_lt hp.start)
  | case3 fuel it bucket i cb hend b' cb' hb' bucket' bucket1 it1 h1 ih =>
    simp only [hgrow, Bool.false_and, Bool.false_eq_true, if_false, Prod.mk.injEq] at hb'
    obtain ⟨rfl, rfl⟩ := hb'
    exact walk_silent (walk_enter hw hp hend h1) hs (ih · · rfl)
  | case4 fuel it bucket i cb br hba ih =>
    rw [(bucketAt_pos hw (hp.bref br rfl)).1] at hba
    cases hba
  | case5 fuel it bucket i cb br cells ovf hba ih =>
    subst hcb
    obtain ⟨hba', hN, hl⟩ := bucketAt_pos hw (hp.bref br rfl)
    rw [hba'] at hba
    cases hba
    rcases iterScan_byf (o := o) (h := h) (it := it) hN hl bucketCnt i hp.i (Nat.le_add_left ..) with
      ⟨k, v, i', hi', hsc, hby⟩ | ⟨hsc, hby⟩
    · simp only [hsc, bind, Except.bind, pure, Except.pure]
      refine ⟨_, rfl, Or.inr ⟨k, v, rfl, rfl, rfl, rfl, rfl, { hp with i := hi' }, ?_⟩⟩
      rw [remOf_cells, hby, remOf_cells (i := i')]
      rfl
    · simp only [hsc, bind, Except.bind]
      exact walk_silent (walk_block_end hp hby) hs (ih · · rfl)

theorem mapiternext_walk {o : Ops K} {h : HMap K V} (hw : WF o h) (hold : h.old = none) {it : Iter K V}
    (hp : PosOK h it it.bucket it.bptr it.i) (hcb : it.checkBucket = none) :
    ∃ it', mapiternext o h it = .ok it' ∧ WalkPost h it it.bucket it.bptr it.i it' := by
  unfold mapiternext
  rw [hcb]
  exact iterLoop_walk hw hold (h.iterFuel it) it it.bucket it.bptr it.i hp (iterFuel_ge hp)

theorem drainIter_spec {o : Ops K} {h : HMap K V} (hw : WF o h) (hold : h.old = none) :
    ∀ (n : Nat) (it : Iter K V), PosOK h it it.bucket it.bptr it.i → it.checkBucket = none →
      (remOf h it.offset it.startBucket it.wrapped it.bucket it.bptr it.i).length < n →
      drainIter o h n it = .ok (remOf h it.offset it.startBucket it.wrapped it.bucket it.bptr it.i) := by
  intro n
  induction n with
  | zero => intro it _ _ hl; omega
  | succ n ih =>
    intro it hp hcb hl
    obtain ⟨it', hrun, hres⟩ := mapiternext_walk hw hold hp hcb
    simp only [drainIter, hrun]
    rcases hres with ⟨hk, hr⟩ | ⟨k, v, hk, hv, hcb', hsb, hof, hp', hr⟩
    · simp only [hk]
      rw [hr]
    · simp only [hk, hv]
      rw [hr] at hl ⊢
      have := ih it' hp' hcb' (by rw [hof, hsb]; simpa using hl)
      rw [hof, hsb] at this
      rw [this]

theorem remOf_start_perm {o : Ops K} {h : HMap K V} (hw : WF o h) (hold : h.old = none) {r start : Nat}
    (hr : r < 8) : (remOf h r start false start none 0).Perm (abs h) := by
  rw [remOf_none, restChains, if_neg Bool.false_ne_true]
  have h1 : ((h.buckets.toList.drop start ++ h.buckets.toList.take start).flatMap (chainYield r)).Perm
      ((h.buckets.toList.drop start ++ h.buckets.toList.take start).flatMap chainAbs) := by
    apply flatMap_perm
    intro c hc
    have hmem : c ∈ h.buckets.toList := by
      rcases List.mem_append.1 hc with hc | hc
      · exact List.mem_of_mem_drop hc
      · exact List.mem_of_mem_take hc
    obtain ⟨i, hi, rfl⟩ := List.getElem_of_mem hmem
    have hi' : i < h.buckets.size := by simpa using hi
    have := (hw.chain hi').len8.2
    exact chainYield_perm hr (by simpa using this)
  refine h1.trans ?_
  rw [List.flatMap_append]
  refine List.perm_append_comm.trans ?_
  rw [← List.flatMap_append, List.take_append_drop, flatMap_chainAbs]
  rw [abs_of_old_none hold, cellsOf]

theorem iterAll_eq {o : Ops K} {h : HMap K V} (hw : WF o h) (hold : h.old = none) {n : Nat} (hn : h.count < n)
    (hc : h.count ≠ 0) : ∃ s f, f < 8 ∧ iterAll o h n = .ok (remOf h f s false s none 0) := by
  obtain ⟨h2, s, f, hs2, hs, hf, e⟩ := mapiterinit_eq o hc
  have hw2 := wf_same hw hs2
  have hold2 : h2.old = none := hs2.old.trans hold
  have hsz : s < h2.buckets.size := by rw [hw2.size]; exact hs
  refine ⟨s, f, hf, ?_⟩
  rw [show remOf h f s false s none 0 = remOf h2 f s false s none 0 by simp only [remOf, hs2.buckets]]
  have hd : iterAll o h n =
      drainIter o h2 (n + 1) { active := true, B := h2.B, gen := h2.gen, startBucket := s, offset := f, bucket := s } := by
    unfold iterAll
    rw [e, drainIter]
    cases mapiternext o h2 { active := true, B := h2.B, gen := h2.gen, startBucket := s, offset := f, bucket := s } with
    | error _ => rfl
    | ok _ => simp only [bind, Except.bind, pure, Except.pure]
  rw [hd]
  refine drainIter_spec hw2 hold2 (n + 1) _ ⟨rfl, rfl, hsz, hf, hsz, nofun, nofun, Nat.zero_le _⟩ rfl ?_
  have := (remOf_start_perm hw2 hold2 (start := s) hf).length_eq
  rw [← hw2.count, hs2.count] at this
  dsimp only
  omega

theorem iterAll_spec {o : Ops K} {h : HMap K V} (hi : Inv o h) (hold : h.old = none) {n : Nat} (hn : h.count < n) :
    ∃ ys, iterAll o h n = .ok ys ∧ ys.Perm (abs h) := by
  by_cases hc : h.count = 0
  · refine ⟨[], by simp [iterAll, mapiterinit, hc, pure, Except.pure], ?_⟩
    rw [abs_nil_of_count hi hc]
  · have hw := hi.wf_of_count_ne hc
    obtain ⟨s, f, hf, e⟩ := iterAll_eq hw hold hn hc
    exact ⟨_, e, remOf_start_perm hw hold hf⟩

end LlgoVerif.HMap
