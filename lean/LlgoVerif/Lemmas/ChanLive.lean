import LlgoVerif.Lemmas.ChanThreads
/-! Liveness-side invariant for C10, for every program (select included) and both variants: a thread asleep at one of the
    five wait points (the six `Cond.Wait` loops of `z_chan.go`, both second phases at `recv2Wait`; not `selectOp.wait`) still
    has the guard of its loop true, unless a `Broadcast` on that channel is pending (`WaitInv`, `parked_waitCond`). -/
namespace LlgoVerif.Chan

def Point.isSendU : Point → Bool
  | .sendWaitU .. => true
  | _ => false

theorem waitCondU_trivial (p : Point) (ch : Chan) (h1 : p.isSendU = false) (h2 : ∀ c sl, p ≠ .recvWaitU c sl) :
    waitCondU p ch := by
  cases p <;> simp_all [waitCondU, Point.isSendU]

theorem waitCond_sendWaitU {c : Cid} {v : Val} {ch : Chan} :
    waitCond (.sendWaitU c v) ch ↔ ch.cap = 0 ∧ ch.getp ≠ hasRecv ∧ ch.closed = false := Iff.rfl

theorem waitCond_recvWaitU {c : Cid} {sl : Nat} {ch : Chan} :
    waitCond (.recvWaitU c sl) ch ↔ ch.cap = 0 ∧ ch.getp = hasRecv ∧ ch.closed = false := Iff.rfl

theorem waitCond_recv2Wait {c : Cid} {b : Bool} {seq : Nat} {ch : Chan} :
    waitCond (.recv2Wait c b seq) ch ↔ (if ch.fixed then ch.recvseq = seq else ch.getp = hasRecv) ∧ ch.closed = false := Iff.rfl

theorem waitCond_of_not_wait (p : Point) (ch : Chan) (h : p.isWait = false) : waitCond p ch := by
  cases p <;> first | trivial | cases h

theorem waitCond_congr (p : Point) {ch ch' : Chan} (hs : SameW ch ch' ∧ ch'.getp = ch.getp) (h : waitCond p ch) :
    waitCond p ch' := by
  obtain ⟨⟨h1, h2, h3, h4, h5⟩, hg⟩ := hs
  cases p <;> simp_all [waitCond, waitCondU]

theorem body_sleep_quiet (p q : Point) (t : Tid) (ch : Chan) (h : (body p t ch).out.after = some (.wait q)) :
    ∀ n, (body p t ch).out ≠ .notify (.finish true n) := by
  intro n hn
  rw [hn] at h; cases h

theorem AtStep.quiet {s s' : State} {t : Tid} {p : Point} (st : AtStep s s' t p)
    (hq : ∀ n, (body p t (s.chan p.chan)).out ≠ .notify (.finish true n)) (q : Point) (hg : waitCond q (s.chan p.chan)) :
    waitCond q (s'.chan p.chan) :=
  chan_after_body (P := waitCond q) st.chans (waitCond_congr q ((body_frame p t (s.chan p.chan)).quiet hq)) hg

/-- a `Broadcast` on channel `c` is pending: some thread is inside `notifyOps(c)` on its way to `Unlock; Broadcast` -/
def Busy (s : State) (c : Cid) : Prop :=
  ∃ t0 rest n, (s.thread t0).pc = .notify c rest (.finish true n)

structure WaitInv (s : State) : Prop where
  cond : ∀ t p, (s.thread t).pc = .at p → (s.thread t).waiting = true → p.chan < s.owner.length →
    waitCond p (s.chan p.chan) ∨ Busy s p.chan
  nwait : ∀ t c rest q, (s.thread t).pc = .notify c rest (.wait q) →
    q.chan = c ∧ (c < s.owner.length → waitCond q (s.chan c))

theorem not_busy_of_free {s : State} {c : Cid} (hm : MutexInv s) (hc : c < s.owner.length) (hf : s.own c = none) :
    ¬ Busy s c := by
  rintro ⟨t0, rest, n, hb⟩
  have := hm t0 c (by rw [hb]; simp [PC.inCS]) hc
  rw [hf] at this
  cases this

theorem Busy.keep {s s' : State} {c : Cid}
    (hpcs : ∀ t0 rest n, (s.thread t0).pc = .notify c rest (.finish true n) → (s'.thread t0).pc = (s.thread t0).pc) :
    Busy s c → Busy s' c :=
  fun ⟨t0, rest, n, hb⟩ => ⟨t0, rest, n, (hpcs t0 rest n hb).trans hb⟩

theorem WaitInv.of_wait {s : State}
    (hc : ∀ t p, (s.thread t).pc = .at p → (s.thread t).waiting = true → p.chan < s.owner.length → p.isWait = true →
      waitCond p (s.chan p.chan) ∨ Busy s p.chan)
    (hn : ∀ t c rest q, (s.thread t).pc = .notify c rest (.wait q) →
      q.chan = c ∧ (c < s.owner.length → waitCond q (s.chan c))) : WaitInv s :=
  ⟨fun t p h1 h2 h3 => by
    cases hB : p.isWait with
    | false => exact Or.inl (waitCond_of_not_wait _ _ hB)
    | true => exact hc t p h1 h2 h3 hB, hn⟩

/-- Only a critical section ending in `Unlock; Broadcast` changes what a guard reads (`Frame.quiet`). Until that `Broadcast`
    runs its thread is in `notifyOps` (the channel is `Busy`); when it runs, the sleepers are woken. -/
theorem exec_guard {s : State} {t : Tid} (hr : runnable s t = true) (c : Cid) (q : Point)
    (h : waitCond q (s.chan c) ∨ Busy s c) :
    (waitCond q ((exec s t).chan c) ∨ Busy (exec s t) c) ∨ WokenAll (exec s t) t c := by
  have pending : ∀ {n}, Tail (exec s t) t c (some (.finish true n)) → Busy (exec s t) c ∨ WokenAll (exec s t) t c :=
    fun tl => tl.next.imp (fun ⟨l, _, hk, hl⟩ => ⟨t, l, _, Option.some.inj hk ▸ hl⟩) (fun hwk => hwk.2 _ rfl)
  rcases exec_cases hr with ⟨p0, hpc, st⟩ | ⟨c0, rest0, k0, hpc, st⟩ | ⟨h2, st⟩
  · have hb : Busy s c → Busy (exec s t) c :=
      Busy.keep fun t0 _ _ hb => st.eff.pcs t0 (by rintro rfl; rw [hpc] at hb; cases hb)
    by_cases hc : c = p0.chan
    · subst hc
      by_cases hq : ∃ n, (body p0 t (s.chan p0.chan)).out = .notify (.finish true n)
      · obtain ⟨n, hn⟩ := hq
        have tl := st.tail
        rw [hn] at tl
        exact (pending tl).imp_left Or.inr
      · exact Or.inl (h.imp (st.quiet (fun n hn => hq ⟨n, hn⟩) q) hb)
    · rw [chan_set_ne st.chans hc]; exact Or.inl (h.imp_right hb)
  · rw [chan_congr st.chans]
    rcases h with hg | ⟨t0, rest, n, hb⟩
    · exact Or.inl (Or.inl hg)
    · by_cases h0 : t0 = t
      · rw [h0, hpc] at hb
        cases hb
        exact (pending st.tail).imp_left Or.inr
      · exact Or.inl (Or.inr ⟨t0, rest, n, by rw [st.eff.pcs t0 h0]; exact hb⟩)
  · rw [chan_congr st.chans]
    exact Or.inl (h.imp_right (Busy.keep fun t0 _ _ hb => (st.eff c).pcs t0 (by rintro rfl; exact h2 _ _ _ hb)))

/-- the thread stands at the `Wait` of `q` on `c`, or will when `notifyOps` is over -/
def Parks (th : Thread) (q : Point) (c : Cid) : Prop :=
  (th.pc = .at q ∧ q.isWait = true ∧ q.chan = c) ∨ ∃ rest, th.pc = .notify c rest (.wait q)

theorem Tail.parks {s' : State} {t : Tid} {c0 c : Cid} {k : Option After} {q : Point} (tl : Tail s' t c0 k)
    (hq : Parks (s'.thread t) q c) : k = some (.wait q) ∧ (q.chan = c0 → c = c0) := by
  rcases hq with ⟨hp, hw, hc⟩ | ⟨rest, hk⟩
  · rcases tl.next with ⟨l, _, _, hl⟩ | ⟨hs, _⟩
    · rw [hl] at hp; cases hp
    · exact ⟨hs q hp hw, fun e => hc ▸ e⟩
  · exact ⟨tl.nk c rest _ hk, fun _ => tl.cs c (by rw [hk]; simp [PC.inCS])⟩

theorem not_parks_of_outside {th : Thread} (ho : th.pc.outside = true) (q : Point) (c : Cid) : ¬ Parks th q c := by
  rintro (⟨hp, hw, _⟩ | ⟨rest, hk⟩)
  · rw [hp] at ho; rw [PC.outside_notWait ho] at hw; cases hw
  · rw [hk] at ho; cases ho

/-- the acting thread parks, at once or when `notifyOps` is over, only where its loop guard has just been found true
    (`body_sleep`); through `notifyOps` the guard is kept for that moment (`nwait`) -/
theorem exec_parks {s : State} {t : Tid} (h : WaitInv s) (hr : runnable s t = true) (q : Point) (c : Cid)
    (hq : Parks ((exec s t).thread t) q c) : q.chan = c ∧ (c < s.owner.length → waitCond q ((exec s t).chan c)) := by
  rcases exec_cases hr with ⟨p0, _, st⟩ | ⟨c0, rest0, k0, hpc, st⟩ | ⟨_, st⟩
  · obtain ⟨hk, hcc⟩ := st.tail.parks hq
    have hqc := Point.chan_eq_of_lock (body_sleep p0 q t _ hk).1
    rw [hcc hqc]
    exact ⟨hqc, fun _ => st.quiet (body_sleep_quiet p0 q t _ hk) q (body_sleep p0 q t _ hk).2⟩
  · obtain ⟨hk, hcc⟩ := st.tail.parks hq
    cases hk
    obtain ⟨hqc, hg⟩ := h.nwait t c0 rest0 q hpc
    rw [hcc hqc, chan_congr st.chans]
    exact ⟨hqc, hg⟩
  · exact absurd hq (not_parks_of_outside st.outside q c)

theorem exec_waitInv {s : State} {t : Tid} (h : WaitInv s) (hm : MutexInv s) (hr : runnable s t = true) :
    WaitInv (exec s t) := by
  obtain ⟨_, e⟩ := exec_eff hr
  refine WaitInv.of_wait (fun t' p hpc' hw' hlen hpw => ?_) (fun t1 c rest q hk => ?_)
  · rw [e.olen] at hlen
    by_cases htt : t' = t
    · rw [htt] at hpc'
      exact Or.inl ((exec_parks h hr p p.chan (Or.inl ⟨hpc', hpw, rfl⟩)).2 hlen)
    · have hpc_s : (s.thread t').pc = .at p := by rw [← e.pcs t' htt]; exact hpc'
      rcases exec_guard hr p.chan p (h.cond t' p hpc_s (e.wts t' htt hw') hlen) with g | hwk
      · exact g
      · rw [hwk t' p htt hpc' hpw rfl] at hw'; cases hw'
  · rw [e.olen]
    by_cases htt : t1 = t
    · rw [htt] at hk
      exact exec_parks h hr q c (Or.inr ⟨rest, hk⟩)
    · -- another thread on its way through `notifyOps` to `Wait` holds the mutex
      rw [e.pcs t1 htt] at hk
      obtain ⟨hqc, hg⟩ := h.nwait t1 c rest q hk
      refine ⟨hqc, fun hlen => ?_⟩
      rw [(exec_locked hm hr hlen (hm t1 c (by rw [hk]; simp [PC.inCS]) hlen) htt).1]
      exact hg hlen

theorem init_waitInv (cfg : Cfg) (caps : List Nat) (progs : List (List Op)) : WaitInv (init cfg caps progs) := by
  constructor
  · intro t p h
    rcases init_thread_pc cfg caps progs t with e | e <;> rw [e] at h <;> cases h
  · intro t c rest q h
    rcases init_thread_pc cfg caps progs t with e | e <;> rw [e] at h <;> cases h

theorem wake_waitInv {s : State} (h : WaitInv s) (t : Tid) :
    WaitInv (s.setThread t { s.thread t with waiting := false }) := by
  constructor
  · intro t' p hp hwt hlen
    rw [(wake_sameBut s t t').pc] at hp
    exact (h.cond t' p hp (wake_waiting hwt) hlen).imp_right (Busy.keep fun t0 _ _ _ => (wake_sameBut s t t0).pc)
  · intro t1 c rest q hk
    rw [(wake_sameBut s t t1).pc] at hk
    exact h.nwait t1 c rest q hk

theorem reachable_waitInv {cfg : Cfg} {caps : List Nat} {progs : List (List Op)} {s : State}
    (h : Reachable (init cfg caps progs) s) : WaitInv s :=
  h.induct (init_waitInv cfg caps progs) (fun _ _ hr ih hrun => exec_waitInv ih (reachable_mutexInv hr) hrun)
    (fun _ t ih => wake_waitInv ih t)

theorem parked_waitCond {cfg : Cfg} {caps : List Nat} {progs : List (List Op)} {s : State}
    (h : Reachable (init cfg caps progs) s) (t : Tid) (p : Point) (hpc : (s.thread t).pc = .at p)
    (hw : (s.thread t).waiting = true) (hc : p.chan < s.owner.length) (hfree : s.own p.chan = none) :
    waitCond p (s.chan p.chan) :=
  ((reachable_waitInv h).cond t p hpc hw hc).resolve_right (not_busy_of_free (reachable_mutexInv h) hc hfree)

end LlgoVerif.Chan
