import LlgoVerif.Lemmas.ChanThreads
/-! Programs without select (`noSelect progs`): no `selectOp` is ever registered, so `notifyOps` is empty, no mutex is held
    across a scheduling point, and a step that changes a channel broadcasts in the same step (`PlainInv`, `plain_exec`). -/
namespace LlgoVerif.Chan

def Op.plain : Op → Bool
  | .select .. => false
  | _ => true

def noSelect (progs : List (List Op)) : Bool := progs.all fun ops => ops.all Op.plain

/-- scheduling points of the plain operations (receive variable 0, second phase of `ChanRecv` not `chanTryRecv`) -/
def Point.plain : Point → Bool
  | .sendLock .. | .sendWaitU .. | .sendWaitB .. | .closeLock .. => true
  | .recvLock _ sl | .recvWaitU _ sl | .recvWaitB _ sl => sl == 0
  | .recv2Lock _ b _ | .recv2Wait _ b _ => !b
  | _ => false

def PC.plain : PC → Bool
  | .start | .done => true
  | .at p => p.plain
  | _ => false

structure PlainTh (th : Thread) : Prop where
  sel : th.sel = none
  ops : th.ops.all Op.plain = true
  pc : th.pc.plain = true

/-- entry pcs: what `startOps` produces for plain programs -/
def PC.entry : PC → Bool
  | .done => true
  | .at (.sendLock ..) | .at (.closeLock ..) => true
  | .at (.recvLock _ sl) => sl == 0
  | _ => false

theorem entry_plain {pc : PC} (h : pc.entry = true) : pc.plain = true := by
  cases pc with
  | «at» p => cases p <;> simp_all [PC.entry, PC.plain, Point.plain]
  | _ => simp_all [PC.entry, PC.plain]

structure Entered (th : Thread) (res : List Res) : Prop where
  res : th.res = res
  pc : th.pc.entry = true
  sel : th.sel = none
  ops : th.ops.all Op.plain = true
  rv : ∀ q, th.pc = .at q → th.rv = [0]

theorem startOps_plain (th : Thread) (ops : List Op) (h : ops.all Op.plain = true) : Entered (startOps th ops) th.res := by
  cases ops with
  | nil => exact ⟨rfl, rfl, rfl, rfl, fun _ e => nomatch e⟩
  | cons op rest =>
    simp only [List.all_cons, Bool.and_eq_true] at h
    cases op with
    | send c v => exact ⟨rfl, rfl, rfl, h.2, fun _ _ => rfl⟩
    | recv c => exact ⟨rfl, rfl, rfl, h.2, fun _ _ => rfl⟩
    | close c => exact ⟨rfl, rfl, rfl, h.2, fun _ _ => rfl⟩
    | select cases b => exact nomatch h.1

theorem finishOp_plain (th : Thread) (r : Res) (h : th.ops.all Op.plain = true) : Entered (finishOp th r) (th.res ++ [r]) :=
  startOps_plain _ _ h

def resOf (th : Thread) : Ret → Res
  | .sent c v => .sent c v
  | .closed => .closed
  | .recv c ok => .recv c (th.rv.getD 0 0) ok
  | _ => .panic

theorem onRet_plain (th : Thread) (r : Ret) (hs : th.sel = none) (h : th.ops.all Op.plain = true) :
    Entered (onRet th r) (th.res ++ [resOf th r]) := by
  unfold onRet
  rw [hs]
  cases r <;> exact finishOp_plain _ _ h

theorem Entered.plainTh {th : Thread} {res : List Res} (e : Entered th res) : PlainTh th :=
  ⟨e.sel, e.ops, entry_plain e.pc⟩

theorem entry_not_recv2 {pc : PC} (h : pc.entry = true) (c : Cid) (b : Bool) (seq : Nat) :
    pc ≠ .at (.recv2Lock c b seq) ∧ pc ≠ .at (.recv2Wait c b seq) := by
  constructor <;> (intro e; rw [e] at h; simp [PC.entry] at h)

theorem body_sops (p : Point) (t : Tid) (ch : Chan) (hp : p.plain = true) : (body p t ch).ch.sops = ch.sops := by
  have hs := body_crit p t ch
  generalize body p t ch = r at hs
  cases hs with
  | prepSend | prep | endSend | endSel => cases hp
  | sendHandOff | trySendHandOff => simp only [Chan.handOff_eq]
  | _ => rfl

structure Moved (th th' : Thread) (rv1 : List Val) (pc : PC) : Prop where
  pc : th'.pc = pc
  res : th'.res = th.res
  rv : th'.rv = rv1
  sel : th'.sel = th.sel
  ops : th'.ops = th.ops

theorem Moved.plainTh {th th' : Thread} {rv1 : List Val} {pc : PC} (m : Moved th th' rv1 pc) (h : PlainTh th)
    (hpc : pc.plain = true) : PlainTh th' :=
  ⟨by rw [m.sel]; exact h.sel, by rw [m.ops]; exact h.ops, by rw [m.pc]; exact hpc⟩

def SelfAfter (th th' : Thread) (c : Cid) (rv1 : List Val) : Option After → Prop
  | some (.wait q) => Moved th th' rv1 (.at q) ∧ th'.waiting = true
  | some (.finish _ (.ret r)) => Entered th' (th.res ++ [resOf { th with rv := rv1 } r])
  | some (.finish _ (.recv2 b seq)) => Moved th th' rv1 (.at (.recv2Lock c b seq))
  | none => th'.pc = .done ∧ th'.res = th.res ++ [.panic] ∧ th'.sel = none ∧ th'.ops = []

structure PlainStep (s s' : State) (t : Tid) (p : Point) : Prop where
  chans : s'.chans = s.chans.set p.chan (body p t (s.chan p.chan)).ch
  others : ∀ t', t' ≠ t → SameBut (s'.thread t')
    { s.thread t' with rv := rvAfter (body p t (s.chan p.chan)).deliver t' (s.thread t').rv }
  self : SelfAfter (s.thread t) (s'.thread t) p.chan
    (rvAfter (body p t (s.chan p.chan)).deliver t (s.thread t).rv) (body p t (s.chan p.chan)).out.after
  owns : ∀ c', c' ≠ p.chan → s'.own c' = s.own c'
  freed : s'.own p.chan = none

theorem PlainStep.free {s s' : State} {t : Tid} {p : Point} (st : PlainStep s s' t p) (h : ∀ c', s.own c' = none) (c' : Cid) :
    s'.own c' = none := by
  by_cases hc : c' = p.chan
  · rw [hc]; exact st.freed
  · rw [st.owns c' hc]; exact h c'

theorem plain_exec (s : State) (t : Tid) (p : Point) (ht : t < s.threads.length) (hpc : (s.thread t).pc = .at p)
    (hth : PlainTh (s.thread t)) (hpl : p.plain = true) (hsops0 : (s.chan p.chan).sops = []) :
    PlainStep s (exec s t) t p := by
  rw [exec_at_eq hpc]
  have e2 := eff_afterBody s t p
  have hl2 : t < (afterBody s t p).threads.length := by rw [e2.tlen]; exact ht
  have hch2 := afterBody_chans s t p
  have hth2 := afterBody_thread s t p
  have hsops2 : ((afterBody s t p).chan p.chan).sops = [] :=
    chan_after_body (P := fun ch => ch.sops = []) hch2 (by rw [body_sops p t _ hpl]; exact id) hsops0
  generalize afterBody s t p = s2 at e2 hl2 hch2 hth2 hsops2
  rw [leave_plain _ hsops2]
  have r := leaveDone_ran s2 t p.chan (body p t (s.chan p.chan)).out.after hl2
  obtain ⟨th0, h0, e⟩ := r.self
  rw [hth2] at h0
  refine
    { chans := by rw [r.chans, hch2]
      others := fun t' hne => by have := r.others t' hne; rwa [hth2] at this
      self := ?_
      owns := (e2.trans r.eff).owns
      freed := r.free }
  rw [e]
  generalize (body p t (s.chan p.chan)).out.after = k
  match k with
  | none => exact ⟨rfl, congrArg (· ++ [Res.panic]) h0.res, rfl, rfl⟩
  | some (.wait q) => exact ⟨⟨rfl, h0.res, h0.rv, h0.sel, h0.ops⟩, rfl⟩
  | some (.finish _ (.recv2 b seq)) => exact ⟨rfl, h0.res, h0.rv, h0.sel, h0.ops⟩
  | some (.finish _ (.ret ret)) =>
    have en := onRet_plain th0 ret (by rw [h0.sel]; exact hth.sel) (by rw [h0.ops]; exact hth.ops)
    refine ⟨en.res.trans ?_, en.pc, en.sel, en.ops, en.rv⟩
    rw [h0.res]
    congr 2
    cases ret <;> simp [resOf, h0.rv]

def Point.secondPhase2 : Point → Option Nat
  | .recv2Lock _ _ seq | .recv2Wait _ _ seq => some seq
  | _ => none

theorem Point.lock_plain (p : Point) : p.lock.plain = p.plain := by
  cases p <;> rfl

theorem Point.secondPhase2_of_lock {p p' : Point} (h : p.lock = p') : p.secondPhase2 = p'.secondPhase2 := by
  subst h; cases p <;> rfl

theorem Point.plain_recv {p : Point} {c : Cid} {sl : Nat} (hpl : p.plain = true) (hp : p.lock = .recvLock c sl) :
    sl = 0 := by
  rw [← p.lock_plain, hp] at hpl
  exact eq_of_beq hpl

theorem Point.plain_recv2 {p : Point} {c : Cid} {b : Bool} {seq : Nat} (hpl : p.plain = true)
    (hp : p.lock = .recv2Lock c b seq) : b = false := by
  rw [← p.lock_plain, hp] at hpl
  simpa [Point.plain] using hpl

theorem body_plain_wait (p q : Point) (t : Tid) (ch : Chan) (hp : p.plain = true)
    (h : (body p t ch).out.after = some (.wait q)) : q.plain = true := by
  rw [← q.lock_plain, (body_sleep p q t ch h).1, p.lock_plain]; exact hp

structure Arming (t : Tid) (ch : Chan) (r : BodyRes) (b : Bool) (seq : Nat) : Prop where
  notTry : b = false
  seq : seq = ch.recvseq
  cap : r.ch.cap = 0
  getp : r.ch.getp = hasRecv
  slot : r.ch.slot = some ⟨t, 0⟩
  recvseq : r.ch.recvseq = ch.recvseq

theorem body_arm (p : Point) (t : Tid) (ch : Chan) (bc b : Bool) (seq : Nat) (hp : p.plain = true)
    (h : (body p t ch).out.after = some (.finish bc (.recv2 b seq))) : Arming t ch (body p t ch) b seq := by
  have hs := body_crit p t ch
  generalize body p t ch = r at hs h ⊢
  cases hs with
  | recvArm hl hcap =>
    cases h; cases Point.plain_recv hp hl
    exact ⟨rfl, rfl, hcap, rfl, rfl, rfl⟩
  | tryRecvArm => cases hp
  | _ => cases h

theorem Point.eq_of_lock_recv2 {p : Point} {c : Cid} {b : Bool} {seq : Nat} (h : p.lock = .recv2Lock c b seq) :
    p = .recv2Lock c b seq ∨ p = .recv2Wait c b seq := by
  cases p <;> cases h
  · exact Or.inl rfl
  · exact Or.inr rfl

theorem body_ret (p : Point) (t : Tid) (ch : Chan) (bc : Bool) (r : Ret) (hp : p.plain = true)
    (h : (body p t ch).out.after = some (.finish bc (.ret r))) :
    r = .closed ∨ (∃ v, r = .sent p.chan v) ∨ (∃ ok, r = .recv p.chan ok) := by
  have hs := body_crit p t ch
  generalize body p t ch = r' at hs h
  cases hs with
  | @sendHandOff _ c v _ hl | @sendPush _ c v _ hl =>
    cases h; exact Or.inr (Or.inl ⟨v, by rw [show c = p.chan from Point.chan_of_lock hl]⟩)
  | @recvClosed _ c _ hl | @recvPop _ c _ hl =>
    cases h; exact Or.inr (Or.inr ⟨_, by rw [show c = p.chan from Point.chan_of_lock hl]⟩)
  | @recv2Ret _ c b _ hl =>
    cases Point.plain_recv2 hp hl; cases h; exact Or.inr (Or.inr ⟨_, by rw [show c = p.chan from Point.chan_of_lock hl]; rfl⟩)
  | close => cases h; exact Or.inl rfl
  | trySendFail | trySendHandOff | trySendPush | tryRecvIdle | tryRecvDeclined | tryRecvArm | tryRecvPop | prepSend | prep
  | endSend | endSel => cases hp
  | _ => cases h

/-- the two shapes of the acting thread's record after its step at a plain point: moved to a plain point of the same channel with
    the results it had; or entered into its next operation with one more result, a panic or a result on the same channel -/
theorem SelfAfter.shape {th th' : Thread} {p : Point} {t : Tid} {ch : Chan} {rv1 : List Val} (hpl : p.plain = true)
    (h : SelfAfter th th' p.chan rv1 (body p t ch).out.after) :
    (∃ q, q.chan = p.chan ∧ q.plain = true ∧ Moved th th' rv1 (.at q)) ∨
    (∃ r, Entered th' (th.res ++ [r]) ∧
      (r = .panic ∨ r = .closed ∨ (∃ v, r = .sent p.chan v) ∨ ∃ v ok, r = .recv p.chan v ok)) := by
  cases hk : (body p t ch).out.after with
  | none =>
    rw [hk] at h
    obtain ⟨e1, e2, e3, e4⟩ := h
    exact Or.inr ⟨_, ⟨e2, by rw [e1]; rfl, e3, by rw [e4]; rfl, fun q hq => by rw [e1] at hq; cases hq⟩, Or.inl rfl⟩
  | some k =>
    rw [hk] at h
    match k, h, hk with
    | .wait q, ⟨m, _⟩, hk =>
      exact Or.inl ⟨q, Point.chan_eq_of_lock (body_sleep p q t _ hk).1, body_plain_wait p q t _ hpl hk, m⟩
    | .finish bc (.recv2 b seq), m, hk =>
      exact Or.inl ⟨.recv2Lock p.chan b seq, rfl, by rw [(body_arm p t _ bc b seq hpl hk).notTry]; rfl, m⟩
    | .finish bc (.ret r), en, hk =>
      refine Or.inr ⟨_, en, Or.inr ?_⟩
      rcases body_ret p t _ bc r hpl hk with rfl | ⟨v, rfl⟩ | ⟨ok, rfl⟩
      · exact Or.inl rfl
      · exact Or.inr (Or.inl ⟨v, rfl⟩)
      · exact Or.inr (Or.inr ⟨_, ok, rfl⟩)

/-- the twin of `Frame` for what the wait loops do not read: ghost histories, hand-off counter, receive variables -/
inductive Hist (t : Tid) (ch : Chan) (r : BodyRes) : Prop
  | same (hs : r.ch.sentBy = ch.sentBy) (hr : r.ch.recvBy = ch.recvBy) (hq : r.ch.recvseq = ch.recvseq)
      (hd : r.deliver = none)
  | push (v : Val) (hs : r.ch.sentBy = ch.sentBy ++ [(t, v)]) (hr : r.ch.recvBy = ch.recvBy)
      (hq : r.ch.recvseq = ch.recvseq) (hd : r.deliver = none)
  | pop (hs : r.ch.sentBy = ch.sentBy) (hr : r.ch.recvBy = ch.recvBy ++ [(t, ch.front)])
      (hq : r.ch.recvseq = ch.recvseq) (hd : r.deliver = some (⟨t, 0⟩, ch.front))
  | hand (v : Val) (hcap : ch.cap = 0) (hg : ch.getp = hasRecv) (hcl : ch.closed = false)
      (hs : r.ch.sentBy = ch.sentBy ++ [(t, v)])
      (hr : r.ch.recvBy = ch.recvBy ++ (ch.slot.map fun tg => (tg.tid, v)).toList) (hq : r.ch.recvseq = ch.bump)
      (hd : r.deliver = ch.slot.map fun tg => (tg, v))

theorem body_hist (p : Point) (t : Tid) (ch : Chan) (hpl : p.plain = true) : Hist t ch (body p t ch) := by
  have hs := body_crit p t ch
  generalize body p t ch = r at hs
  cases hs with
  | sendHandOff _ _ hcap hg hcl => simp only [Chan.handOff_eq]; exact .hand _ hcap hg hcl rfl rfl rfl rfl
  | sendPush => exact .push _ rfl rfl rfl rfl
  | recvPop hl => cases Point.plain_recv hpl hl; exact .pop rfl rfl rfl rfl
  | trySendFail | trySendHandOff | trySendPush | tryRecvIdle | tryRecvDeclined | tryRecvArm | tryRecvPop | prepSend | prep
  | endSend | endSel => cases hpl
  | _ => exact .same rfl rfl rfl rfl

structure PlainInv (s : State) : Prop where
  th : ∀ t, PlainTh (s.thread t)
  sops : ∀ c, (s.chan c).sops = []
  free : ∀ c, s.own c = none

theorem PlainInv.setThread {s : State} (h : PlainInv s) (t : Tid) {th : Thread} (hth : PlainTh th) :
    PlainInv (s.setThread t th) := by
  refine ⟨fun t' => ?_, h.sops, h.free⟩
  rcases thread_setThread_cases s t t' th with ⟨_, e⟩ | e <;> rw [e]
  · exact hth
  · exact h.th t'

theorem exec_start (s : State) (t : Tid) (hpc : (s.thread t).pc = .start) :
    exec s t = s.setThread t (startOps (s.thread t) (s.thread t).ops) := by
  unfold exec
  simp only [hpc]

/-- the two kinds of step of a select-free program: the first step of a thread touches no channel and ends at an entry pc -/
theorem plain_cases {s : State} {t : Tid} (h : PlainInv s) (hr : runnable s t = true) :
    (∃ th, (s.thread t).pc = .start ∧ exec s t = s.setThread t th ∧ Entered th (s.thread t).res) ∨
    (∃ p, (s.thread t).pc = .at p ∧ p.plain = true ∧ PlainStep s (exec s t) t p) := by
  have hp := (h.th t).pc
  cases hpc : (s.thread t).pc with
  | start =>
    exact Or.inl ⟨_, rfl, exec_start s t hpc, startOps_plain (s.thread t) (s.thread t).ops (h.th t).ops⟩
  | done => exact absurd hpc (runnable_pc hr).1
  | «at» p =>
    rw [hpc] at hp
    exact Or.inr ⟨p, rfl, hp, plain_exec s t p (runnable_lt hr) hpc (h.th t) hp (h.sops _)⟩
  | notify c r k => rw [hpc] at hp; cases hp
  | selLock => rw [hpc] at hp; cases hp
  | selWait => rw [hpc] at hp; cases hp

theorem exec_plainInv {s : State} {t : Tid} (h : PlainInv s) (hr : runnable s t = true) : PlainInv (exec s t) := by
  rcases plain_cases h hr with ⟨_, _, e, en⟩ | ⟨p, _, hpl, st⟩
  · rw [e]; exact h.setThread t en.plainTh
  · refine ⟨fun t' => ?_, fun c => ?_, st.free h.free⟩
    · by_cases htt : t' = t
      · rw [htt]
        rcases st.self.shape hpl with ⟨q, _, hq, m⟩ | ⟨_, en, _⟩
        · exact m.plainTh (h.th t) hq
        · exact en.plainTh
      · have := st.others t' htt
        exact ⟨by rw [this.sel]; exact (h.th t').sel, by rw [this.ops]; exact (h.th t').ops,
          by rw [this.pc]; exact (h.th t').pc⟩
    · exact chan_after_body (P := fun ch => ch.sops = []) st.chans (by rw [body_sops p t _ hpl]; exact id) (h.sops c)

theorem init_plainInv (cfg : Cfg) (caps : List Nat) (progs : List (List Op)) (hns : noSelect progs = true) :
    PlainInv (init cfg caps progs) := by
  refine ⟨fun t => ?_, fun c => ?_, init_own cfg caps progs⟩
  · rcases init_thread cfg caps progs t with ⟨ops, hm, e⟩ | e <;> rw [e]
    · exact ⟨rfl, List.all_eq_true.mp hns ops hm, rfl⟩
    · exact ⟨rfl, rfl, rfl⟩
  · obtain ⟨cfg', cap, e, _⟩ := init_chan cfg caps progs c
    rw [e]; rfl

theorem wake_plainInv {s : State} (h : PlainInv s) (t : Tid) :
    PlainInv (s.setThread t { s.thread t with waiting := false }) :=
  h.setThread t ⟨(h.th t).sel, (h.th t).ops, (h.th t).pc⟩

theorem reachable_plainInv {cfg : Cfg} {caps : List Nat} {progs : List (List Op)} {s : State}
    (hns : noSelect progs = true) (h : Reachable (init cfg caps progs) s) : PlainInv s :=
  h.induct (init_plainInv cfg caps progs hns) (fun _ _ _ ih hr => exec_plainInv ih hr) (fun _ t ih => wake_plainInv ih t)

end LlgoVerif.Chan
