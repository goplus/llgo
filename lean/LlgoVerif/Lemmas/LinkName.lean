import LlgoVerif.Lemmas.LinkNameTypeArgs
/-!
# Lemmas for C14: link names of covered entities are injective

A covered entity has a normal form `Flat` (the data its name is made of); its name, in whichever package it is referred
to, is the rendering of the normal form; the rendering is injective, and so is the normal form up to `declClash`.
-/
namespace LlgoVerif.LinkName

/-- the data a function-like entity's name is made of: declaring package, receiver, declared name, closure indices
    (outermost first), go/ssa type arguments -/
structure Flat where
  pkg : Str
  recv : Option Recv
  base : Str
  nest : List Nat
  targs : Option Tys

attribute [ext] Recv Flat

abbrev nestStr : List Nat → Str := numsStr '$'

/-- type-argument suffix: every instance except the method itself -/
def Flat.sfx (f : Flat) : Str :=
  match f.targs with
  | some ta => if f.nest.isEmpty && f.recv.isSome then [] else typeArgs ta
  | none => []

def Flat.rest (f : Flat) : Str := recvStr f.recv ++ (f.base ++ (nestStr f.nest ++ f.sfx))

def Flat.render (f : Flat) : Str := pathOf f.pkg ++ '.' :: f.rest

/-- the last arm (synthetic functions, stubs, routines: not covered) is a junk value -/
def Entity.flat : Entity → Flat
  | .func p n => ⟨p, none, n, [], none⟩
  | .method p r ta ptr n => ⟨p, some ⟨p, r, ta, ptr⟩, n, [], if ta.isEmpty then none else some ta⟩
  | .closure q i => { q.flat with nest := q.flat.nest ++ [i] }
  | .instance b ta => { b.flat with targs := some ta }
  | .global p n => ⟨p, none, n, [], none⟩
  | _ => ⟨[], none, [], [], none⟩

def Entity.fnLike : Entity → Bool
  | .func .. | .method .. | .closure .. | .instance .. => true
  | _ => false

/-- `Entity.ok pp` as an inductive predicate, for `induction` over the covered entities only (`covered_of_ok`) -/
inductive Covered (pp : Str → Bool) : Entity → Prop
  | func (p n : Str) : pp p = true → identOK n = true → Covered pp (.func p n)
  | method (p r : Str) (ta : Tys) (ptr : Bool) (n : Str) : pp p = true → identOK r = true → ta.ok pp = true →
      identOK n = true → Covered pp (.method p r ta ptr n)
  | closure (q : Entity) (i : Nat) : q.fnLike = true → Covered pp q → Covered pp (.closure q i)
  | inst (p n : Str) (ta : Tys) : pp p = true → identOK n = true → ta.isEmpty = false → ta.ok pp = true →
      Covered pp (.instance (.func p n) ta)
  | global (p n : Str) : pp p = true → identOK n = true → Covered pp (.global p n)

/-- well-formedness of a normal form (what `Entity.ok` gives) -/
structure FlatOK (f : Flat) : Prop where
  path : pathOK f.pkg = true
  base : identOK f.base = true
  recv : ∀ r, f.recv = some r → identOK r.name = true ∧ r.targs.ok pathOK = true ∧ r.pkg = f.pkg ∧
    f.targs = (if r.targs.isEmpty then none else some r.targs)
  targs : ∀ ta, f.targs = some ta → ta.ok pathOK = true ∧ ta.isEmpty = false

/-- left inverse of `Entity.flat` on covered entities, except that a package-level variable is read back as a function -/
def Flat.toEntity (f : Flat) : Entity :=
  f.nest.foldl .closure (match f.recv, f.targs with
    | some r, _ => .method r.pkg r.name r.targs r.ptr f.base
    | none, some ta => .instance (.func f.pkg f.base) ta
    | none, none => .func f.pkg f.base)

theorem nestStr_append (l : List Nat) (i : Nat) : nestStr (l ++ [i]) = nestStr l ++ '$' :: natStr i := by
  induction l with
  | nil => simp [numsStr]
  | cons j l ih => simp [numsStr, ih]

theorem ok_closure_eq (pp : Str → Bool) (q : Entity) (i : Nat) :
    (Entity.closure q i).ok pp = (q.fnLike && q.ok pp) := rfl

theorem covered_of_ok {pp : Str → Bool} : ∀ e : Entity, e.ok pp = true → Covered pp e
  | .func p n, h => by
    simp only [Entity.ok, Bool.and_eq_true] at h
    exact .func p n h.1 h.2
  | .method p r ta ptr n, h => by
    simp only [Entity.ok, Bool.and_eq_true] at h
    exact .method p r ta ptr n h.1.1.1 h.1.1.2 h.1.2 h.2
  | .closure q i, h => by
    rw [ok_closure_eq, Bool.and_eq_true] at h
    exact .closure q i h.1 (covered_of_ok q h.2)
  | .instance b ta, h => by
    cases b with
    | func p n =>
      simp only [Entity.ok, Bool.and_eq_true, Bool.true_and, Bool.not_eq_true'] at h
      exact .inst p n ta h.1.1.1 h.1.1.2 h.1.2 h.2
    | _ => cases h
  | .global p n, h => by
    simp only [Entity.ok, Bool.and_eq_true] at h
    exact .global p n h.1 h.2
  | .bound _, h | .thunk _, h | .wrapper _, h | .stub _, h | .routine .., h => by cases h

theorem flat_facts {pp : Str → Bool} {e : Entity} (h : Covered pp e) :
    e.flat.pkg = e.pkg ∧ e.flat.recv = e.recv ∧ e.baseName = e.flat.base ++ nestStr e.flat.nest ∧
    e.instArgs = e.flat.targs ∧ e.isMethod = (e.flat.nest.isEmpty && e.flat.recv.isSome) := by
  induction h with
  | closure q i _ _ ih =>
    obtain ⟨a, b, c, d, _⟩ := ih
    simp [Entity.flat, Entity.pkg, Entity.recv, Entity.baseName, Entity.instArgs, Entity.isMethod, nestStr_append, a, b, c, d]
  | _ => simp [Entity.flat, Entity.pkg, Entity.recv, Entity.baseName, Entity.instArgs, Entity.isMethod, numsStr]

theorem linkNameIn_eq_render {pp : Str → Bool} {e : Entity} (cur : Str) (h : Covered pp e) :
    linkNameIn cur e = e.flat.render := by
  obtain ⟨hpkg, hrecv, hbase, hargs, hmeth⟩ := flat_facts h
  have : linkNameIn cur e = declName e.pkg e := by
    cases h <;> rfl
  rw [this]
  simp only [declName, funcNameStr_eq, Flat.render, Flat.rest, Flat.sfx, hpkg, hrecv, hbase, hargs, hmeth]
  cases e.flat.targs with
  | none => simp
  | some ta =>
    -- `declName` tested `isMethod`, `Flat.sfx` tests `nest.isEmpty && recv.isSome`: the same Bool after `hmeth`
    simp only []; split <;> simp

theorem flatOK_of_covered {e : Entity} (h : Covered pathOK e) : FlatOK e.flat := by
  induction h with
  | func p n hp hn => exact ⟨hp, hn, nofun, nofun⟩
  | global p n hp hn => exact ⟨hp, hn, nofun, nofun⟩
  | method p r ta ptr n hp hr hta hn =>
    refine ⟨hp, hn, ?_, ?_⟩
    · rintro _ ⟨⟩
      exact ⟨hr, hta, rfl, rfl⟩
    · intro ta' h'
      simp only [Entity.flat] at h'
      cases hne : ta.isEmpty <;> simp only [hne, if_true, if_false, Bool.false_eq_true] at h' <;> cases h'
      exact ⟨hta, hne⟩
  | closure q i _ _ ih => exact ⟨ih.path, ih.base, ih.recv, ih.targs⟩
  | inst p n ta hp hn hne hta =>
    refine ⟨hp, hn, nofun, ?_⟩
    rintro _ ⟨⟩
    exact ⟨hta, hne⟩

/-- empty without a receiver: no type arguments (with one it may be the method itself) -/
theorem sfx_form (f : Flat) :
    (f.sfx = [] ∧ (f.recv = none → f.targs = none)) ∨ ∃ ta, f.targs = some ta ∧ f.sfx = typeArgs ta := by
  unfold Flat.sfx
  cases f.targs with
  | none => exact Or.inl ⟨rfl, fun _ => rfl⟩
  | some ta =>
    simp only []
    split
    · rename_i h
      exact Or.inl ⟨rfl, fun hr => by simp [hr] at h⟩
    · exact Or.inr ⟨ta, rfl, rfl⟩

theorem sfx_headNot {p : Char → Bool} (hb : p '[' = false) (f : Flat) : HeadNot p f.sfx := by
  rcases sfx_form f with ⟨h, _⟩ | ⟨ta, _, h⟩ <;> rw [h]
  · exact headNot_nil
  · exact headNot_cons hb

theorem word_recv (r : Recv) (hn : identOK r.name = true) (B : Str) (hB : Word noSlash B) :
    Word noSlash (recvStr (some r) ++ B) := by
  rw [recvStr_some]
  cases r.ptr with
  | true => exact word_of_headNot (headNot_cons (by decide))
  | false =>
    simp only [Bool.false_eq_true, if_false, List.nil_append]
    exact word_append (word_ident hn) (word_targsPart _ (word_append (a := ['.']) (word_of_all (by decide)) hB))

theorem rest_word (f : Flat) (hf : FlatOK f) : Word noSlash f.rest := by
  have tail : Word noSlash (f.base ++ (nestStr f.nest ++ f.sfx)) :=
    word_append (word_ident hf.base) (word_append (word_nums rfl _) (word_of_headNot (sfx_headNot rfl f)))
  unfold Flat.rest
  cases hr : f.recv with
  | none => exact tail
  | some r => exact word_recv r (hf.recv r hr).1 _ tail

/-- what follows the declared name, recast as `targsPart ta ++ X` so that `ident_targs_split` can set it against a
    receiver's `Name[targs]`; `X` is empty or starts with `$` -/
theorem tail_cases (f : Flat) (hf : FlatOK f) : ∃ ta X, ta.ok pathOK = true ∧ nestStr f.nest ++ f.sfx = targsPart ta ++ X ∧
    ∀ {q : Char → Bool}, q '$' = false → HeadNot q X := by
  cases hn : f.nest with
  | cons i l => exact ⟨.nil, _, rfl, rfl, headNot_cons⟩
  | nil =>
    rcases sfx_form f with ⟨h, _⟩ | ⟨ta, ht, h⟩
    · exact ⟨.nil, [], rfl, by rw [h]; rfl, fun _ => headNot_nil⟩
    · exact ⟨ta, [], (hf.targs ta ht).1, by simp [h, numsStr, typeArgs, targsPart, (hf.targs ta ht).2], fun _ => headNot_nil⟩

/-- a declared name (no receiver) against a receiver: after identifier and type arguments one side ends or goes on with
    `$`, the other with the `.` that ends the receiver -/
theorem recv_none_some {f₁ : Flat} {r₂ : Recv} {B₂ : Str} (h₁ : FlatOK f₁)
    (hn : identOK r₂.name = true) (hta : r₂.targs.ok pathOK = true)
    (h : f₁.base ++ (nestStr f₁.nest ++ f₁.sfx) = recvStr (some r₂) ++ B₂) : False := by
  obtain ⟨ta, X, hok, e, hX⟩ := tail_cases f₁ h₁
  rw [e, recvStr_some] at h
  obtain ⟨ep, hb'⟩ := optPrefix_inj (c := '(') (f₁ := false) rfl rfl (ident_head h₁.base _) (ident_head hn _) h
  rw [← ep] at hb'
  exact headNot_ne (hX (q := (· == '.')) rfl) rfl _ (ident_targs_split h₁.base hn hok hta (hX rfl) (headNot_cons rfl) hb').2.2

theorem rest_recv {f₁ f₂ : Flat} (h₁ : FlatOK f₁) (h₂ : FlatOK f₂) (hp : f₁.pkg = f₂.pkg) (h : f₁.rest = f₂.rest) :
    f₁.recv = f₂.recv ∧ f₁.base ++ (nestStr f₁.nest ++ f₁.sfx) = f₂.base ++ (nestStr f₂.nest ++ f₂.sfx) := by
  unfold Flat.rest at h
  cases hr₁ : f₁.recv <;> cases hr₂ : f₂.recv <;> rw [hr₁, hr₂] at h
  · exact ⟨rfl, h⟩
  · exact (recv_none_some h₁ (h₂.recv _ hr₂).1 (h₂.recv _ hr₂).2.1 h).elim
  · exact (recv_none_some h₂ (h₁.recv _ hr₁).1 (h₁.recv _ hr₁).2.1 h.symm).elim
  · obtain ⟨a₁, b₁, p₁, _⟩ := h₁.recv _ hr₁
    obtain ⟨a₂, b₂, p₂, _⟩ := h₂.recv _ hr₂
    obtain ⟨en, et, ep, eB⟩ := recv_some_some a₁ b₁ a₂ b₂ h
    -- the string does not show the receiver's package: it is the entity's (`FlatOK.recv`)
    exact ⟨congrArg some (Recv.ext (p₁.trans (hp.trans p₂.symm)) en et ep), eB⟩

theorem targs_of_sfx {f₁ f₂ : Flat} (h₁ : FlatOK f₁) (h₂ : FlatOK f₂) (hr : f₁.recv = f₂.recv) (h : f₁.sfx = f₂.sfx) :
    f₁.targs = f₂.targs := by
  cases n₂ : f₂.recv with
  | some r =>
    -- with a receiver, its type arguments are the go/ssa type arguments (`FlatOK.recv`)
    rw [(h₁.recv r (hr.trans n₂)).2.2.2, (h₂.recv r n₂).2.2.2]
  | none =>
    rcases sfx_form f₁ with ⟨s₁, t₁⟩ | ⟨ta₁, t₁, s₁⟩ <;> rcases sfx_form f₂ with ⟨s₂, t₂⟩ | ⟨ta₂, t₂, s₂⟩ <;>
      rw [s₁, s₂] at h
    · rw [t₁ (hr.trans n₂), t₂ n₂]
    · cases h
    · cases h
    · obtain ⟨o₁, e₁⟩ := h₁.targs ta₁ t₁
      obtain ⟨o₂, e₂⟩ := h₂.targs ta₂ t₂
      rw [t₁, t₂, (tysStr_inj_prefix ta₁ ta₂ [] [] o₁ o₂ e₁ e₂ (List.cons.inj h).2).1]

/-- the string is read from the left: package path, receiver, declared name, closure indices, type arguments -/
theorem render_inj {f₁ f₂ : Flat} (h₁ : FlatOK f₁) (h₂ : FlatOK f₂) (h : f₁.render = f₂.render) : f₁ = f₂ := by
  unfold Flat.render at h
  rw [pathOf_of_ok h₁.path, pathOf_of_ok h₂.path] at h
  obtain ⟨hpkg, hrest⟩ := pkg_split h₁.path h₂.path (rest_word f₁ h₁) (rest_word f₂ h₂) h
  obtain ⟨hrecv, hB⟩ := rest_recv h₁ h₂ hpkg hrest
  have htl : ∀ f : Flat, HeadNot identChar (nestStr f.nest ++ f.sfx) :=
    fun f => nums_headNot (by decide) _ (sfx_headNot (by decide) f)
  obtain ⟨hbase, htail⟩ := seg_eq (identOK_iff.mp h₁.base).2 (identOK_iff.mp h₂.base).2 (htl f₁) (htl f₂) hB
  obtain ⟨hnest, hsfx⟩ := nums_inj_prefix rfl (sfx_headNot rfl f₁) (sfx_headNot rfl f₂) _ _ htail
  exact Flat.ext hpkg hrecv hbase hnest (targs_of_sfx h₁ h₂ hrecv hsfx)

theorem toEntity_flat {pp : Str → Bool} {e : Entity} (h : Covered pp e) :
    e.flat.toEntity = e ∨ ∃ p n, e = .global p n ∧ e.flat.toEntity = .func p n := by
  induction h with
  | global p n => exact Or.inr ⟨p, n, rfl, rfl⟩
  | closure q i hq _ ih =>
    rcases ih with ih | ⟨p, n, rfl, _⟩
    · left
      simp only [Flat.toEntity, Entity.flat, List.foldl_append, List.foldl_cons, List.foldl_nil] at ih ⊢
      rw [ih]
    · cases hq
  | _ => exact Or.inl rfl

theorem nest_closure_ne (q : Entity) (i : Nat) : (Entity.closure q i).flat.nest ≠ [] := by
  simp [Entity.flat]

theorem flat_inj {pp : Str → Bool} {e₁ e₂ : Entity} (h₁ : Covered pp e₁) (h₂ : Covered pp e₂) (h : e₁.flat = e₂.flat) :
    e₁ = e₂ ∨ e₁.declClash e₂ = true := by
  rcases toEntity_flat h₁ with a | ⟨p, n, rfl, a⟩ <;> rcases toEntity_flat h₂ with b | ⟨p', n', rfl, b⟩ <;>
    rw [h] at a <;> have e := a.symm.trans b
  · exact Or.inl e
  · subst e; exact Or.inr (by simp [Entity.declClash])
  · subst e; exact Or.inr (by simp [Entity.declClash])
  · cases e; exact Or.inl rfl

end LlgoVerif.LinkName
