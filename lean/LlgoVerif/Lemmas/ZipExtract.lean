import LlgoVerif.Model.Zip
import LlgoVerif.Lemmas.Extract
/-! Lemmas for C20: the byte-level zip loop `runZip` / `zipStepB` (members carry `Opened`) is confined under the guard,
    and `ofEntry` embeds a run of the entry-level `zipStep` in it. -/
namespace LlgoVerif.Zip
open LlgoVerif.Extract LlgoVerif.Path

/-- the file system a pass through `decompress` leaves behind -/
def Step.fsOf : Step → Option FS
  | .ok fs => some fs
  | .fail fs _ => some fs
  | .unsupported => none

/-- one pass through `decompress`, successful or not: nothing outside the destination changes -/
theorem zipStepB_frame (cfg : Cfg) (hguard : cfg.zipGuard = true) (dest : Str) (habs : dest.head? = some '/')
    (fs fs' : FS) (e : ZEntry) (hr : DestReady fs (comps (clean dest)))
    (h : (zipStepB cfg dest fs e).fsOf = some fs') : Frame (comps (clean dest)) fs fs' := by
  unfold zipStepB at h
  simp only [hguard, Bool.true_and, comps_dirOf_join dest e.name habs] at h
  -- every exit hands back `fs`, the state after the parents were made, or the state after the write
  split at h
  · cases h; exact Frame.refl _ _
  · next hg =>
    have hk := guard_prefix habs (by simpa using hg)
    split at h
    · split at h
      · next fs1 hm => cases h; exact mkdirAll_frame hr (.inr hk) hm
      · cases h; exact Frame.refl _ _
    · split at h
      · cases h; exact Frame.refl _ _
      · next fs1 hm =>
        have f1 := parents_frame _ hr hk hm
        split at h
        · cases h
        · cases h; exact f1
        · split at h
          · cases h; exact f1
          · next hw => split at h <;> (cases h; exact f1.trans (openWrite_frame (hr.of_frame f1) hk hw))

theorem runZip_frame (cfg : Cfg) (hguard : cfg.zipGuard = true) (dest : Str) (habs : dest.head? = some '/')
    (es : List ZEntry) : ∀ (fs fs' : FS) (err : Option Extract.Err), DestReady fs (comps (clean dest)) →
      runZip cfg dest fs es = some (fs', err) → Frame (comps (clean dest)) fs fs' := by
  intro fs fs' err
  fun_induction runZip cfg dest fs es with
  | case1 fs => intro _ h; cases h; exact Frame.refl _ _
  | case2 fs e es fs1 hs ih =>
    intro hr h
    have hstep := zipStepB_frame cfg hguard dest habs fs fs1 e hr (by rw [hs]; rfl)
    exact hstep.trans (ih (hr.of_frame hstep) h)
  | case3 fs e es fs1 e1 hs => intro hr h; cases h; exact zipStepB_frame cfg hguard dest habs fs _ e hr (by rw [hs]; rfl)
  | case4 => intro _ h; cases h

/-- a member the way the entry-level model describes it; nothing in the model reads `isSym` (the driver prints it) -/
def ofEntry (e : Entry) : ZEntry :=
  { name := e.name, isDir := zipIsDir e, isSym := e.kind = .sym, opened := .copied (zipData e) false }

theorem zipStepB_ofEntry (cfg : Cfg) (dest : Str) (fs fs' : FS) (e : Entry) (h : zipStep cfg dest fs e = .ok fs') :
    zipStepB cfg dest fs (ofEntry e) = .ok fs' := by
  unfold zipStep at h
  unfold zipStepB ofEntry
  simp only at h ⊢
  split at h
  · cases h
  · rename_i hg
    simp only [hg]
    split at h
    · rename_i hd
      simp [hd, h]
    · rename_i hd
      simp only [hd, if_false, Bool.false_eq_true]
      split at h
      · cases h
      · rename_i fs1 hm
        simp [hm, h]

theorem runZip_ofEntry (cfg : Cfg) (dest : Str) (es : List Entry) : ∀ (fs : FS),
    (extract cfg .zip dest fs es).2 = none →
    runZip cfg dest fs (es.map ofEntry) = some ((extract cfg .zip dest fs es).1, none) := by
  intro fs h
  unfold extract at h ⊢
  fun_induction runSteps (Extract.step cfg .zip dest) fs es with
  | case1 fs => rfl
  | case2 fs e es fs1 hs ih => rw [List.map_cons, runZip, zipStepB_ofEntry cfg dest fs fs1 e hs]; exact ih h
  | case3 => cases h

end LlgoVerif.Zip
