import LlgoVerif.Lemmas.EmbedTable
import LlgoVerif.Spec.Embed
/-! C16: `ResolvePatterns` against cmd/go's rule (`Spec/Embed.lean`). -/
namespace LlgoVerif.Embed
open LlgoVerif.Embed.Spec

theorem mem_globTrail (n : Node) (cs : List Str) (t : Trail) :
    t ∈ globTrail n cs ↔ Reach n t ∧ AllMatch cs t := by
  fun_induction globTrail n cs generalizing t with
  | case1 n =>
    rw [List.mem_singleton]
    exact ⟨fun h => h ▸ ⟨Reach.nil n, AllMatch.nil⟩, fun ⟨_, h⟩ => by cases h; rfl⟩
  | case2 n c cs es hes ih =>
    simp only [List.mem_flatMap, List.mem_ite_nil_right, List.mem_map, ih]
    constructor
    · rintro ⟨e, he, hm, m, ⟨hr, ha⟩, rfl⟩
      exact ⟨Reach.cons hes he hr, AllMatch.cons hm ha⟩
    · rintro ⟨hr, ha⟩
      cases ha with | cons hm ha =>
      cases hr with | cons hes' he hr =>
      cases hes.symm.trans hes'
      exact ⟨_, he, hm, _, ⟨hr, ha⟩, rfl⟩
  | case3 n c cs hes =>
    refine ⟨fun h => (nomatch h), fun ⟨hr, ha⟩ => ?_⟩
    cases ha with | cons hm ha =>
    cases hr with | cons hes' he hr => cases hes.symm.trans hes'

theorem skipName_false_iff (all : Bool) (nm : Str) : skipName all nm = false ↔ Visible all nm := by
  unfold skipName Visible Hidden
  cases all <;> cases isBadName nm <;> simp

theorem entsHaveGoMod_cons (nm : Str) (n : Node) (rest : Ents) :
    entsHaveGoMod (.cons nm n rest) = ((nm = sGoMod && n.resolve.isSome) || entsHaveGoMod rest) := by
  simp [entsHaveGoMod, Ents.toList]

theorem walkEnts_eq (all : Bool) : ∀ es : Ents, walkEnts all es = es.toList.flatMap fun e =>
    if skipName all e.1 then [] else (walkNode all e.2).map fun f => (e.1 :: f.1, f.2)
  | .nil => by simp [walkEnts, Ents.toList]
  | .cons nm n rest => by simp [walkEnts, Ents.toList, walkEnts_eq all rest]

theorem mem_walkNode_step (all : Bool) (n : Node) (p : List Str) (d : Str) :
    (p, d) ∈ walkNode all n ↔
      (n = .file d ∧ p = []) ∨ ∃ es, n = .dir es ∧ entsHaveGoMod es = false ∧ (p, d) ∈ walkEnts all es := by
  cases n with
  | file d' => simp [walkNode, and_comm, eq_comm (a := d)]
  | dir es => cases hg : entsHaveGoMod es <;> simp [walkNode, hg]
  | link t => simp [walkNode]
  | dangling => simp [walkNode]
  | irregular => simp [walkNode]

theorem under_cons_iff (all : Bool) (es : Ents) (nm : Str) (p : List Str) (d : Str) :
    Under all es (nm :: p) d ↔ ∃ n, (nm, n) ∈ es.toList ∧ Visible all nm ∧
      ((n = .file d ∧ p = []) ∨ ∃ es', n = .dir es' ∧ entsHaveGoMod es' = false ∧ Under all es' p d) := by
  constructor
  · intro h
    cases h with
    | file hm hv => exact ⟨_, hm, hv, Or.inl ⟨rfl, rfl⟩⟩
    | dir hm hv hg hu => exact ⟨_, hm, hv, Or.inr ⟨_, rfl, hg, hu⟩⟩
  · rintro ⟨n, hm, hv, ⟨rfl, rfl⟩ | ⟨es', rfl, hg, hu⟩⟩
    · exact Under.file hm hv
    · exact Under.dir hm hv hg hu

theorem mem_walkEnts_iff (all : Bool) (es : Ents) (x : List Str × Str) : x ∈ walkEnts all es ↔
    ∃ e ∈ es.toList, Visible all e.1 ∧ ∃ f ∈ walkNode all e.2, (e.1 :: f.1, f.2) = x := by
  simp only [walkEnts_eq, List.mem_flatMap, List.mem_ite_nil_left, List.mem_map, Bool.not_eq_true, skipName_false_iff]

theorem mem_walkEnts (all : Bool) (es : Ents) (p : List Str) (d : Str) :
    (p, d) ∈ walkEnts all es ↔ Under all es p d := by
  induction p generalizing es with
  | nil => rw [mem_walkEnts_iff]; exact ⟨fun ⟨_, _, _, _, _, h⟩ => (nomatch h), fun h => (nomatch h)⟩
  | cons nm p ih =>
    rw [under_cons_iff, mem_walkEnts_iff]
    constructor
    · rintro ⟨⟨_, n⟩, he, hv, f, hf, ⟨⟩⟩
      exact ⟨n, he, hv, by simpa only [ih] using (mem_walkNode_step all n f.1 f.2).1 hf⟩
    · rintro ⟨n, he, hv, h⟩
      exact ⟨(nm, n), he, hv, (p, d), (mem_walkNode_step all n p d).2 (by simpa only [ih] using h), rfl⟩

theorem mem_walkNode (all : Bool) (n : Node) (p : List Str) (d : Str) :
    (p, d) ∈ walkNode all n ↔
      (n = .file d ∧ p = []) ∨ (∃ es, n = .dir es ∧ entsHaveGoMod es = false ∧ Under all es p d) := by
  simp only [mem_walkNode_step, mem_walkEnts]

/-- with `nonDirCheck` this is `CleanTrail` -/
def TrailOK (cfg : Cfg) (t : Trail) : Prop :=
  ∀ pre e post, t = pre ++ e :: post →
    e.2.hasGoMod = false ∧ isBadName e.1 = false ∧ (cfg.nonDirCheck = true → post ≠ [] → e.2.isDir = true)

theorem trailOK_cons (cfg : Cfg) (e : Str × Node) (rest : Trail) :
    TrailOK cfg (e :: rest) ↔
      (e.2.hasGoMod = false ∧ isBadName e.1 = false ∧ (cfg.nonDirCheck = true → rest ≠ [] → e.2.isDir = true)) ∧
      TrailOK cfg rest := by
  constructor
  · intro h
    exact ⟨h [] e rest rfl, fun pre e' post heq => h (e :: pre) e' post (by rw [heq]; rfl)⟩
  · rintro ⟨h1, h2⟩ pre e' post heq
    cases pre with
    | nil => cases heq; exact h1
    | cons x pre' => cases heq; exact h2 pre' e' post rfl

theorem ite_error_eq_ok {ε α : Type} {c : Prop} [Decidable c] {e : ε} {x : Except ε α} {a : α} :
    (if c then .error e else x) = .ok a ↔ ¬ c ∧ x = .ok a := by
  split <;> simp [*]

theorem checkTrail_ok_iff (cfg : Cfg) (t : Trail) : checkTrail cfg t = .ok () ↔ TrailOK cfg t := by
  induction t with
  | nil => exact ⟨fun _ pre e post h => by simp at h, fun _ => rfl⟩
  | cons e rest ih =>
    rw [trailOK_cons, ← ih, checkTrail]
    cases checkTrail cfg rest with
    | error e => simp
    | ok u =>
      -- tests: go.mod, non-directory, bad name; `TrailOK`: go.mod, bad name, non-directory
      simp only [ite_error_eq_ok]
      simp [and_comm]

def trailFiles (all : Bool) (t : Trail) : List (Str × Str) :=
  match t.getLast? with
  | none => []
  | some e => (walkNode all e.2).map fun f => (joinSlash (t.map (·.1) ++ f.1), f.2)

theorem mem_trailFiles (all : Bool) (t : Trail) (name d : Str) :
    (name, d) ∈ trailFiles all t ↔ ∃ f, Delivers all t f d ∧ name = joinSlash f := by
  unfold trailFiles Delivers
  cases t.getLast? with
  | none => simp
  | some e =>
    simp only [List.mem_map, Prod.mk.injEq, Option.some.injEq, exists_eq_left']
    constructor
    · rintro ⟨⟨p, d'⟩, hx, rfl, rfl⟩
      rcases (mem_walkNode all e.2 p d').1 hx with ⟨h, rfl⟩ | ⟨es, h, hg, hu⟩
      · exact ⟨_, Or.inl ⟨h, rfl⟩, by simp⟩
      · exact ⟨_, Or.inr ⟨es, p, h, hg, hu, rfl⟩, rfl⟩
    · rintro ⟨_, ⟨h, rfl⟩ | ⟨es, p, h, hg, hu, rfl⟩, rfl⟩
      · exact ⟨([], d), (mem_walkNode all e.2 [] d).2 (Or.inl ⟨h, rfl⟩), by simp, rfl⟩
      · exact ⟨(p, d), (mem_walkNode all e.2 p d).2 (Or.inr ⟨es, h, hg, hu⟩), rfl, rfl⟩

theorem trailFiles_ne_nil_iff (all : Bool) (t : Trail) : trailFiles all t ≠ [] ↔ ∃ f d, Delivers all t f d := by
  constructor
  · intro h
    obtain ⟨⟨name, d⟩, hx⟩ := List.exists_mem_of_ne_nil _ h
    obtain ⟨f, hf, _⟩ := (mem_trailFiles all t name d).1 hx
    exact ⟨f, d, hf⟩
  · rintro ⟨f, d, hf⟩
    exact List.ne_nil_of_mem ((mem_trailFiles all t _ d).2 ⟨f, hf, rfl⟩)

/-- the step of the `_eq_ok_iff` inductions: the case split that rewrites a `match x with` -/
theorem ok_or_error_of_iff {ε α : Type} {x : Except ε α} {P : Prop} {r : α} (h : ∀ a, x = .ok a ↔ P ∧ r = a) :
    P ∧ x = .ok r ∨ ¬ P ∧ ∃ e, x = .error e := by
  cases x with
  | error e => exact Or.inr ⟨(fun hp => nomatch (h r).2 ⟨hp, rfl⟩), e, rfl⟩
  | ok a => obtain ⟨hp, rfl⟩ := (h a).1 rfl; exact Or.inl ⟨hp, rfl⟩

def MatchOK (cfg : Cfg) (all : Bool) (t : Trail) : Prop := TrailOK cfg t ∧ ∃ f d, Delivers all t f d

theorem matchFiles_eq_ok_iff (cfg : Cfg) (all : Bool) (t : Trail) (g : List (Str × Str)) :
    matchFiles cfg all t = .ok g ↔ MatchOK cfg all t ∧ trailFiles all t = g := by
  -- file and directory are both walked; any other node walks to nothing and is refused
  have : matchFiles cfg all t = .ok g ↔
      (checkTrail cfg t = .ok () ∧ trailFiles all t ≠ []) ∧ trailFiles all t = g := by
    unfold matchFiles trailFiles
    cases checkTrail cfg t with
    | error e => simp
    | ok u =>
      cases t.getLast? with
      | none => simp
      | some e =>
        obtain ⟨nm, n⟩ := e
        cases n with
        | dir es =>
          simp only [walkNode]
          generalize (if entsHaveGoMod es = true then [] else walkEnts all es) = w
          cases w <;> simp
        | _ => simp [walkNode]
  rw [this, checkTrail_ok_iff, trailFiles_ne_nil_iff, MatchOK]

theorem matchesFiles_eq_ok_iff (cfg : Cfg) (all : Bool) (ts : List Trail) (fs : List (Str × Str)) :
    matchesFiles cfg all ts = .ok fs ↔ (∀ t ∈ ts, MatchOK cfg all t) ∧ ts.flatMap (trailFiles all) = fs := by
  induction ts generalizing fs with
  | nil => simp [matchesFiles]
  | cons t rest ih =>
    simp only [matchesFiles, List.forall_mem_cons, List.flatMap_cons]
    rcases ok_or_error_of_iff (matchFiles_eq_ok_iff cfg all t) with ⟨hm, h⟩ | ⟨hm, e, h⟩
    · rcases ok_or_error_of_iff ih with ⟨hr, h'⟩ | ⟨hr, e', h'⟩
      · simp only [h, h', Except.ok.injEq, and_iff_right (And.intro hm hr)]
      · simp [h, h', hr]
    · simp [h, hm]

theorem validElems_iff (l : List Str) :
    validElems l = true ↔ ∀ c ∈ l, c ≠ [] ∧ c ≠ sDot ∧ c ≠ sDotDot := by
  induction l with
  | nil => simp [validElems]
  | cons e rest ih => simp [validElems, ih, and_assoc]

theorem validPat_iff (glob : Str) :
    globSyntaxOK glob = true ∧ validPattern glob = true ↔ ValidPat glob := by
  simp only [ValidPat, comps, ← validElems_iff, validPattern, validPath, Bool.and_eq_true, bne_iff_ne, ne_eq]
  by_cases hd : glob = sDot
  · simp [hd]
  · cases validUtf8 glob <;> simp [hd, and_comm]

def patFiles (root : Node) (pat : Str) : List (Str × Str) :=
  (globTrail root (comps (splitAll pat).2)).flatMap (trailFiles (splitAll pat).1)

def PatOK (cfg : Cfg) (root : Node) (pat : Str) : Prop :=
  ValidPat (splitAll pat).2 ∧ (∃ t, Matches root (splitAll pat).2 t) ∧
    ∀ t, Matches root (splitAll pat).2 t → MatchOK cfg (splitAll pat).1 t

theorem patOK_true_iff (root : Node) (pat : Str) : PatOK ⟨true⟩ root pat ↔ PatternOK root pat := by
  simp only [PatOK, MatchOK, PatternOK, TrailOK, CleanTrail, true_imp_iff]

theorem patternFiles_eq_ok_iff (cfg : Cfg) (root : Node) (pat : Str) (fs : List (Str × Str)) :
    patternFiles cfg root pat = .ok fs ↔ PatOK cfg root pat ∧ patFiles root pat = fs := by
  have hts (t : Trail) : t ∈ globTrail root (splitOn 47 (splitAll pat).2) ↔ Matches root (splitAll pat).2 t :=
    mem_globTrail root _ t
  have hguard : (!globSyntaxOK (splitAll pat).2 || !validPattern (splitAll pat).2) = false ↔ ValidPat (splitAll pat).2 := by
    rw [← validPat_iff]; cases globSyntaxOK (splitAll pat).2 <;> cases validPattern (splitAll pat).2 <;> decide
  simp only [PatOK, ← hguard, ← hts, patFiles, comps, patternFiles]
  generalize globTrail root (splitOn 47 (splitAll pat).2) = ts
  cases (!globSyntaxOK (splitAll pat).2 || !validPattern (splitAll pat).2) with
  | true => simp
  | false =>
    rcases ok_or_error_of_iff (matchesFiles_eq_ok_iff cfg (splitAll pat).1 ts) with ⟨hm, h⟩ | ⟨hm, e, h⟩
    · -- every match delivers something: nothing is listed only if nothing matched
      have hnil : ts.flatMap (trailFiles (splitAll pat).1) = [] ↔ ts = [] := by
        cases ts with
        | nil => simp
        | cons t rest => simp [(trailFiles_ne_nil_iff _ t).2 (hm t (by simp)).2]
      simp only [h, and_iff_left hm, List.isEmpty_iff, hnil]
      cases ts <;> simp
    · simp [h, hm]

theorem resolveLoop_eq_ok_iff (cfg : Cfg) (root : Node) (seen : Seen) (pats : List Str) (out : Seen) :
    resolveLoop cfg root seen pats = .ok out ↔
      (∀ p ∈ pats, PatOK cfg root p) ∧ addFiles seen (pats.flatMap (patFiles root)) = out := by
  induction pats generalizing seen with
  | nil => simp [resolveLoop, addFiles]
  | cons p rest ih =>
    rcases ok_or_error_of_iff (patternFiles_eq_ok_iff cfg root p) with ⟨hp, h⟩ | ⟨hp, e, h⟩
    · simp [resolveLoop, h, hp, ih, addFiles_append]
    · simp [resolveLoop, h, hp]

theorem resolve_eq_ok_iff (cfg : Cfg) (root : Node) (pats : List Str) (fs : Seen) :
    resolve cfg root pats = .ok fs ↔
      (∀ p ∈ pats, PatOK cfg root p) ∧ sortSeen (addFiles [] (pats.flatMap (patFiles root))) = fs := by
  unfold resolve
  rcases ok_or_error_of_iff (resolveLoop_eq_ok_iff cfg root [] pats) with ⟨hp, h⟩ | ⟨hp, e, h⟩
  · simp only [h, Except.ok.injEq, and_iff_right hp]
  · simp [h, hp]

/-- `decide` does not reduce `sortSeen` (`mergeSort` is by well-founded recursion): closed instances go through `resolveLoop` -/
theorem resolve_ok_iff_loop (cfg : Cfg) (root : Node) (pats : List Str) :
    (∃ fs, resolve cfg root pats = .ok fs) ↔ ∃ s, resolveLoop cfg root [] pats = .ok s := by
  unfold resolve
  cases resolveLoop cfg root [] pats <;> simp

theorem mem_flatMap_patFiles (root : Node) (pats : List Str) (name d : Str) :
    (name, d) ∈ pats.flatMap (patFiles root) ↔ embeddedData root pats name d := by
  simp only [List.mem_flatMap, patFiles, mem_trailFiles, mem_globTrail, embeddedData, Matches]
  exact ⟨fun ⟨p, hp, t, ht, f, hf⟩ => ⟨p, hp, t, f, ht, hf⟩, fun ⟨p, hp, t, f, ht, hf⟩ => ⟨p, hp, t, ht, f, hf⟩⟩

theorem mem_keys_flatMap_patFiles (root : Node) (pats : List Str) (name : Str) :
    name ∈ (pats.flatMap (patFiles root)).map (·.1) ↔ embedded root pats name := by
  simp only [List.mem_map, Prod.exists, exists_and_right, exists_eq_right, mem_flatMap_patFiles, embedded]

theorem sortSeen_perm (seen : Seen) : (sortSeen seen).Perm seen := List.mergeSort_perm _ _

theorem sortSeen_sorted (seen : Seen) (hn : (seen.map (·.1)).Nodup) :
    ((sortSeen seen).map (·.1)).Pairwise (fun a b => strLt a b = true) := by
  have h1 : (sortSeen seen).Pairwise (fun a b => ¬ b.1 < a.1) := by
    simpa only [sortSeen, strLe, strLt_eq] using ListOrder.strictLinear.pairwise_mergeSort (·.1) seen
  have h2 : (sortSeen seen).Pairwise (fun a b => a.1 ≠ b.1) :=
    List.pairwise_map.1 (((sortSeen_perm seen).map _).nodup_iff.2 hn)
  exact List.pairwise_map.2 ((h1.and h2).imp fun ⟨hle, hne⟩ => by
    simpa only [strLt_eq, decide_eq_true_eq] using ListOrder.strictLinear.lt_of_not_lt hle hne)

theorem matchesFiles_congr (c c' : Cfg) (all : Bool) (ts : List Trail)
    (h : ∀ t ∈ ts, checkTrail c t = checkTrail c' t) : matchesFiles c all ts = matchesFiles c' all ts := by
  induction ts with
  | nil => rfl
  | cons t rest ih =>
    simp only [matchesFiles, matchFiles, h t (by simp), ih fun t' ht' => h t' (by simp [ht'])]

theorem resolveLoop_congr (c c' : Cfg) (root : Node) (h : ∀ t, Reach root t → checkTrail c t = checkTrail c' t)
    (seen : Seen) (pats : List Str) : resolveLoop c root seen pats = resolveLoop c' root seen pats := by
  induction pats generalizing seen with
  | nil => rfl
  | cons p rest ih =>
    have hp : patternFiles c root p = patternFiles c' root p := by
      simp only [patternFiles, matchesFiles_congr c c' _ _ fun t ht => h t ((mem_globTrail root _ t).1 ht).1]
    simp only [resolveLoop, hp]
    cases patternFiles c' root p with
    | error e => rfl
    | ok fs => exact ih _

/-! ## trees without links to directories: the non-directory test of `CheckPath` cannot fire -/

theorem noDirLinks_mem : ∀ (es : Ents), es.noDirLinks = true → ∀ e ∈ es.toList, e.2.noDirLinks = true
  | .nil, _, e, he => by simp [Ents.toList] at he
  | .cons nm n rest, h, e, he => by
    simp only [Ents.noDirLinks, Bool.and_eq_true] at h
    simp only [Ents.toList, List.mem_cons] at he
    rcases he with rfl | he
    · exact h.1
    · exact noDirLinks_mem rest h.2 e he

theorem noDirLinks_dirEnts (n : Node) (h : n.noDirLinks = true) (es : Ents) (hd : n.dirEnts = some es) :
    n = .dir es := by
  cases n with
  | dir es' => exact congrArg Node.dir (Option.some.inj hd)
  | link t =>
    have hd' : t.dirEnts = some es := hd
    rw [Node.noDirLinks, hd'] at h
    cases h
  | _ => cases hd

theorem reach_isDir {ch : Node} {rest : Trail} (hr : Reach ch rest) (hch : ch.noDirLinks = true) (hne : rest ≠ []) :
    ch.isDir = true := by
  cases hr with
  | nil => exact absurd rfl hne
  | cons hes _ _ => cases noDirLinks_dirEnts ch hch _ hes; rfl

theorem checkTrail_noDirLinks (c c' : Cfg) (n : Node) (t : Trail) (hr : Reach n t) (hn : n.noDirLinks = true) :
    checkTrail c t = checkTrail c' t := by
  induction hr with
  | nil n => rfl
  | @cons n es nm ch rest hes hmem hrest ih =>
    cases noDirLinks_dirEnts n hn es hes
    have hch : ch.noDirLinks = true := noDirLinks_mem es hn _ hmem
    -- the configuration occurs only in `cfg.nonDirCheck && (…)`, and `(…)` is false
    have hdir : (!rest.isEmpty && !ch.isDir) = false := by
      cases rest with
      | nil => rfl
      | cons e r => rw [reach_isDir hrest hch (List.cons_ne_nil e r)]; rfl
    simp only [checkTrail, ih hch, Bool.and_assoc, hdir, Bool.and_false]

end LlgoVerif.Embed
