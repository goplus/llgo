import LlgoVerif.Spec.Container
import LlgoVerif.Lemmas.Gzip
import LlgoVerif.Lemmas.FixedLayout
/-! Lemmas for the zip layer of C20, container side: `Zip.readZip` inverts the writers of `Spec/Container.lean`.
    46, 30, 22 = `directoryHeaderLen`, `fileHeaderLen`, `directoryEndLen` of archive/zip; 66560 = the tail window
    `findEOCD` searches; 4294967295 and 65535 are the zip64 escape values, which the writers' bounds exclude. -/
namespace LlgoVerif.Zip

open LlgoVerif.Container
open LlgoVerif.Gzip (Bytes natLE le length_natLE le_natLE crc32)

theorem length_encFields (fs : List (Nat × Nat)) : (encFields fs).length = (fs.map (·.1)).sum := by
  induction fs with
  | nil => rfl
  | cons f fs ih => obtain ⟨w, v⟩ := f; simp [encFields, length_natLE] at ih ⊢; omega

theorem length_central_fixed (ls : List ZipLocal) (c : ZipCentral) (l : ZipLocal) :
    (encFields (c.fixed ls l)).length = 46 := by
  rw [length_encFields]; simp [ZipCentral.fixed]

theorem length_local_fixed (l : ZipLocal) : (encFields l.fixed).length = 30 := by
  rw [length_encFields]; simp [ZipLocal.fixed]

theorem encFields_eq_bytes (fs : List (Nat × Nat)) : encFields fs = FixedLayout.bytes natLE fs := by
  induction fs with
  | nil => rfl
  | cons f fs ih => obtain ⟨w, v⟩ := f; simp only [encFields, FixedLayout.bytes, ih]

theorem wf_natLE (fs : List (Nat × Nat)) : FixedLayout.WF natLE fs := by
  induction fs with
  | nil => trivial
  | cons f fs ih => exact ⟨length_natLE _ _, ih⟩

theorem field_at (fs : List (Nat × Nat)) (rest : Bytes) (off w v : Nat) (h : FixedLayout.fieldAt fs off = some (w, v)) :
    ((encFields fs ++ rest).drop off).take w = natLE w v := by
  rw [encFields_eq_bytes]; exact FixedLayout.drop_take natLE fs (wf_natLE fs) rest off w v h

theorem le_field (X : Bytes) (fs : List (Nat × Nat)) (rest : Bytes) (off w v : Nat)
    (h : FixedLayout.fieldAt fs off = some (w, v)) (hv : v < 256 ^ w) :
    le (((X ++ (encFields fs ++ rest)).drop (X.length + off)).take w) = v := by
  rw [List.drop_append, List.drop_eq_nil_of_le (by omega), List.nil_append, Nat.add_sub_cancel_left,
    field_at fs rest off w v h, le_natLE, Nat.mod_eq_of_lt hv]

theorem u16_encFields (fs : List (Nat × Nat)) (rest : Bytes) (off v : Nat) (h : FixedLayout.fieldAt fs off = some (2, v))
    (hv : v < 65536) : u16 (encFields fs ++ rest) off = v := by
  simpa [u16] using le_field [] fs rest off 2 v h hv

theorem u32_encFields (fs : List (Nat × Nat)) (rest : Bytes) (off v : Nat) (h : FixedLayout.fieldAt fs off = some (4, v))
    (hv : v < 4294967296) : u32 (encFields fs ++ rest) off = v := by
  simpa [u32] using le_field [] fs rest off 4 v h hv

/-- the central header as `readCDH` reports it -/
def hdrOf (ls : List ZipLocal) (c : ZipCentral) (l : ZipLocal) : CDH :=
  { creator := c.creator, flags := 0, method := 0, crc := (crc32 l.data).toNat, csize := l.data.length,
    usize := l.data.length, extAttrs := c.extAttrs, offset := offsetOf ls c.idx, name := l.name,
    len := 46 + l.name.length + c.extra.length + c.comment.length }

theorem offsetOf_le (ls : List ZipLocal) (i : Nat) : offsetOf ls i ≤ (localsBytes ls).length := by
  unfold offsetOf localsBytes
  conv => rhs; rw [← List.take_append_drop i ls]
  simp only [List.flatMap_append, List.length_append]
  omega

theorem readCDH_encode (ls : List ZipLocal) (c : ZipCentral) (l : ZipLocal) (rest : Bytes)
    (hl : ls[c.idx]? = some l) (hn : l.name.length < 65536) (hd : l.data.length < 4294967295)
    (hc : c.creator < 65536) (ha : c.extAttrs < 4294967296) (hx : c.extra.length < 65536) (hm : c.comment.length < 65536)
    (ho : (localsBytes ls).length < 4294967295) :
    readCDH (c.encode ls ++ rest) = .ok (hdrOf ls c l) := by
  have hoff : offsetOf ls c.idx < 4294967295 := Nat.lt_of_le_of_lt (offsetOf_le ls c.idx) ho
  have hcrc : (crc32 l.data).toNat < 4294967296 := UInt32.toNat_lt _
  let R : Bytes := l.name ++ (c.extra ++ (c.comment ++ rest))
  have hb : c.encode ls ++ rest = encFields (c.fixed ls l) ++ R := by
    simp only [ZipCentral.encode, hl, List.append_assoc, R]
  rw [hb]
  have hlen := length_central_fixed ls c l
  have hsig : (encFields (c.fixed ls l) ++ R).take 4 = sigCDH := field_at (c.fixed ls l) R 0 4 _ rfl
  have f := u16_encFields (c.fixed ls l) R
  have g := u32_encFields (c.fixed ls l) R
  have hdrop : (encFields (c.fixed ls l) ++ R).drop 46 = R := List.drop_left' hlen
  unfold readCDH
  simp only [hsig, ne_eq, not_true, if_false, hdrop, f 4 c.creator rfl hc, f 8 0 rfl (by decide), f 10 0 rfl (by decide),
    g 16 _ rfl hcrc, g 20 l.data.length rfl (by omega), g 24 l.data.length rfl (by omega), f 28 l.name.length rfl hn,
    f 30 c.extra.length rfl hx, f 32 c.comment.length rfl hm, g 38 c.extAttrs rfl ha,
    g 42 (offsetOf ls c.idx) rfl (by omega)]
  have h1 : ¬ (encFields (c.fixed ls l) ++ R).length < 46 := by simp [hlen]
  have h2 : ¬ R.length < l.name.length + c.extra.length + c.comment.length := by simp [R]; omega
  have h3 : ¬ (l.data.length = 4294967295 ∨ l.data.length = 4294967295 ∨ offsetOf ls c.idx = 4294967295) := by omega
  have h4 : R.take l.name.length = l.name := List.take_left' rfl
  simp only [h1, h2, h3, if_false, h4, hdrOf]

/-- the local record a central header points at -/
def localOf (ls : List ZipLocal) (c : ZipCentral) : ZipLocal := ls.getD c.idx ⟨[], [], []⟩

theorem entry_eq (ls : List ZipLocal) (c : ZipCentral) :
    c.entry ls = { name := toStr (localOf ls c).name, isDir := isDirOf (hdrOf ls c (localOf ls c)),
                   isSym := isSymOf (hdrOf ls c (localOf ls c)),
                   opened := .copied (if isDirOf (hdrOf ls c (localOf ls c)) then [] else (localOf ls c).data) false } :=
  rfl

theorem localOf_get (ls : List ZipLocal) (c : ZipCentral) (h : c.idx < ls.length) : ls[c.idx]? = some (localOf ls c) := by
  simp [localOf, List.getD_eq_getElem?_getD, List.getElem?_eq_getElem h]

theorem length_central_encode (ls : List ZipLocal) (c : ZipCentral) (h : c.idx < ls.length) :
    (c.encode ls).length = 46 + (localOf ls c).name.length + c.extra.length + c.comment.length := by
  simp only [ZipCentral.encode, localOf_get ls c h, List.length_append, length_central_fixed]
  omega

theorem length_local_encode (l : ZipLocal) : l.encode.length = 30 + l.name.length + l.extra.length + l.data.length := by
  simp only [ZipLocal.encode, List.length_append, length_local_fixed]
  omega

theorem readDir_round (ls : List ZipLocal)
    (hnames : ∀ l ∈ ls, l.name.length < 65536 ∧ l.extra.length < 65536 ∧ l.data.length < 4294967295)
    (ho : (localsBytes ls).length < 4294967295) (f : Nat) (c : ZipCentral) (rest : Bytes) (acc : List CDH)
    (hc : c.idx < ls.length ∧ c.creator < 65536 ∧ c.extAttrs < 4294967296 ∧ c.extra.length < 65536 ∧ c.comment.length < 65536) :
    readDir (f + 1) (c.encode ls ++ rest) acc = readDir f rest (hdrOf ls c (localOf ls c) :: acc) := by
  obtain ⟨h1, h2, h3, h4, h5⟩ := hc
  have hl := localOf_get ls c h1
  obtain ⟨hn, _, hd⟩ := hnames _ (List.mem_of_getElem? hl)
  have hne : c.encode ls ++ rest ≠ [] := by
    intro e
    have := congrArg List.length e
    simp only [List.length_append, length_central_encode ls c h1, List.length_nil] at this
    omega
  rw [readDir, if_neg hne, readCDH_encode ls c (localOf ls c) _ hl hn hd h2 h3 h4 h5 ho]
  simp only
  rw [List.drop_left' (by rw [length_central_encode ls c h1]; rfl)]

/-- `tail` is the 22-byte end record: shorter than a central header, which is why `readDir` stops with `.unexpectedEOF` -/
theorem readDir_central (ls : List ZipLocal) (tail : Bytes) (ht : tail ≠ []) (ht2 : tail.length < 46)
    (hnames : ∀ l ∈ ls, l.name.length < 65536 ∧ l.extra.length < 65536 ∧ l.data.length < 4294967295)
    (ho : (localsBytes ls).length < 4294967295) (cs : List ZipCentral) :
    ∀ (fuel : Nat) (acc : List CDH),
      (∀ c ∈ cs, c.idx < ls.length ∧ c.creator < 65536 ∧ c.extAttrs < 4294967296 ∧ c.extra.length < 65536 ∧ c.comment.length < 65536) →
      cs.length < fuel →
      readDir fuel (centralBytes ls cs ++ tail) acc = .ok (acc.reverse ++ cs.map (fun c => hdrOf ls c (localOf ls c)), .unexpectedEOF) := by
  induction cs with
  | nil =>
    intro fuel acc _ hf
    obtain ⟨f, rfl⟩ := Nat.exists_eq_add_one_of_ne_zero (Nat.ne_zero_of_lt hf)
    simp only [centralBytes, List.flatMap_nil, List.nil_append, List.map_nil, List.append_nil]
    rw [readDir, if_neg ht, show readCDH tail = .err .unexpectedEOF by simp [readCDH, ht2]]
  | cons c cs ih =>
    intro fuel acc hcs hf
    obtain ⟨f, rfl⟩ := Nat.exists_eq_add_one_of_ne_zero (Nat.ne_zero_of_lt hf)
    rw [centralBytes, List.flatMap_cons, List.append_assoc, readDir_round ls hnames ho f c _ acc (hcs c (List.mem_cons_self ..)),
      ← centralBytes, ih f _ (fun x hx => hcs x (List.mem_cons_of_mem _ hx)) (by simp at hf; omega)]
    simp

theorem u16_append_encFields (X : Bytes) (fs : List (Nat × Nat)) (off v : Nat) (h : FixedLayout.fieldAt fs off = some (2, v))
    (hv : v < 65536) : u16 (X ++ encFields fs) (X.length + off) = v := by
  simpa [u16] using le_field X fs [] off 2 v h hv

theorem u32_append_encFields (X : Bytes) (fs : List (Nat × Nat)) (off v : Nat) (h : FixedLayout.fieldAt fs off = some (4, v))
    (hv : v < 4294967296) : u32 (X ++ encFields fs) (X.length + off) = v := by
  simpa [u32] using le_field X fs [] off 4 v h hv

theorem length_eocd (ls : List ZipLocal) (cs : List ZipCentral) : (encFields (eocdFixed ls cs)).length = 22 := by
  rw [length_encFields]; simp [eocdFixed]

theorem findEOCD_zipFile (X : Bytes) (ls : List ZipLocal) (cs : List ZipCentral) :
    findEOCD (X ++ encFields (eocdFixed ls cs)) = .ok X.length := by
  have hlen := length_eocd ls cs
  obtain ⟨E18, hE, hE18⟩ : ∃ E18 : Bytes, encFields (eocdFixed ls cs) = sigEOCD ++ E18 ∧ E18.length = 18 := by
    refine ⟨encFields (eocdFixed ls cs).tail, ?_, ?_⟩
    · rw [← show natLE 4 0x06054b50 = sigEOCD by decide]; simp [eocdFixed, encFields]
    · rw [length_encFields]; simp [eocdFixed]
  unfold findEOCD
  have hsize : (X ++ encFields (eocdFixed ls cs)).length = X.length + 22 := by simp [hlen]
  simp only [hsize]
  have hrev : (X ++ encFields (eocdFixed ls cs)).reverse.drop 18 = [6, 5, 75, 80] ++ X.reverse := by
    rw [hE, List.reverse_append, List.reverse_append, List.append_assoc,
      List.drop_left' (by simp [hE18])]
    rfl
  -- one candidate suffices: the signature stands at the first position scanned
  obtain ⟨w, hw⟩ : ∃ w, Nat.min (X.length + 22) 66560 - 22 + 1 = w + 1 := ⟨_, rfl⟩
  rw [hw, hrev]
  simp only [List.cons_append, List.nil_append, scanRev, Nat.add_sub_cancel]
  have hsig : ([80, 75, 5, 6] : Bytes) = sigEOCD := rfl
  simp only [hsig, if_true]
  rw [u16_append_encFields X _ 20 0 rfl (by decide)]
  simp only [Nat.zero_add]
  rw [if_neg (by omega), if_neg (by omega)]

theorem length_centralBytes (ls : List ZipLocal) (cs : List ZipCentral) (h : ∀ c ∈ cs, c.idx < ls.length) :
    46 * cs.length ≤ (centralBytes ls cs).length :=
  FixedLayout.length_flatMap_ge _ 46 cs fun c hc => by rw [length_central_encode ls c (h c hc)]; omega

/-- `Reader.init` on a written file: the central directory in its own order, base offset 0 -/
theorem readDirectory_zipFile (ls : List ZipLocal) (cs : List ZipCentral) (wf : ZipWF ls cs) :
    readDirectory (zipFile ls cs) = .ok (cs.map (fun c => hdrOf ls c (localOf ls c)), 0) := by
  have hE := length_eocd ls cs
  have h1 := wf.count; have h2 := wf.dirSize; have h3 := wf.dirOffset
  have hfile : zipFile ls cs = (localsBytes ls ++ centralBytes ls cs) ++ encFields (eocdFixed ls cs) := by simp [zipFile]
  have hsize : ((localsBytes ls ++ centralBytes ls cs) ++ encFields (eocdFixed ls cs)).length =
      (localsBytes ls).length + (centralBytes ls cs).length + 22 := by simp only [List.length_append, hE]
  have hdrop : ((localsBytes ls ++ centralBytes ls cs) ++ encFields (eocdFixed ls cs)).drop (localsBytes ls).length =
      centralBytes ls cs ++ encFields (eocdFixed ls cs) := by
    simp only [List.append_assoc]; exact List.drop_left' rfl
  rw [hfile]
  unfold readDirectory
  simp only [hsize, findEOCD_zipFile, u16_append_encFields _ (eocdFixed ls cs) 10 _ rfl (show cs.length < 65536 by omega),
    u32_append_encFields _ (eocdFixed ls cs) 12 _ rfl h2.1,
    u32_append_encFields _ (eocdFixed ls cs) 16 _ rfl (show (localsBytes ls).length < 4294967296 by omega)]
  have h0 : ¬ (cs.length = 65535 ∨ (centralBytes ls cs).length = 65535 ∨ (localsBytes ls).length = 4294967295) := by omega
  have hbase : (Int.ofNat (localsBytes ls ++ centralBytes ls cs).length - Int.ofNat (centralBytes ls cs).length -
      Int.ofNat (localsBytes ls).length : Int) = 0 := by
    simp only [List.length_append, Int.ofNat_eq_natCast, Int.natCast_add]; omega
  have hstart : ¬ (Int.ofNat (localsBytes ls).length < 0) := by simp only [Int.ofNat_eq_natCast]; omega
  have htn : (Int.ofNat (localsBytes ls).length).toNat = (localsBytes ls).length := rfl
  simp only [h0, false_and, if_false, hbase, Int.zero_add, Int.lt_irrefl, decide_false, Bool.false_and,
    Bool.false_eq_true, hstart, htn, hdrop]
  rw [readDir_central ls (encFields (eocdFixed ls cs)) (by intro e; rw [e] at hE; cases hE) (by omega) wf.names h3 cs _ []
    wf.centrals]
  · simp only [List.reverse_nil, List.nil_append, List.length_map, Nat.mod_eq_of_lt (show cs.length < 65536 by omega)]
    simp; omega
  · have := length_centralBytes ls cs (fun c hc => (wf.centrals c hc).1)
    omega

/-! ### `File.Open` + `io.Copy` -/

theorem localsBytes_split (ls : List ZipLocal) (i : Nat) (l : ZipLocal) (h : ls[i]? = some l) :
    localsBytes ls = localsBytes (ls.take i) ++ (l.encode ++ localsBytes (ls.drop (i + 1))) := by
  obtain ⟨hi, hl⟩ := List.getElem?_eq_some_iff.1 h
  have : ls = ls.take i ++ l :: ls.drop (i + 1) := by
    rw [← hl, List.getElem_cons_drop, List.take_append_drop]
  conv => lhs; rw [this]
  simp [localsBytes]

theorem openMember_stored (file : Bytes) (h : CDH) (l : ZipLocal) (T : Bytes)
    (hat : file.drop h.offset = l.encode ++ T) (hn : l.name.length < 65536) (hx : l.extra.length < 65536)
    (hm : h.method = 0) (hf : h.flags = 0) (hcs : h.csize = l.data.length) (hus : h.usize = l.data.length)
    (hcrc : h.crc = (crc32 l.data).toNat) : openMember file 0 h = .copied l.data false := by
  generalize hR : l.name ++ (l.extra ++ (l.data ++ T)) = R
  have hat' : file.drop h.offset = encFields l.fixed ++ R := by
    rw [hat, ← hR]; simp only [ZipLocal.encode, List.append_assoc]
  have hlen := length_local_fixed l
  have hsig : (encFields l.fixed ++ R).take 4 = sigLFH := field_at l.fixed R 0 4 _ rfl
  have hbody : file.drop (h.offset + 30 + l.name.length + l.extra.length) = l.data ++ T := by
    rw [show h.offset + 30 + l.name.length + l.extra.length = h.offset + (30 + l.name.length + l.extra.length) by omega,
      ← List.drop_drop, hat', ← hR, ← List.append_assoc, ← List.append_assoc]
    exact List.drop_left' (by simp only [List.length_append, hlen])
  have hoff : (Int.ofNat h.offset + 0).toNat = h.offset := rfl
  have h30 : ¬ (encFields l.fixed ++ R).length < 30 := by rw [List.length_append, hlen]; omega
  unfold openMember
  simp only [show ¬ (Int.ofNat h.offset + 0 < 0) by simp only [Int.ofNat_eq_natCast, Int.add_zero]; omega, if_false, hoff,
    hat', hsig, h30, ne_eq, not_true, u16_encFields l.fixed R 26 _ rfl hn, u16_encFields l.fixed R 28 _ rfl hx, hbody]
  simp only [hm, hf, hcs, hus, hcrc, not_true, false_and, and_self, and_false, if_false, if_true,
    List.take_left' (rfl : l.data.length = l.data.length), show ¬ (0 / 8 % 2 = 1) by decide]
  by_cases he : l.data.length = 0
  · simp [List.eq_nil_of_length_eq_zero he, checksumCopy]
  · simp [he, checksumCopy]

theorem openMember_zipFile (ls : List ZipLocal) (cs : List ZipCentral) (wf : ZipWF ls cs) (c : ZipCentral) (hc : c ∈ cs) :
    openMember (zipFile ls cs) 0 (hdrOf ls c (localOf ls c)) = .copied (localOf ls c).data false := by
  have hl := localOf_get ls c (wf.centrals c hc).1
  obtain ⟨hn, hx, _⟩ := wf.names _ (List.mem_of_getElem? hl)
  refine openMember_stored _ _ (localOf ls c) (localsBytes (ls.drop (c.idx + 1)) ++ (centralBytes ls cs ++ encFields (eocdFixed ls cs)))
    ?_ hn hx rfl rfl rfl rfl rfl
  simp only [zipFile, hdrOf]
  rw [localsBytes_split ls c.idx _ hl]
  simp only [List.append_assoc]
  exact List.drop_left' rfl

theorem readZip_zipFile (ls : List ZipLocal) (cs : List ZipCentral) (wf : ZipWF ls cs) :
    readZip (zipFile ls cs) = .ok (cs.map (ZipCentral.entry ls)) := by
  unfold readZip
  rw [readDirectory_zipFile ls cs wf]
  have hnul : (cs.map (fun c => hdrOf ls c (localOf ls c))).any (fun h => h.name.any (· = 0)) = false := by
    rw [List.any_eq_false]
    intro h hh
    simp only [List.mem_map] at hh
    obtain ⟨c, hc, rfl⟩ := hh
    have hmem : localOf ls c ∈ ls := List.mem_of_getElem? (localOf_get ls c (wf.centrals c hc).1)
    have := wf.noNUL _ hmem
    simp only [hdrOf, List.any_eq_true, decide_eq_true_eq, not_exists, not_and]
    intro x hx e
    subst e
    exact this hx
  simp only [hnul, Bool.false_eq_true, if_false, List.map_map]
  congr 1
  apply List.map_congr_left
  intro c hc
  simp only [Function.comp, entry_eq, openMember_zipFile ls cs wf c hc]
  cases isDirOf (hdrOf ls c (localOf ls c)) <;> rfl

end LlgoVerif.Zip
