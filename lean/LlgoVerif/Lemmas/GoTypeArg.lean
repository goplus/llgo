import LlgoVerif.Lemmas.GoTypeClass
import LlgoVerif.Lemmas.GoTypeKey
namespace LlgoVerif.Types

section
variable {E : List (Nat × Key)} (hE : Coherent E)

/-- `classOf` for a type argument (`argStr` writes no `_llgo_`, so `classOf` does not apply); `basicString .unsafePointer` is the
    basic name with a dot -/
def argAtomClass (s : Str) : AtomClass :=
  if s = basicString .unsafePointer then .basic else if '.' ∈ s then .dotted else plainClass s

def argClassOf (s : Str) : Head × Option AtomClass :=
  match s with
  | '*' :: _ => (.ptr, none)
  | '[' :: _ => (.slice, none)
  | _ => (.atom, some (argAtomClass s))

theorem argClassOf_clean {s : Str} (h : Clean s) : argClassOf s = (.atom, some (argAtomClass s)) := by
  unfold argClassOf
  split
  · exact absurd (List.mem_cons_self ..) (not_mem_of_all h (by decide))
  · exact absurd (List.mem_cons_self ..) (not_mem_of_all h (by decide))
  · rfl

theorem argStr_unalias (t : GoType) : argStr (unalias t) = argStr t := unalias_congr argStr (fun _ _ => by rw [argStr]) t

theorem basicGoName_ne_unsafe (k : BasicKind) : basicGoName k ≠ basicString .unsafePointer := fun e =>
  not_mem_of_all (basicGoName_ident k) (x := '.') (by decide) (by rw [e, basicString_unsafe]; decide)

theorem basicString_inj {k k' : BasicKind} (h : basicString k = basicString k') : k = k' := by
  rcases basicString_eq k with e | rfl <;> rcases basicString_eq k' with e' | rfl
  · rw [e, e'] at h; exact basicGoName_inj h
  · rw [e] at h; exact absurd h (basicGoName_ne_unsafe k)
  · rw [e'] at h; exact absurd h.symm (basicGoName_ne_unsafe k')
  · rfl

theorem class_argStr (t : GoType) (h : wfArg t = true) : HasClass (unalias t) (argClassOf (argStr t)) := by
  fun_induction wfArg t with
  | case1 _ a ih => rw [argStr, unalias]; exact ih h
  | case2 k =>
    refine .of_eq (.basic k) ?_
    rw [argStr, argClassOf_clean (basicString_clean k).1, argAtomClass]
    rcases basicString_eq k with e | rfl
    · rw [e, if_neg (basicGoName_ne_unsafe k), if_neg (not_mem_of_all (basicGoName_ident k) (by decide)), plainClass_basic]
    · rw [if_pos rfl]
  | case3 e => exact .pointer e
  | case4 e => exact .slice e
  | case5 d pkg name sc targs =>
    obtain ⟨e, hk, _, hun⟩ := argStr_named d pkg name sc targs h
    have hn := hk.1
    rw [key_name] at hn
    cases pkg with
    | none =>
      refine .of_eq (.plain d name sc targs) ?_
      rw [e, show renderKey (keyOf none name sc) = name by simp [keyOf, renderKey, keyStem, scopeIdx], argClassOf_clean (identOk_clean hn),
        argAtomClass, if_neg, if_neg (identOk_notin hn (by decide)), plainClass_other (r := name) hk.2.2]
      exact fun e' => identOk_notin hn (c := '.') (by decide) (by rw [e']; decide)
    | some p =>
      refine .of_eq (.dotted d p name sc targs) ?_
      rw [e, argClassOf_clean (renderKey_clean hk), argAtomClass, if_neg, if_pos (by simp [keyOf, renderKey, keyStem])]
      -- `basicString .unsafePointer` would have to be the type `Pointer` of the package `litUnsafeName`
      intro e'
      have kk : KeyOk ((some litUnsafeName, basicChars .unsafePointer, []) : Key) := ⟨by decide, all_lit _ (by decide)⟩
      have : keyOf (some p) name sc = ((some litUnsafeName, basicChars .unsafePointer, []) : Key) :=
        (renderKey_iff hk kk).1 (by rw [e', basicString_unsafe]; decide)
      simp only [keyOf, Prod.mk.injEq, Option.some.injEq] at this
      exact hun p rfl this.1
  | case6 => cases h

theorem arg_by_head {t₁ t₂ : GoType} (ht : unalias t₁ = t₁) (h1 : wfArg t₁ = true ∧ declKeys t₁ ⊆ E) (h2 : wfArg t₂ = true ∧ declKeys t₂ ⊆ E)
    (key : ∀ u, wfArg u = true ∧ declKeys u ⊆ E → SameHead t₁ u → (argStr t₁ = argStr u ↔ identical t₁ u = true)) :
    argStr t₁ = argStr t₂ ↔ identical t₁ t₂ = true :=
  iff_by_head (cls := argClassOf) argStr_unalias
    (fun t h => by rwa [wfArg_unalias, declKeys_unalias])
    (fun t h => class_argStr t h.1) ht h1 h2 key

include hE in
theorem argInj (t₁ t₂ : GoType) (w1 : wfArg t₁ = true) (w2 : wfArg t₂ = true) (s1 : declKeys t₁ ⊆ E) (s2 : declKeys t₂ ⊆ E) :
    argStr t₁ = argStr t₂ ↔ identical t₁ t₂ = true := by
  fun_induction wfArg t₁ generalizing t₂ with
  | case1 _ a ih =>
    simp only [argStr, identical]
    exact ih t₂ w1 w2 (by simpa [declKeys] using s1) s2
  | case2 k =>
    refine arg_by_head rfl ⟨w1, s1⟩ ⟨w2, s2⟩ fun u ⟨w2', _⟩ hd => ?_
    cases hd with | basic _ k' =>
    simp only [wfArg, Bool.and_eq_true, bne_iff_ne, ne_eq] at w1 w2'
    simp only [argStr, identical, unalias, beq_iff_eq, normBasic_canon w1.1 w1.2, normBasic_canon w2'.1 w2'.2]
    exact ⟨basicString_inj, congrArg _⟩
  | case3 e ih =>
    refine arg_by_head rfl ⟨w1, s1⟩ ⟨w2, s2⟩ fun u ⟨w2', s2'⟩ hd => ?_
    cases hd with | pointer _ e' =>
    simp only [argStr, identical, unalias, List.cons.injEq, true_and]
    exact ih e' w1 w2' (by simpa [declKeys] using s1) (by simpa [declKeys] using s2')
  | case4 e ih =>
    refine arg_by_head rfl ⟨w1, s1⟩ ⟨w2, s2⟩ fun u ⟨w2', s2'⟩ hd => ?_
    cases hd with | slice _ e' =>
    simp only [argStr, identical, unalias, List.cons.injEq, true_and]
    exact ih e' w1 w2' (by simpa [declKeys] using s1) (by simpa [declKeys] using s2')
  | case5 d pkg name sc targs =>
    refine arg_by_head rfl ⟨w1, s1⟩ ⟨w2, s2⟩ fun u ⟨w2', s2'⟩ hd => ?_
    cases hd with | named _ _ _ _ _ d' pkg' name' sc' targs' =>
    obtain ⟨e1, k1, tn1, _⟩ := argStr_named d pkg name sc targs w1
    obtain ⟨e2, k2, tn2, _⟩ := argStr_named d' pkg' name' sc' targs' w2'
    rw [e1, e2, renderKey_iff k1 k2, ← hE.named s1 s2']
    subst tn1; subst tn2
    simp only [identical, unalias, identicalL, Bool.and_true, beq_iff_eq]
  | case6 => cases w1

/-- `strings.Join` read from its first element: `argStrs (.cons t r) = argStr t ++ argsTail r` -/
def argsTail : TList → Str
  | .nil => []
  | .cons t r => ',' :: (argStr t ++ argsTail r)

theorem argStrs_cons : ∀ (t : GoType) (r : TList), argStrs (.cons t r) = argStr t ++ argsTail r
  | t, .nil => by simp [argStrs, argsTail, TList.isNil]
  | t, .cons u r => by rw [argStrs, argsTail, ← argStrs_cons u r]; simp [TList.isNil]

theorem argsTail_shape (r : TList) : argsTail r = [] ∨ ∃ b, argsTail r = ',' :: b := by
  cases r
  · exact .inl rfl
  · exact .inr ⟨_, rfl⟩

include hE in
theorem argsTail_iff : ∀ (l₁ l₂ : TList), wfArgs l₁ = true → wfArgs l₂ = true → declKeysL l₁ ⊆ E → declKeysL l₂ ⊆ E →
    (argsTail l₁ = argsTail l₂ ↔ identicalL l₁ l₂ = true)
  | .nil, .nil, _, _, _, _ => by simp [argsTail, identicalL]
  | .nil, .cons _ _, _, _, _, _ => by simp [argsTail, identicalL]
  | .cons _ _, .nil, _, _, _, _ => by simp [argsTail, identicalL]
  | .cons t r, .cons t' r', w1, w2, s1, s2 => by
    simp only [wfArgs, Bool.and_eq_true] at w1 w2
    simp only [declKeysL, List.append_subset] at s1 s2
    simp only [argsTail, identicalL, Bool.and_eq_true, List.cons.injEq, true_and]
    rw [splitFirst_or_end ',' (argStr_inv t w1.1).2 (argStr_inv t' w2.1).2 (argsTail_shape r) (argsTail_shape r'),
      argInj hE t t' w1.1 w2.1 s1.1 s2.1, argsTail_iff r r' w1.2 w2.2 s1.2 s2.2]

include hE in
theorem argsPart_iff {l₁ l₂ : TList} (w1 : wfArgs l₁ = true) (w2 : wfArgs l₂ = true) (s1 : declKeysL l₁ ⊆ E) (s2 : declKeysL l₂ ⊆ E) :
    argsPart l₁ = argsPart l₂ ↔ identicalL l₁ l₂ = true := by
  rw [← argsTail_iff hE l₁ l₂ w1 w2 s1 s2]
  unfold argsPart
  cases l₁ <;> cases l₂
  · simp [TList.isNil]
  · simp [TList.isNil, argsTail]
  · simp [TList.isNil, argsTail]
  · simp only [TList.isNil, Bool.false_eq_true, if_false, argStrs_cons, argsTail, List.cons_append, List.cons.injEq, true_and, List.append_cancel_right_eq]

end

end LlgoVerif.Types
