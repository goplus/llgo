/-! Records written field by field with fixed widths (tar header block; zip local, central and end records), and the
    length bound behind the fuel of the three readers (`length_flatMap_ge`). -/
namespace LlgoVerif.FixedLayout

def bytes {α : Type} (enc : Nat → α → List UInt8) : List (Nat × α) → List UInt8
  | [] => []
  | (w, v) :: fs => enc w v ++ bytes enc fs

/-- `fieldAt … = some …` by `rfl` at a read checks the offset tables of archive/tar and archive/zip -/
def fieldAt {α : Type} : List (Nat × α) → Nat → Option (Nat × α)
  | [], _ => none
  | (w, v) :: fs, off => if off = 0 then some (w, v) else if w ≤ off then fieldAt fs (off - w) else none

def WF {α : Type} (enc : Nat → α → List UInt8) : List (Nat × α) → Prop
  | [] => True
  | (w, v) :: fs => (enc w v).length = w ∧ WF enc fs

theorem drop_take {α : Type} (enc : Nat → α → List UInt8) (fs : List (Nat × α)) (wf : WF enc fs) (rest : List UInt8) :
    ∀ (off w : Nat) (v : α), fieldAt fs off = some (w, v) → ((bytes enc fs ++ rest).drop off).take w = enc w v := by
  intro off w v h
  fun_induction fieldAt fs off with
  | case1 => cases h
  | case2 w0 v0 fs =>
    cases h
    simp only [bytes, List.drop_zero, List.append_assoc]
    exact List.take_left' wf.1
  | case3 w0 v0 fs off h0 hle ih =>
    simp only [bytes, List.append_assoc]
    rw [List.drop_append, List.drop_eq_nil_of_le (by rw [wf.1]; exact hle), List.nil_append, wf.1]
    exact ih wf.2 h
  | case4 => cases h

theorem length_flatMap_ge {α β : Type} (f : α → List β) (n : Nat) (l : List α) (h : ∀ x ∈ l, n ≤ (f x).length) :
    n * l.length ≤ (l.flatMap f).length := by
  induction l with
  | nil => simp
  | cons x xs ih =>
    have h1 := h x (List.mem_cons_self ..)
    have h2 := ih fun y hy => h y (List.mem_cons_of_mem _ hy)
    simp only [List.flatMap_cons, List.length_append, List.length_cons, Nat.mul_add, Nat.mul_one]
    omega

end LlgoVerif.FixedLayout
