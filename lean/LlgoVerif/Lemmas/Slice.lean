import LlgoVerif.Spec.Slice
import LlgoVerif.Lemmas.SliceHeap
/-! A primed name states what the unprimed theorem of `Props/C05.lean` states (`slice3_window'` about the result `slice3_ok`
    names): C03's modules import this file, not that one. -/
namespace LlgoVerif.Slice

/-- for the upper bound: the last step starts below `newLen` -/
theorem capLoop_bounds (newLen newcap : Int) (h : 0 ≤ newcap) :
    newLen ≤ capLoop newLen newcap ∧ newcap < capLoop newLen newcap ∧
    (newcap < newLen → capLoop newLen newcap ≤ newLen + (newLen + 768) / 4) := by
  fun_induction capLoop newLen newcap with
  | case1 newcap nc hc ih =>
    have := ih (by omega); omega
  | case2 newcap nc hc =>
    omega

theorem capLoop_pos (newLen newcap : Int) (h : 0 ≤ newcap) : newcap < capLoop newLen newcap :=
  (capLoop_bounds newLen newcap h).2.1

theorem nextslicecap_big (L c : Int) (h : L > c + c) : nextslicecap L c = L := by
  unfold nextslicecap; simp only; rw [if_pos h]

theorem nextslicecap_small (L c : Int) (h1 : ¬ L > c + c) (h2 : c < 256) : nextslicecap L c = c + c := by
  unfold nextslicecap; simp only; rw [if_neg h1, if_pos h2]

theorem nextslicecap_loop (L c : Int) (h1 : ¬ L > c + c) (h2 : ¬ c < 256) :
    nextslicecap L c = if capLoop L c ≤ 0 then L else capLoop L c := by
  unfold nextslicecap; simp only; rw [if_neg h1, if_neg h2]

theorem nextslicecap_bounds (L c : Int) : L ≤ nextslicecap L c ∧ (0 ≤ c ∧ c < L → nextslicecap L c ≤ 3 * L) := by
  by_cases h1 : L > c + c
  · rw [nextslicecap_big L c h1]; omega
  · by_cases h2 : c < 256
    · rw [nextslicecap_small L c h1 h2]; omega
    · rw [nextslicecap_loop L c h1 h2]
      have := capLoop_bounds L c (by omega)
      split <;> omega

theorem le_nextslicecap (L c : Int) : L ≤ nextslicecap L c := (nextslicecap_bounds L c).1

theorem growSlice_congr (pol pol' : Int → Int → Int) (m : Mem) (s : Slice) (num esz : Int)
    (h : s.cap < s.len + num → pol (s.len + num) s.cap = pol' (s.len + num) s.cap) :
    GrowSlice pol m s num esz = GrowSlice pol' m s num esz := by
  unfold GrowSlice
  simp only
  split
  · rw [h ‹_›]
  · rfl

theorem growSlice_fit (pol : Int → Int → Int) (m : Mem) (s : Slice) (num esz : Int) (h : s.len + num ≤ s.cap) :
    GrowSlice pol m s num esz = .ok (m, { s with len := s.len + num }) := by
  unfold GrowSlice
  simp only
  rw [if_neg (by omega)]

/-- the old bytes lie below `m.next`, where the zeroed block starts: the copy is defined; a copy skipped for `len = 0` is empty -/
theorem growSlice_grow (pol : Int → Int → Int) (m : Mem) (s : Slice) (num esz : Int) (h : s.cap < s.len + num)
    (hesz : 0 ≤ esz) (hwf : WF m s esz) :
    GrowSlice pol m s num esz =
      .ok (memmove (allocZ m (pol (s.len + num) s.cap * esz).toNat).2 m.next s.data (s.len * esz).toNat,
        ⟨m.next, s.len + num, pol (s.len + num) s.cap⟩) := by
  have hLc : s.len * esz ≤ s.cap * esz := Int.mul_le_mul_of_nonneg_right hwf.len_le_cap hesz
  have := hwf.inb
  unfold GrowSlice
  simp only
  rw [if_pos h, memcpy_if _ _ _ _ _ (fun hz => by rw [Decidable.not_not.1 hz, Int.zero_mul]; rfl)
    (not_overlaps_above (by rw [allocZ_fst]; omega))]
  rfl

theorem sliceAppend_eq (cfg : Cfg) (pol : Int → Int → Int) (m m1 : Mem) (s s1 : Slice) (data : Nat) (num esz : Int)
    (hz : cfg.zeroSizeFix = true ∨ esz ≠ 0) (hL : 0 ≤ s.len * esz) (hg : GrowSlice pol m s num esz = .ok (m1, s1))
    (ho : cfg.memmoveFix = true ∨ ¬ overlaps (s1.data + (s.len * esz).toNat) data (num * esz).toNat) :
    SliceAppend cfg pol m s data num esz =
      .ok (memmove m1 (s1.data + (s.len * esz).toNat) data (num * esz).toNat, s1) := by
  unfold SliceAppend
  rw [if_neg (by rcases hz with h | h <;> simp [h]), hg]
  simp only
  rw [advance_nonneg _ _ hL]
  by_cases hf : cfg.memmoveFix = true
  · rw [if_pos hf]
  · rw [if_neg hf, memcpy_ok _ _ _ _ (ho.resolve_left hf)]

/-- If the slice fits, the appended bytes are moved behind the old ones in place; otherwise behind their copy in the fresh block,
    which starts at `m.next`, above the appended bytes and everything the frame condition speaks of. -/
theorem append_ok (cfg : Cfg) (pol : Int → Int → Int) (m : Mem) (s : Slice) (data : Nat) (num esz : Int)
    (hpol : s.len + num ≤ pol (s.len + num) s.cap) (hesz : 0 ≤ esz) (hnum : 0 ≤ num) (hwf : WF m s esz)
    (hsrc : data + (num * esz).toNat ≤ m.next)
    (hz : cfg.zeroSizeFix = true ∨ esz ≠ 0)
    (ho : cfg.memmoveFix = true ∨
      (s.len + num ≤ s.cap → ¬ overlaps (s.data + (s.len * esz).toNat) data (num * esz).toNat)) :
    AppendSpec cfg pol m s data num esz := by
  have hL0 : 0 ≤ s.len * esz := Int.mul_nonneg hwf.len_nonneg hesz
  have hsplit : ((s.len + num) * esz).toNat = (s.len * esz).toNat + (num * esz).toNat := by
    rw [Int.add_mul, Int.toNat_add hL0 (Int.mul_nonneg hnum hesz)]
  have hlen := Int.add_nonneg hwf.len_nonneg hnum
  have heq := fun m1 s1 => sliceAppend_eq cfg pol m m1 s s1 data num esz hz hL0
  unfold AppendSpec view
  by_cases hfit : s.len + num ≤ s.cap
  · refine ⟨_, _, heq _ _ (growSlice_fit pol m s num esz hfit) (ho.imp_right fun h => h hfit), rfl, hfit, ?_,
      ⟨fun _ => hfit, fun _ => rfl⟩, fun a ha hna => ?_, ⟨hlen, hfit, hwf.data_lt, hwf.inb⟩, Nat.le_refl _⟩
    · simp only [hsplit]; exact read_memmove_behind ..
    · rw [memmove_bytes, if_neg (by simp only; omega)]
  · have hLc : s.len * esz ≤ s.cap * esz := Int.mul_le_mul_of_nonneg_right hwf.len_le_cap hesz
    have hdl := hwf.data_lt
    have hinb := hwf.inb
    refine ⟨_, _, heq _ _ (growSlice_grow pol m s num esz (by omega) hesz hwf) (.inr (not_overlaps_above (by simp only; omega))),
      rfl, hpol, ?_, ⟨fun h => by simp only at h; omega, fun h => absurd h hfit⟩, fun a ha _ => ?_, ⟨hlen, hpol, ?_, ?_⟩, ?_⟩
    · simp only [hsplit]
      rw [read_memmove_behind, read_memmove, read_memmove_out _ _ _ _ _ _ (.inl (by omega)),
        read_allocZ_below _ _ _ _ (by omega), read_allocZ_below _ _ _ _ hsrc]
    · rw [memmove_bytes, if_neg (by simp only; omega), memmove_bytes, if_neg (by omega), allocZ_bytes, if_neg (by omega)]
    all_goals simp only [memmove_next, allocZ_next]; omega

/-- the converse of `append_ok`, except when `num = 0` -/
theorem appendSpec_needs (cfg : Cfg) (pol : Int → Int → Int) (m : Mem) (s : Slice) (data : Nat) (num esz : Int)
    (hL : 0 ≤ s.len * esz) (h : AppendSpec cfg pol m s data num esz) :
    (cfg.zeroSizeFix = false → esz = 0 → num = 0) ∧
    (cfg.memmoveFix = false → cfg.zeroSizeFix = true ∨ esz ≠ 0 → s.len + num ≤ s.cap →
      ¬ overlaps (s.data + (s.len * esz).toNat) data (num * esz).toNat) := by
  obtain ⟨m', s', heq, hlen, _⟩ := h
  unfold SliceAppend at heq
  refine ⟨fun hc hz => ?_, fun hc hz hfit ho => ?_⟩
  · rw [if_pos ⟨hz, hc⟩] at heq
    cases heq; omega
  · rw [if_neg (by rcases hz with h | h <;> simp [h])] at heq
    rw [growSlice_fit pol m s num esz hfit] at heq
    simp only [hc, advance_nonneg _ _ hL, memcpy_overlaps _ _ _ _ ho] at heq
    cases heq

/-- a copy skipped for a count `≤ 0` is the empty copy -/
theorem sliceCopy_eq (m : Mem) (dst : Slice) (data : Nat) (num esz : Int) (hesz : 0 ≤ esz) :
    SliceCopy m dst data num esz = (memmove m dst.data data (min dst.len num * esz).toNat, min dst.len num) := by
  have hmin : (if dst.len > num then num else dst.len) = min dst.len num := by split <;> omega
  unfold SliceCopy
  simp only [hmin]
  split
  · rfl
  · rw [Int.toNat_of_nonpos (Int.mul_nonpos_of_nonpos_of_nonneg (by omega) hesz), memmove_zero]

theorem slice3_ok (base : Nat) (esz cap i j k : Int) (h : 0 ≤ i ∧ i ≤ j ∧ j ≤ k ∧ k ≤ cap) :
    NewSlice3 base esz cap i j k =
      .ok { data := if k - i > 0 then advance base (i * esz) else base, len := j - i, cap := k - i } := by
  unfold NewSlice3
  rw [if_neg (by omega), if_neg (by omega), if_neg (by omega)]

theorem slice3_panic (base : Nat) (esz cap i j k : Int) (h : ¬ (0 ≤ i ∧ i ≤ j ∧ j ≤ k ∧ k ≤ cap)) :
    NewSlice3 base esz cap i j k = .error .panic := by
  unfold NewSlice3
  by_cases h1 : k < 0 ∨ k > cap
  · rw [if_pos h1]
  · rw [if_neg h1]
    by_cases h2 : j < 0 ∨ j > k
    · rw [if_pos h2]
    · rw [if_neg h2, if_pos (by omega)]

theorem slice3_window' (m : Mem) (base : Nat) (esz cap i j k : Int) (hesz : 0 ≤ esz)
    (h : 0 ≤ i ∧ i ≤ j ∧ j ≤ k ∧ k ≤ cap) :
    view m { data := if k - i > 0 then advance base (i * esz) else base, len := j - i, cap := k - i } esz =
      ((m.read base (cap * esz).toNat).drop (i * esz).toNat).take ((j - i) * esz).toNat := by
  simp only [view]
  have hi : 0 ≤ i * esz := Int.mul_nonneg h.1 hesz
  have hji : 0 ≤ (j - i) * esz := Int.mul_nonneg (by omega) hesz
  have hjc : j * esz ≤ cap * esz := Int.mul_le_mul_of_nonneg_right (by omega) hesz
  have hsub : (j - i) * esz = j * esz - i * esz := Int.sub_mul _ _ _
  rw [read_drop_take m base _ _ _ (by omega)]
  by_cases hk : k - i > 0
  · rw [if_pos hk, advance_nonneg _ _ hi]
  · rw [if_neg hk, show j - i = 0 by omega, Int.zero_mul, Int.toNat_zero, read_zero, read_zero]

theorem mulUintptr_flag (a b : Nat) :
    ((mulUintptr a b).2 = true ↔ 2 ^ 64 ≤ a * b) ∧ (mulUintptr a b).1 = a * b % 2 ^ 64 := by
  unfold mulUintptr
  split
  · rename_i hf
    refine ⟨iff_of_false Bool.false_ne_true (Nat.not_le.2 ?_), rfl⟩
    rcases hf with ⟨h1, h2⟩ | h
    · exact Nat.lt_of_lt_of_le (Nat.mul_lt_mul'' h1 h2) (by decide)
    · rw [h, Nat.zero_mul]; decide
  · rename_i hf
    have ha0 : 0 < a := Nat.pos_of_ne_zero fun h => hf (Or.inr h)
    refine ⟨?_, rfl⟩
    rw [decide_eq_true_eq, gt_iff_lt, Nat.div_lt_iff_lt_mul ha0, Nat.mul_comm b a]
    omega

theorem makeSlice_panic (m : Mem) (len cap esz : Int) (h : len < 0 ∨ len > cap) :
    MakeSlice m len cap esz = .error .panic := by
  unfold MakeSlice
  simp only
  rw [if_pos (by omega)]

/-- the byte-size test of `MakeSlice` (and of C03's `NewChan`) on operands that are `int`s -/
theorem mulUintptr_size (esz n : Int) (hesz : 0 ≤ esz ∧ esz < 2 ^ 63) (hn : 0 ≤ n ∧ n < 2 ^ 63) :
    let r := mulUintptr (uintptr esz) (uintptr n)
    (r.2 = true ∨ r.1 > maxAlloc ↔ ¬ n * esz ≤ 2 ^ 48) ∧ (n * esz ≤ 2 ^ 48 → r.1 = (n * esz).toNat) := by
  obtain ⟨a, rfl⟩ := Int.eq_ofNat_of_zero_le hesz.1
  obtain ⟨b, rfl⟩ := Int.eq_ofNat_of_zero_le hn.1
  unfold maxAlloc
  dsimp only
  rw [uintptr_nonneg _ ⟨hesz.1, by omega⟩, uintptr_nonneg _ ⟨hn.1, by omega⟩, Int.toNat_natCast, Int.toNat_natCast,
    (mulUintptr_flag a b).1, (mulUintptr_flag a b).2, ← Int.natCast_mul, Nat.mul_comm b a, Int.toNat_natCast]
  generalize a * b = P
  omega

theorem makeSlice_cases (m : Mem) (len cap esz : Int) (hc : cap < 2 ^ 63) (he : 0 ≤ esz ∧ esz < 2 ^ 63) :
    (0 ≤ len ∧ len ≤ cap ∧ cap * esz ≤ 2 ^ 48 →
      MakeSlice m len cap esz = .ok ((allocZ m (cap * esz).toNat).2, ⟨m.next, len, cap⟩)) ∧
    (¬ (0 ≤ len ∧ len ≤ cap ∧ cap * esz ≤ 2 ^ 48) → MakeSlice m len cap esz = .error .panic) := by
  by_cases hneg : cap < 0
  · exact ⟨fun h => by omega, fun _ => makeSlice_panic m len cap esz (by omega)⟩
  · obtain ⟨hbad, hsz⟩ := mulUintptr_size esz cap he ⟨by omega, hc⟩
    unfold MakeSlice
    simp only
    constructor
    · intro ⟨h0, h1, h2⟩
      rw [if_neg (by rw [← or_assoc, hbad]; omega), hsz h2]; rfl
    · intro h
      rw [if_pos (by rw [← or_assoc, hbad]; omega)]

theorem makeSlice_panics_iff (m : Mem) (len cap esz : Int) (hesz : 0 ≤ esz ∧ esz < 2 ^ 63) (hcap : cap < 2 ^ 63) :
    MakeSlice m len cap esz = .error .panic ↔ ¬ (0 ≤ len ∧ len ≤ cap ∧ cap * esz ≤ 2 ^ 48) := by
  obtain ⟨hok, hpanic⟩ := makeSlice_cases m len cap esz hcap hesz
  exact ⟨fun h hr => (by rw [hok hr] at h; cases h), hpanic⟩

theorem makeSlice_ok (m : Mem) (len cap esz : Int) (h : 0 ≤ len ∧ len ≤ cap) (hesz : 0 ≤ esz)
    (hb : cap < 2 ^ 63 ∧ esz < 2 ^ 63) (hsz : cap * esz ≤ 2 ^ 48) :
    ∃ m', MakeSlice m len cap esz = .ok (m', ⟨m.next, len, cap⟩) ∧
      (∀ i, i < (cap * esz).toNat → m'.bytes (m.next + i) = 0) ∧
      (∀ a, a < m.next → m'.bytes a = m.bytes a) ∧ WF m' ⟨m.next, len, cap⟩ esz :=
  ⟨_, (makeSlice_cases m len cap esz hb.1 ⟨hesz, hb.2⟩).1 ⟨h.1, h.2, hsz⟩,
    fun i hi => by rw [allocZ_bytes, if_pos (by omega)],
    fun a ha => by rw [allocZ_bytes, if_neg (by omega)],
    ⟨h.1, h.2, by rw [allocZ_next]; exact Nat.lt_succ_of_le (Nat.le_add_right _ _), by rw [allocZ_next]; exact Nat.le_succ _⟩⟩

theorem stringSlice_spec' (base : List Nat) (i j : Int) :
    StringSlice base i j =
      if 0 ≤ i ∧ i ≤ j ∧ j ≤ base.length then .ok ((base.drop i.toNat).take (j - i).toNat) else .error .panic := by
  unfold StringSlice
  by_cases h : 0 ≤ i ∧ i ≤ j ∧ j ≤ base.length
  · rw [if_neg (by omega), if_pos h]
    by_cases hi : i < base.length
    · rw [if_pos hi]
    · rw [if_neg hi, show j - i = 0 by omega, Int.toNat_zero, List.take_zero]
  · rw [if_pos (by omega), if_neg h]

end LlgoVerif.Slice
