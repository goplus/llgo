import LlgoVerif.Model.Shell
/-!
# Lemmas for C17

One block of lemmas per modelled function, each ending in what the function does on input rendered the documented way. Shared between
the three quoting forms of `shellparse`: `Reads` (the scanner reads an encoded word back), `run_joined`, `parse_joined`.
-/
namespace LlgoVerif.Shell

/-- a character that needs no quoting: not white space (`unicode.IsSpace`) and not a quote character -/
def plainChar (c : Char) : Bool := !isSpace c && c != '"' && c != '\''

/-- words separated by one blank, no quoting at all -/
def pjoin : List (List Char) → List Char
  | [] => []
  | [a] => a
  | a :: b :: as => a ++ ' ' :: pjoin (b :: as)

/-- a link-directive template, seen as what its author meant: literal text and references to variables -/
inductive Piece where
  | lit (text : List Char)
  | var (name : List Char)          -- written `${name}`

def Piece.render : Piece → List Char
  | .lit t => t
  | .var n => '$' :: '{' :: (n ++ ['}'])

def Piece.denote (env : List Char → List Char) : Piece → List Char
  | .lit t => t
  | .var n => env n

def renderAll (ps : List Piece) : List Char := (ps.map Piece.render).flatten
def denoteAll (env : List Char → List Char) (ps : List Piece) : List Char := (ps.map (Piece.denote env)).flatten

def Piece.WF : Piece → Prop
  | .lit t => '$' ∉ t
  | .var n => n ≠ [] ∧ '}' ∉ n ∧ '$' ∉ n

/-! ## Unfolding equations

`run`, `readContent` and `flagsLoop` are defined by well-founded recursion: they do not unfold by `rfl` or `decide`, these are
the equations to rewrite with. -/

theorem run_nil (s : St) : run s [] = s := by rw [run]

theorem run_cons (s : St) (r : Char) (rest : List Char) :
    run s (r :: rest) = run (step s r rest.head?).1 (if (step s r rest.head?).2 then rest.tail else rest) := by
  rw [run]

theorem readContent_nil (cur : List Byte) : readContent cur [] = (cur, []) := by rw [readContent]

theorem readContent_cons (cur : List Byte) (c : Byte) (rest : List Byte) :
    readContent cur (c :: rest) =
      if c = 92 then
        match rest with
        | n :: rest' => if isBlank n then readContent (n :: cur) rest' else readContent (c :: cur) (n :: rest')
        | [] => (c :: cur, [])
      else if isBlank c then
        if (skipSp rest).head? = some 45 then (cur, skipSp rest)
        else readContent (32 :: cur) (skipSp rest)
      else readContent (c :: cur) rest := by
  rw [readContent.eq_def]
  rfl

/-- what `flagsLoop` does with the flag it has just finished, twice in its body -/
def push (acc : List (List Byte)) (cur : List Byte) : List (List Byte) :=
  if cur.isEmpty then acc else acc ++ [trimSpace cur.reverse]

theorem flagsLoop_nil (acc : List (List Byte)) (cur : List Byte) : flagsLoop acc cur [] = push acc cur := by
  rw [flagsLoop.eq_def]; rfl

theorem flagsLoop_cons2 (acc : List (List Byte)) (cur : List Byte) (a c : Byte) (l2 : List Byte) :
    flagsLoop acc cur (a :: c :: l2) =
      if (skipSp l2).head? = some 45 then flagsLoop (push acc cur) [c, 45] (skipSp l2)
      else flagsLoop (push acc cur) (readContent [c, 45] (skipSp l2)).1 (readContent [c, 45] (skipSp l2)).2 := by
  rw [flagsLoop.eq_def]; rfl

abbrev St.out (args : List (List Char)) (cur : List Char) (has : Bool) : St :=
  { args := args, cur := cur, inQ := false, q := ' ', has := has }

abbrev St.inq (q : Char) (args : List (List Char)) (cur : List Char) : St :=
  { args := args, cur := cur, inQ := true, q := q, has := true }

def Reads (enc : List Char → List Char) (a : List Char) : Prop :=
  ∀ (args : List (List Char)) (rest : List Char),
    run (St.out args [] false) (enc a ++ rest)
  = run (St.out args a.reverse true) rest

theorem run_blank (args : List (List Char)) (cur rest : List Char) :
    run (St.out args cur true) (' ' :: rest)
  = run (St.out (args ++ [cur.reverse]) [] false) rest := by
  rw [run_cons]; rfl

theorem run_esc (a : List Char) : ∀ (args : List (List Char)) (cur rest : List Char),
    run (St.inq '"' args cur) (esc a ++ rest)
  = run (St.inq '"' args (a.reverse ++ cur)) rest := by
  induction a with
  | nil => intro args cur rest; rfl
  | cons c cs ih =>
    intro args cur rest
    by_cases h1 : c = '"'
    · subst h1; simp [esc, run_cons, step, ih]
    · by_cases h2 : c = '\\'
      · subst h2; simp [esc, run_cons, step, ih]
      · simp [esc, h1, h2, run_cons, step, ih]

theorem run_inq (a : List Char) : ∀ (args : List (List Char)) (cur rest : List Char),
    run { args := args, cur := cur, inQ := true, q := '"', has := true } (esc a ++ '"' :: rest)
  = run { args := args, cur := a.reverse ++ cur, inQ := false, q := ' ', has := true } rest := by
  intro args cur rest
  rw [run_esc, run_cons]; rfl

theorem run_unterminated (a : List Char) (args : List (List Char)) (cur : List Char) (has : Bool) :
    run (St.out args cur has) ('"' :: esc a) = St.inq '"' args (a.reverse ++ cur) := by
  have := run_esc a args cur []
  rw [List.append_nil, run_nil] at this
  rw [run_cons]
  exact this

theorem reads_quote1 (a : List Char) : Reads quote1 a := by
  intro args rest
  rw [quote1, List.cons_append, List.append_assoc, run_cons]
  exact (run_inq a args [] rest).trans (by rw [List.append_nil])

theorem run_quote1 (a : List Char) (args : List (List Char)) (rest : List Char) :
    run { args := args, cur := [], inQ := false, q := ' ', has := false } (quote1 a ++ rest)
  = run { args := args, cur := a.reverse, inQ := false, q := ' ', has := true } rest :=
  reads_quote1 a args rest

/-- the last word is still open (`cur`, `has = true`) and is closed by `parse`: hence `dropLast` / `getLast` -/
theorem run_joined {enc : List Char → List Char} {j : List (List Char) → List Char} (h1 : ∀ a, j [a] = enc a)
    (h2 : ∀ a b as, j (a :: b :: as) = enc a ++ ' ' :: j (b :: as)) :
    ∀ (as : List (List Char)) (a : List Char) (done : List (List Char)), (∀ x ∈ a :: as, Reads enc x) →
    run (St.out done [] false) (j (a :: as))
  = St.out (done ++ (a :: as).dropLast) ((a :: as).getLast (by simp)).reverse true := by
  intro as
  induction as with
  | nil =>
    intro a done h
    have := h a (List.mem_cons_self ..) done []
    rw [List.append_nil] at this
    rw [h1, this, run_nil]
    simp
  | cons b bs ih =>
    intro a done h
    obtain ⟨ha, h⟩ := List.forall_mem_cons.mp h
    rw [h2, ha, run_blank, ih b _ h]
    simp

theorem parse_joined {enc : List Char → List Char} {j : List (List Char) → List Char} (h0 : j [] = [])
    (h1 : ∀ a, j [a] = enc a) (h2 : ∀ a b as, j (a :: b :: as) = enc a ++ ' ' :: j (b :: as))
    (args : List (List Char)) (h : ∀ x ∈ args, Reads enc x) : parse (j args) = .ok args := by
  cases args with
  | nil => rw [h0, parse, run_nil]; rfl
  | cons a as =>
    rw [parse, show ({} : St) = (St.out [] [] false) from rfl,
      run_joined h1 h2 as a [] h]
    simp only [Bool.false_eq_true, if_false, if_true, List.nil_append, List.reverse_reverse]
    rw [List.dropLast_concat_getLast]

theorem run_join : ∀ (as : List (List Char)) (a : List Char) (done : List (List Char)),
    run { args := done, cur := [], inQ := false, q := ' ', has := false } (join (a :: as))
  = { args := done ++ (a :: as).dropLast, cur := ((a :: as).getLast (by simp)).reverse,
      inQ := false, q := ' ', has := true } :=
  fun as a done => run_joined (fun _ => rfl) (fun _ _ _ => rfl) as a done (fun x _ => reads_quote1 x)

/-- a word of characters each of which the scanner, in the mode `inQ q has`, takes into the current word as it is (`has` belongs
    to the mode: inside single quotes a backslash leaves it alone, an unquoted character sets it) -/
theorem run_keeps (inQ : Bool) (q : Char) (has : Bool) (args : List (List Char)) (w : List Char)
    (hw : ∀ c ∈ w, ∀ cur next, step ⟨args, cur, inQ, q, has⟩ c next = (⟨args, c :: cur, inQ, q, has⟩, false)) :
    ∀ (cur rest : List Char), run ⟨args, cur, inQ, q, has⟩ (w ++ rest) = run ⟨args, w.reverse ++ cur, inQ, q, has⟩ rest := by
  induction w with
  | nil => intro cur rest; rfl
  | cons c cs ih =>
    intro cur rest
    obtain ⟨hc, hw⟩ := List.forall_mem_cons.mp hw
    rw [List.cons_append, run_cons, hc]
    exact (ih hw (c :: cur) rest).trans (by simp)

theorem run_insq (a : List Char) (h : '\'' ∉ a) (args : List (List Char)) (cur rest : List Char) :
    run (St.inq '\'' args cur) (a ++ '\'' :: rest)
  = run (St.out args (a.reverse ++ cur) true) rest := by
  rw [St.inq, run_keeps true '\'' true args a (fun c hc cur next => by simp [step, ne_of_mem_of_not_mem hc h]), run_cons]
  rfl

theorem reads_squote1 (a : List Char) (h : '\'' ∉ a) : Reads squote1 a := by
  intro args rest
  rw [squote1, List.cons_append, List.append_assoc, run_cons]
  exact (run_insq a h args [] rest).trans (by rw [List.append_nil])

theorem step_plain {c : Char} (hc : plainChar c = true) (args : List (List Char)) (cur : List Char) (has : Bool)
    (next : Option Char) : step (St.out args cur has) c next = (St.out args (c :: cur) true, false) := by
  simp only [plainChar, Bool.and_eq_true, Bool.not_eq_true', bne_iff_ne, ne_eq] at hc
  simp [step, hc.1.1, hc.1.2, hc.2]

theorem reads_plain (a : List Char) (hne : a ≠ []) (h : ∀ c ∈ a, plainChar c = true) : Reads id a := by
  intro args rest
  cases a with
  | nil => exact absurd rfl hne
  | cons c cs =>
    obtain ⟨hc, hcs⟩ := List.forall_mem_cons.mp h
    rw [id, List.cons_append, run_cons, step_plain hc]
    exact (run_keeps false ' ' true args cs (fun d hd cur next => step_plain (hcs d hd) ..) [c] rest).trans (by simp)

theorem isBlank_45 : isBlank 45 = false := by decide
theorem isBlank_32 : isBlank 32 = true := by decide

theorem skipSp_head {l : List Byte} (h : ∀ n ∈ l.head?, isBlank n = false) : skipSp l = l := by
  cases l with
  | nil => rfl
  | cons c l => simp [skipSp, h c rfl]

/-- the head matters twice: `readContent` must not take it for a blank, the flag loop tests it for `-` -/
theorem escBlank_head (d : Byte) (ds rest : List Byte) :
    ∀ n ∈ (escBlank (d :: ds) ++ rest).head?, isBlank n = false ∧ (n = 45 → d = 45) := by
  rw [escBlank]
  split
  · rintro _ ⟨⟩; exact ⟨rfl, fun h => by cases h⟩
  · rename_i hb; rintro _ ⟨⟩; exact ⟨by simpa using hb, id⟩

/-- the blank is eaten and the scan stops at the `-`: hence the `tail` in the conclusions below -/
def sepOK (rest : List Byte) : Prop := rest = [] ∨ ∃ r, rest = 32 :: 45 :: r

theorem readContent_sep (cur : List Byte) {rest : List Byte} (hs : sepOK rest) : readContent cur rest = (cur, rest.tail) := by
  rcases hs with rfl | ⟨r, rfl⟩
  · exact readContent_nil cur
  · rw [readContent_cons]
    simp [isBlank_32, isBlank_45, skipSp]

theorem readContent_keep (cur : List Byte) (c : Byte) (l : List Byte) (hb : isBlank c = false)
    (h : c = 92 → ∀ n ∈ l.head?, isBlank n = false) : readContent cur (c :: l) = readContent (c :: cur) l := by
  rw [readContent_cons]
  split
  · rename_i h92
    cases l with
    | nil => rw [readContent_nil]
    | cons n l => simp [h h92 n rfl]
  · simp [hb]

theorem readContent_esc (content : List Byte) :
    ∀ (cur rest : List Byte), content.getLast? ≠ some 92 → sepOK rest →
      readContent cur (escBlank content ++ rest) = (content.reverse ++ cur, rest.tail) := by
  induction content with
  | nil => intro cur rest _ hs; exact readContent_sep cur hs
  | cons c cs ih =>
    intro cur rest hl hs
    have ih := fun cur => ih cur rest (fun e => hl (by rw [List.getLast?_cons, e]; rfl)) hs
    rw [escBlank]
    split
    · rename_i hb
      rw [List.cons_append, List.cons_append, readContent_cons]
      simp [hb, ih]
    · rename_i hb
      rw [List.cons_append, readContent_keep _ _ _ (by simpa using hb), ih]
      · simp
      · -- a backslash is not the last byte, and what follows it in the escaped form is not a blank
        rintro rfl
        cases cs with
        | nil => exact absurd rfl hl
        | cons d ds => exact fun n hn => (escBlank_head d ds rest n hn).1

theorem flagsLoop_flag (acc : List (List Byte)) (cur : List Byte) (f : Flag) (tail : List Byte)
    (hs : sepOK tail) (h1 : f.content.head? ≠ some 45) (h2 : f.content.getLast? ≠ some 92) :
    flagsLoop acc cur (f.render ++ tail) = flagsLoop (push acc cur) f.bytes.reverse tail.tail := by
  obtain ⟨c, content⟩ := f
  simp only [Flag.render, Flag.bytes, List.cons_append] at *
  rw [flagsLoop_cons2]
  cases content with
  | nil =>
    rcases hs with rfl | ⟨r, rfl⟩
    · simp [escBlank, skipSp, readContent_nil]
    · simp [escBlank, skipSp, isBlank_32, isBlank_45]
  | cons d ds =>
    have hd := escBlank_head d ds tail
    rw [skipSp_head (fun n hn => (hd n hn).1), if_neg (fun e => h1 (by rw [(hd 45 e).2 rfl]; rfl)),
      readContent_esc (d :: ds) [c, 45] tail h2 hs]
    simp

theorem joinFlags_cons_head (f : Flag) (fs : List Flag) : ∃ l, joinFlags (f :: fs) = 45 :: l := by
  cases fs with
  | nil => exact ⟨_, rfl⟩
  | cons g gs => exact ⟨_, rfl⟩

theorem joinFlags_sepOK (g : Flag) (fs : List Flag) : sepOK (32 :: joinFlags (g :: fs)) := by
  obtain ⟨l, hl⟩ := joinFlags_cons_head g fs
  exact .inr ⟨l, by rw [hl]⟩

theorem push_bytes (acc : List (List Byte)) (f : Flag) (h : trimSpace f.bytes = f.bytes) :
    push acc f.bytes.reverse = acc ++ [f.bytes] := by
  simp [push, Flag.bytes] at h ⊢
  exact h

theorem flagsLoop_join : ∀ (fs : List Flag) (f : Flag) (acc : List (List Byte)) (cur : List Byte),
    (∀ g ∈ f :: fs, g.WF) →
    flagsLoop acc cur (joinFlags (f :: fs)) = push acc cur ++ (f :: fs).map Flag.bytes := by
  intro fs
  induction fs with
  | nil =>
    intro f acc cur h
    have hf := h f (List.mem_cons_self ..)
    have := flagsLoop_flag acc cur f [] (Or.inl rfl) hf.1 hf.2.1
    rw [List.append_nil] at this
    rw [joinFlags, this, List.tail_nil, flagsLoop_nil, push_bytes _ f hf.2.2]
    rfl
  | cons g gs ih =>
    intro f acc cur h
    obtain ⟨hf, h⟩ := List.forall_mem_cons.mp h
    rw [joinFlags, flagsLoop_flag acc cur f _ (joinFlags_sepOK g gs) hf.1 hf.2.1, List.tail_cons,
      ih g _ _ h, push_bytes _ f hf.2.2]
    simp

theorem dedup_spec (l : List (List Char)) (seen : List (List Char)) :
    (dedup seen l).Nodup ∧ (∀ x, x ∈ dedup seen l ↔ (x ∈ l ∧ x ∉ seen)) := by
  fun_induction dedup seen l with
  | case1 => simp
  | case2 seen t ts h ih =>
    have ht : t ∈ seen := by simpa using h
    refine ⟨ih.1, fun x => ?_⟩
    rw [ih.2, List.mem_cons]
    exact ⟨fun ⟨h1, h2⟩ => ⟨.inr h1, h2⟩, fun ⟨h1, h2⟩ => ⟨h1.resolve_left (fun e => h2 (e ▸ ht)), h2⟩⟩
  | case3 seen t ts h ih =>
    have ht : t ∉ seen := by simpa using h
    refine ⟨List.nodup_cons.mpr ⟨fun hm => ((ih.2 t).mp hm).2 (List.mem_cons_self ..), ih.1⟩, fun x => ?_⟩
    rw [List.mem_cons, ih.2, List.mem_cons, List.mem_cons]
    by_cases hx : x = t <;> simp [hx, ht]

theorem blankFields_noblank (t : List Char) : ∀ (cur : List Char), (∀ c ∈ t, isBlankChar c = false) →
    blankFields cur t = if (cur.isEmpty && t.isEmpty) = true then [] else [cur.reverse ++ t] := by
  induction t with
  | nil => intro cur _; cases cur <;> simp [blankFields]
  | cons c rest ih =>
    intro cur h
    obtain ⟨hc, hr⟩ := List.forall_mem_cons.mp h
    rw [blankFields]; simp only [hc, Bool.false_eq_true, if_false]
    rw [ih (c :: cur) hr]; simp

theorem splitComma_nocomma (t : List Char) : ∀ (cur : List Char), (∀ c ∈ t, c ≠ ',') →
    splitComma cur t = [cur.reverse ++ t] := by
  induction t with
  | nil => intro cur _; simp [splitComma]
  | cons c rest ih =>
    intro cur h
    obtain ⟨hc, hr⟩ := List.forall_mem_cons.mp h
    rw [splitComma]; simp only [hc, if_false]
    rw [ih (c :: cur) hr]; simp

theorem validTagChar_ne (c : Char) (h : isValidTagChar c = true) : isBlankChar c = false ∧ c ≠ ',' ∧ c ≠ '!' := by
  have hn : ∀ d : Char, isValidTagChar d = false → c ≠ d := fun d hd e => by rw [e, hd] at h; cases h
  refine ⟨?_, hn ',' (by decide), hn '!' (by decide)⟩
  simp only [isBlankChar, Bool.or_eq_false_iff, decide_eq_false_iff_not]
  exact ⟨hn ' ' (by decide), hn '\t' (by decide)⟩

theorem evalPlusBuild_word (has : List Char → Bool) (w : List Char) (hne : w ≠ [])
    (hb : ∀ c ∈ w, isBlankChar c = false) (hc : ∀ c ∈ w, c ≠ ',') : evalPlusBuild has w = evalLit has w := by
  have hw : w.isEmpty = false := List.isEmpty_eq_false_iff.2 hne
  simp [evalPlusBuild, blankFields_noblank w [] hb, hw, evalClause, splitComma_nocomma w [] hc]

theorem evalLit_tag (has : List Char → Bool) (c : Char) (rest : List Char) (hv : isValidTag (c :: rest) = true)
    (hc : c ≠ '!') : evalLit has (c :: rest) = has (c :: rest) := by
  rw [evalLit, if_pos hv]
  -- side goals of the last equation of `evalLit`: the word is none of the `!` forms tried first
  · intro h; cases h; exact hc rfl
  · intro _ h; cases h; exact hc rfl
  · intro _ h; cases h; exact hc rfl

theorem evalLit_not_tag (has : List Char → Bool) (c : Char) (rest : List Char) (hv : isValidTag (c :: rest) = true)
    (hc : c ≠ '!') : evalLit has ('!' :: c :: rest) = !has (c :: rest) := by
  rw [evalLit, if_pos hv]
  · intro h; cases h
  · intro _ h; cases h; exact hc rfl

theorem idxOf?_append_close (n rest : List Char) (h : '}' ∉ n) :
    (n ++ '}' :: rest).idxOf? '}' = some n.length := by
  induction n with
  | nil => simp [List.idxOf?, List.findIdx?_cons]
  | cons c cs ih =>
    have hc := List.ne_of_not_mem_cons h
    have h := List.not_mem_of_not_mem_cons h
    have := ih h
    simp only [List.idxOf?, List.cons_append, List.findIdx?_cons] at this ⊢
    simp [Ne.symm hc, this]

/-- The branch for `${c}` with `c` one shell-special character gives what the search for the first `}` gives. -/
theorem shellName_brace (rest : List Char) : shellName ('{' :: rest) =
    match rest.idxOf? '}' with
    | some i => if i = 0 then ([], 2) else (rest.take i, i + 2)
    | none => ([], 1) := by
  simp only [shellName]
  split
  · split
    · rename_i c _ hc
      have : c ≠ '}' := fun e => absurd (e ▸ hc) (by decide)
      simp [List.idxOf?, List.findIdx?_cons, this]
    · rfl
  · rfl

theorem shellName_braced (n rest : List Char) (hne : n ≠ []) (h : '}' ∉ n) :
    shellName ('{' :: (n ++ '}' :: rest)) = (n, n.length + 2) := by
  rw [shellName_brace, idxOf?_append_close n rest h]
  simp [Nat.ne_of_gt (List.length_pos_iff.2 hne)]

theorem osExpand_nil (env : List Char → List Char) (fuel : Nat) : osExpand env fuel [] = [] := by
  cases fuel <;> simp [osExpand]

/-- the fuel only has to cover the text: every recursive call is on a suffix -/
theorem osExpand_succ (env : List Char → List Char) : ∀ (f : Nat) (s : List Char), s.length ≤ f →
    osExpand env (f + 1) s = osExpand env f s
  | _, [], _ => by rw [osExpand_nil, osExpand_nil]
  | f + 1, c :: cs, hf => by
    have hf := Nat.le_of_succ_le_succ hf
    have hd : (cs.drop (shellName cs).2).length ≤ f := Nat.le_trans (by rw [List.length_drop]; exact Nat.sub_le ..) hf
    simp only [osExpand]
    rw [osExpand_succ env f cs hf, osExpand_succ env f _ hd]

theorem osExpand_lit (env : List Char → List Char) (t rest : List Char) (h : '$' ∉ t) (fuel : Nat) :
    (t ++ rest).length ≤ fuel → osExpand env fuel (t ++ rest) = t ++ osExpand env fuel rest := by
  induction t with
  | nil => intro _; rfl
  | cons c cs ih =>
    intro hf
    have hc := List.ne_of_not_mem_cons h
    cases fuel with
    | zero => cases hf
    | succ f =>
      rw [List.cons_append, List.cons_append, ← ih (List.not_mem_of_not_mem_cons h) (Nat.le_of_succ_le hf),
        osExpand_succ env f (cs ++ rest) (Nat.le_of_succ_le_succ hf)]
      simp [osExpand, Ne.symm hc]

theorem osExpand_var (env : List Char → List Char) (n rest : List Char) (hne : n ≠ []) (h : '}' ∉ n) (fuel : Nat)
    (hf : rest.length < fuel) :
    osExpand env fuel ('$' :: '{' :: (n ++ '}' :: rest)) = env n ++ osExpand env fuel rest := by
  cases fuel with
  | zero => cases hf
  | succ f =>
    rw [osExpand_succ env f rest (Nat.le_of_lt_succ hf)]
    simp [osExpand, shellName_braced n rest hne h, List.drop_append, hne, List.drop_eq_nil_of_le]

theorem renderAll_cons (p : Piece) (ps : List Piece) : renderAll (p :: ps) = p.render ++ renderAll ps := by
  simp [renderAll]

theorem denoteAll_cons (env) (p : Piece) (ps : List Piece) : denoteAll env (p :: ps) = p.denote env ++ denoteAll env ps := by
  simp [denoteAll]

/-- no `$(` anywhere in the text -/
def noSub : List Char → Bool
  | [] => true
  | c :: cs => !(c = '$' && cs.head? = some '(') && noSub cs

theorem replaceSubcmds_copy (cmdOut) (fuel : Nat) (c : Char) (cs : List Char) (h : c = '$' → cs.head? ≠ some '(') :
    replaceSubcmds cmdOut (fuel + 1) (c :: cs) = (replaceSubcmds cmdOut fuel cs).map (fun p => (c :: p.1, p.2)) := by
  conv => lhs; unfold replaceSubcmds
  split
  · rename_i hc
    split
    · exact absurd rfl (h hc)
    · rfl
  · rfl

theorem replaceSubcmds_lit (cmdOut) (t s : List Char) (ht : '$' ∉ t) (fuel : Nat) :
    replaceSubcmds cmdOut (t.length + fuel) (t ++ s) = (replaceSubcmds cmdOut fuel s).map (fun p => (t ++ p.1, p.2)) := by
  induction t with
  | nil => simp
  | cons c cs ih =>
    have hc := List.ne_of_not_mem_cons ht
    have ht := List.not_mem_of_not_mem_cons ht
    rw [List.length_cons, Nat.add_right_comm, List.cons_append, replaceSubcmds_copy cmdOut _ c _ (fun e => absurd e.symm hc),
      ih ht, Option.map_map]
    rfl

theorem replaceSubcmds_noSub (cmdOut) (s : List Char) (h : noSub s = true) (fuel : Nat) :
    replaceSubcmds cmdOut fuel s = some (s, false) := by
  induction s generalizing fuel with
  | nil => cases fuel <;> rfl
  | cons c cs ih =>
    cases fuel with
    | zero => rfl
    | succ f =>
      simp only [noSub, Bool.and_eq_true, Bool.not_eq_true', Bool.and_eq_false_imp, decide_eq_true_eq, decide_eq_false_iff_not] at h
      rw [replaceSubcmds_copy cmdOut f c cs h.1, ih h.2]
      rfl

theorem noSub_append_lit (t r : List Char) (ht : '$' ∉ t) (hr : noSub r = true) : noSub (t ++ r) = true := by
  induction t with
  | nil => simpa
  | cons c cs ih =>
    have hc := List.ne_of_not_mem_cons ht
    have ht := List.not_mem_of_not_mem_cons ht
    simp [noSub, Ne.symm hc, ih ht]

theorem noSub_render (ps : List Piece) (h : ∀ p ∈ ps, p.WF) : noSub (renderAll ps) = true := by
  induction ps with
  | nil => simp [renderAll, noSub]
  | cons p ps ih =>
    obtain ⟨hp, h⟩ := List.forall_mem_cons.mp h
    have hps := ih h
    rw [renderAll_cons]
    cases p with
    | lit t => exact noSub_append_lit t _ hp hps
    | var n =>
      have e : (Piece.var n).render ++ renderAll ps = '$' :: '{' :: (n ++ '}' :: renderAll ps) := by simp [Piece.render]
      rw [e]
      have h2 : noSub ('}' :: renderAll ps) = true := by simp [noSub, hps]
      have := noSub_append_lit n _ hp.2.2 h2
      simp [noSub, this]

theorem splitParen_close (inner rest : List Char) (h : ')' ∉ inner) :
    splitParen (inner ++ ')' :: rest) = some (inner, rest) := by
  induction inner with
  | nil => simp [splitParen]
  | cons c cs ih =>
    have hc := List.ne_of_not_mem_cons h
    have h := List.not_mem_of_not_mem_cons h
    simp [splitParen, Ne.symm hc, ih h]

theorem replaceSubcmds_sub (cmdOut) (inner rest : List Char) (hne : inner ≠ []) (hi : ')' ∉ inner) (fuel : Nat) :
    replaceSubcmds cmdOut (fuel + 1) ('$' :: '(' :: (inner ++ ')' :: rest)) =
      match subcmdValue cmdOut inner, replaceSubcmds cmdOut fuel rest with
      | some (v, cfg), some (r, cfg') => some (v ++ r, cfg || cfg')
      | _, _ => none := by
  have hie : inner.isEmpty = false := List.isEmpty_eq_false_iff.2 hne
  conv => lhs; unfold replaceSubcmds
  simp only [if_true, splitParen_close inner rest hi, hie, Bool.false_eq_true, if_false]
  rfl

end LlgoVerif.Shell
