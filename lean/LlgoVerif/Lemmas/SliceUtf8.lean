import LlgoVerif.Spec.Slice
namespace LlgoVerif.Slice
open LlgoVerif.Utf8

/-- `encodeRune` with its Boolean tests as propositions -/
theorem encodeRune_eq (i : Nat) : encodeRune i =
  if i ≤ 0x7F then [i]
  else if i ≤ 0x7FF then [0xC0 + i / 64, 0x80 + i % 64]
  else if 0x10FFFF < i ∨ (0xD800 ≤ i ∧ i ≤ 0xDFFF) then [0xEF, 0xBF, 0xBD]
  else if i ≤ 0xFFFF then [0xE0 + i / 4096, 0x80 + (i / 64) % 64, 0x80 + i % 64]
  else [0xF0 + i / 262144, 0x80 + (i / 4096) % 64, 0x80 + (i / 64) % 64, 0x80 + i % 64] := by
  unfold encodeRune maxRune surrogateMin surrogateMax
  simp only [Bool.or_eq_true, Bool.and_eq_true, decide_eq_true_eq, gt_iff_lt]

theorem encode1 (r : Nat) (h : r ≤ 0x7F) : encodeRune r = [r] := by rw [encodeRune_eq, if_pos h]
theorem encode2 (r : Nat) (h : 0x7F < r) (h' : r ≤ 0x7FF) : encodeRune r = [0xC0 + r / 64, 0x80 + r % 64] := by
  rw [encodeRune_eq, if_neg (by omega), if_pos h']
theorem encode3 (r : Nat) (h : 0x7FF < r) (h' : r ≤ 0xFFFF) (hs : ¬ (0xD800 ≤ r ∧ r ≤ 0xDFFF)) :
    encodeRune r = [0xE0 + r / 4096, 0x80 + (r / 64) % 64, 0x80 + r % 64] := by
  rw [encodeRune_eq, if_neg (by omega), if_neg (by omega), if_neg (by omega), if_pos h']
theorem encode4 (r : Nat) (h : 0xFFFF < r) (h' : r ≤ 0x10FFFF) :
    encodeRune r = [0xF0 + r / 262144, 0x80 + (r / 4096) % 64, 0x80 + (r / 64) % 64, 0x80 + r % 64] := by
  rw [encodeRune_eq, if_neg (by omega), if_neg (by omega), if_neg (by omega), if_neg (by omega)]
theorem encodeErr (r : Nat) (h : 0x10FFFF < r ∨ (0xD800 ≤ r ∧ r ≤ 0xDFFF)) : encodeRune r = [0xEF, 0xBF, 0xBD] := by
  rw [encodeRune_eq, if_neg (by omega), if_neg (by omega), if_pos h]

theorem validScalar_iff (r : Nat) : validScalar r ↔ r ≤ 0x10FFFF ∧ ¬ (0xD800 ≤ r ∧ r ≤ 0xDFFF) := by
  unfold validScalar maxRune surrogateMin surrogateMax; exact Iff.rfl

theorem width2 (r : Nat) (h : 0x7F < r) (h' : r ≤ 0x7FF) : width r = 2 := by
  unfold width; rw [if_neg (by omega), if_pos h']
theorem width3 (r : Nat) (h : 0x7FF < r) (h' : r ≤ 0xFFFF) : width r = 3 := by
  unfold width; rw [if_neg (by omega), if_neg (by omega), if_pos h']
theorem width4 (r : Nat) (h : 0xFFFF < r) : width r = 4 := by
  unfold width; rw [if_neg (by omega), if_neg (by omega), if_neg (by omega)]

theorem width_pos (r : Nat) : 1 ≤ width r := by
  unfold width; repeat' split
  all_goals omega

theorem encode_length (r : Nat) (h : validScalar r) : (encodeRune r).length = width r := by
  rw [validScalar_iff] at h
  by_cases h1 : r ≤ 0x7F
  · rw [encode1 r h1, width, if_pos h1]; rfl
  · by_cases h2 : r ≤ 0x7FF
    · rw [encode2 r (by omega) h2, width2 r (by omega) h2]; rfl
    · by_cases h3 : r ≤ 0xFFFF
      · rw [encode3 r (by omega) h3 h.2, width3 r (by omega) h3]; rfl
      · rw [encode4 r (by omega) h.1, width4 r (by omega)]; rfl

/-- `s` begins with the shortest-form encoding, of width `w` (2, 3 or 4), of the scalar `r ≥ 0x80`; stated by payload digits
    (the rune is their base-64 number), so that every range condition is linear -/
inductive Canonical : List Nat → Nat → Nat → Prop
  | two (a b : Nat) (rest : List Nat) : a < 32 → b < 64 → 0x7F < a * 64 + b →
      Canonical ((0xC0 + a) :: (0x80 + b) :: rest) (a * 64 + b) 2
  | three (a b c : Nat) (rest : List Nat) : a < 16 → b < 64 → c < 64 →
      0x7FF < a * 4096 + b * 64 + c → ¬ (0xD800 ≤ a * 4096 + b * 64 + c ∧ a * 4096 + b * 64 + c ≤ 0xDFFF) →
      Canonical ((0xE0 + a) :: (0x80 + b) :: (0x80 + c) :: rest) (a * 4096 + b * 64 + c) 3
  | four (a b c d : Nat) (rest : List Nat) : a < 8 → b < 64 → c < 64 → d < 64 →
      0xFFFF < a * 262144 + b * 4096 + c * 64 + d → a * 262144 + b * 4096 + c * 64 + d ≤ 0x10FFFF →
      Canonical ((0xF0 + a) :: (0x80 + b) :: (0x80 + c) :: (0x80 + d) :: rest) (a * 262144 + b * 4096 + c * 64 + d) 4

theorem marker_mod (m k a : Nat) (hm : m % k = 0) (h : a < k) : (m + a) % k = a := by
  rw [Nat.add_mod, hm, Nat.zero_add, Nat.mod_mod, Nat.mod_eq_of_lt h]

theorem marker_add_mod (m k b : Nat) (hm : m % k = 0) (h : m ≤ b ∧ b < m + k) : m + b % k = b := by
  obtain ⟨a, rfl⟩ := Nat.exists_eq_add_of_le h.1
  rw [marker_mod m k a hm (by omega)]

theorem isCont_iff (b : Nat) : isCont b = true ↔ 0x80 ≤ b ∧ b ≤ 0xBF := by
  simp only [isCont, Bool.and_eq_true, decide_eq_true_eq]

theorem cont_add_mod (b : Nat) (h : isCont b = true) : 0x80 + b % 64 = b :=
  marker_add_mod 0x80 64 b rfl (by rw [isCont_iff] at h; omega)

theorem cont_payload (b : Nat) (h : b < 64) : (0x80 + b) % 64 = b := marker_mod 0x80 64 b rfl h
theorem cont_range (b : Nat) (h : b < 64) : 0x80 ≤ 0x80 + b ∧ 0x80 + b ≤ 0xBF := ⟨Nat.le_add_right _ _, by omega⟩

theorem digit_div (q d : Nat) (h : d < 64) : (q * 64 + d) / 64 = q := by
  rw [Nat.add_comm, Nat.add_mul_div_right _ _ (by decide), Nat.div_eq_of_lt h, Nat.zero_add]
theorem div4096 (v : Nat) : v / 4096 = v / 64 / 64 := (Nat.div_div_eq_div_mul v 64 64).symm
theorem div262144 (v : Nat) : v / 262144 = v / 64 / 64 / 64 := by
  rw [Nat.div_div_eq_div_mul, Nat.div_div_eq_div_mul]

theorem decode_canonical {s : List Nat} {r w : Nat} (h : Canonical s r w) : decodeRune s = (r, w) := by
  unfold decodeRune
  simp only [isCont, Bool.and_eq_true, decide_eq_true_eq, Bool.not_eq_true', Bool.and_eq_false_imp, decide_eq_false_iff_not]
  unfold maxRune surrogateMin surrogateMax
  cases h with
  | two a b rest ha hb hr =>
    simp only
    rw [if_pos (by omega), if_pos (cont_range b hb), marker_mod 0xC0 32 a rfl ha, cont_payload b hb, if_pos hr]
  | three a b c rest ha hb hc hr hs =>
    simp only
    rw [if_neg (by omega), if_pos (by omega), if_pos ⟨cont_range b hb, cont_range c hc⟩,
      marker_mod 0xE0 16 a rfl ha, cont_payload b hb, cont_payload c hc, if_pos ⟨hr, fun h1 h2 => hs ⟨h1, h2⟩⟩]
  | four a b c d rest ha hb hc hd hr hm =>
    simp only
    rw [if_neg (by omega), if_neg (by omega), if_pos (by omega),
      if_pos ⟨⟨cont_range b hb, cont_range c hc⟩, cont_range d hd⟩, marker_mod 0xF0 8 a rfl ha,
      (cont_payload b hb), cont_payload c hc, cont_payload d hd, if_pos ⟨hr, hm⟩]

theorem decodeRune_cases (s : List Nat) : decodeRune s = (runeError, 1) ∨ ∃ r w, Canonical s r w := by
  have m64 : ∀ x : Nat, x % 64 < 64 := fun x => Nat.mod_lt x (by decide)
  fun_cases decodeRune s
  all_goals first | exact .inl rfl | right
  -- trap: `next` binds by position, in the order `fun_cases` emits hypotheses (negated earlier guards first: the `_`s)
  · next b0 h0 b1 t h1 r hr =>
    simp only [Bool.and_eq_true, decide_eq_true_eq] at h0
    have := Canonical.two (b0 % 32) (b1 % 64) t (Nat.mod_lt _ (by decide)) (m64 _) hr
    rw [marker_add_mod 0xC0 32 b0 rfl h0, cont_add_mod b1 h1] at this
    exact ⟨_, _, this⟩
  · next b0 _ h0 b1 b2 t h1 r hr =>
    simp only [Bool.and_eq_true, decide_eq_true_eq, Bool.not_eq_true', Bool.and_eq_false_imp,
      decide_eq_false_iff_not] at h0 h1 hr
    have := Canonical.three (b0 % 16) (b1 % 64) (b2 % 64) t (Nat.mod_lt _ (by decide)) (m64 _) (m64 _) hr.1
      (fun h => hr.2 h.1 h.2)
    rw [marker_add_mod 0xE0 16 b0 rfl h0, cont_add_mod b1 h1.1, cont_add_mod b2 h1.2] at this
    exact ⟨_, _, this⟩
  · next b0 _ _ h0 b1 b2 b3 t h1 r hr =>
    simp only [Bool.and_eq_true, decide_eq_true_eq] at h0 h1 hr
    have := Canonical.four (b0 % 8) (b1 % 64) (b2 % 64) (b3 % 64) t (Nat.mod_lt _ (by decide)) (m64 _) (m64 _) (m64 _)
      hr.1 hr.2
    rw [marker_add_mod 0xF0 8 b0 rfl h0, cont_add_mod b1 h1.1.1, cont_add_mod b2 h1.1.2, cont_add_mod b3 h1.2] at this
    exact ⟨_, _, this⟩

theorem Canonical.spec {s : List Nat} {r w : Nat} (h : Canonical s r w) :
    validScalar r ∧ 0x80 ≤ r ∧ s.take w = encodeRune r ∧ w = width r := by
  rw [validScalar_iff]
  cases h with
  | two a b rest ha hb hr =>
    have hi : a * 64 + b ≤ 0x7FF := by omega
    refine ⟨by omega, hr, ?_, (width2 _ hr hi).symm⟩
    rw [encode2 _ hr hi, digit_div a b hb, Nat.mul_add_mod_of_lt hb]; rfl
  | three a b c rest ha hb hc hr hs =>
    have hi : a * 4096 + b * 64 + c ≤ 0xFFFF := by omega
    refine ⟨by omega, by omega, ?_, (width3 _ hr hi).symm⟩
    -- Horner form, so that `digit_div`/`Nat.mul_add_mod_of_lt` peel one digit at a time
    rw [encode3 _ hr hi hs, show a * 4096 + b * 64 + c = (a * 64 + b) * 64 + c by omega, div4096,
      digit_div _ c hc, Nat.mul_add_mod_of_lt hc, digit_div a b hb, Nat.mul_add_mod_of_lt hb]; rfl
  | four a b c d rest ha hb hc hd hr hm =>
    refine ⟨by omega, by omega, ?_, (width4 _ hr).symm⟩
    rw [encode4 _ hr hm, show a * 262144 + b * 4096 + c * 64 + d = ((a * 64 + b) * 64 + c) * 64 + d by omega,
      div262144, div4096, digit_div _ d hd, Nat.mul_add_mod_of_lt hd, digit_div _ c hc, Nat.mul_add_mod_of_lt hc, digit_div a b hb,
      Nat.mul_add_mod_of_lt hb]; rfl

theorem digits64 (r : Nat) : ∃ q d, d < 64 ∧ r = q * 64 + d :=
  ⟨r / 64, r % 64, Nat.mod_lt r (by decide), (Nat.div_add_mod' r 64).symm⟩

theorem digits64_3 (r : Nat) : ∃ a b c, b < 64 ∧ c < 64 ∧ r = a * 4096 + b * 64 + c := by
  obtain ⟨q, c, hc, rfl⟩ := digits64 r
  obtain ⟨a, b, hb, rfl⟩ := digits64 q
  exact ⟨a, b, c, hb, hc, by omega⟩

theorem digits64_4 (r : Nat) : ∃ a b c d, b < 64 ∧ c < 64 ∧ d < 64 ∧ r = a * 262144 + b * 4096 + c * 64 + d := by
  obtain ⟨q, d, hd, rfl⟩ := digits64 r
  obtain ⟨a, b, c, hb, hc, rfl⟩ := digits64_3 q
  exact ⟨a, b, c, d, hb, hc, hd, by omega⟩

theorem Canonical.self_encode {s : List Nat} {r w : Nat} (h : Canonical s r w) :
    Canonical (encodeRune r ++ s.drop w) r (width r) := by
  obtain ⟨_, _, ht, hw⟩ := h.spec
  rw [← ht, ← hw, List.take_append_drop]
  exact h

/-- the base-64 digits of `r` are the payloads of a canonical form, which `Canonical.spec` shows to be `encodeRune r` -/
theorem Canonical.encode (r : Nat) (rest : List Nat) (h : validScalar r) (h80 : 0x80 ≤ r) :
    Canonical (encodeRune r ++ rest) r (width r) := by
  rw [validScalar_iff] at h
  by_cases h1 : r ≤ 0x7FF
  · obtain ⟨a, b, hb, rfl⟩ := digits64 r
    exact (Canonical.two a b rest (by omega) hb h80).self_encode
  · by_cases h2 : r ≤ 0xFFFF
    · obtain ⟨a, b, c, hb, hc, rfl⟩ := digits64_3 r
      exact (Canonical.three a b c rest (by omega) hb hc (by omega) h.2).self_encode
    · obtain ⟨a, b, c, d, hb, hc, hd, rfl⟩ := digits64_4 r
      exact (Canonical.four a b c d rest (by omega) hb hc hd (by omega) h.1).self_encode

theorem decodeRune_ok (s : List Nat) : DecodeOk s (decodeRune s) := by
  rcases decodeRune_cases s with h | ⟨r, w, h⟩
  · exact .inl h
  · rw [decode_canonical h]; exact .inr h.spec

theorem nextRune_cons (b : Nat) (t : List Nat) :
    nextRune (b :: t) = if b < 0x80 then (b, 1) else decodeRune (b :: t) := rfl

theorem next_canonical {s : List Nat} {r w : Nat} (h : Canonical s r w) : nextRune s = (r, w) := by
  rw [← decode_canonical h]
  cases h <;> exact if_neg (by omega)

theorem next_encode (r : Nat) (rest : List Nat) (h : validScalar r) :
    nextRune (encodeRune r ++ rest) = (r, width r) := by
  by_cases h1 : r ≤ 0x7F
  · rw [encode1 r h1, width, if_pos h1]
    exact if_pos (by omega)
  · exact next_canonical (Canonical.encode r rest h (by omega))

theorem nextRune_invalid_lead (b : Nat) (t : List Nat) (h : (0x80 ≤ b ∧ b < 0xC2) ∨ 0xF5 ≤ b) :
    nextRune (b :: t) = (0xFFFD, 1) := by
  rw [nextRune_cons, if_neg (by omega)]
  rcases decodeRune_cases (b :: t) with he | ⟨r, w, hc⟩
  · exact he
  · -- no `Canonical` lead byte is `80..BF`/`F8..FF`; `C0`/`C1` give runes `≤ 0x7F`, `F5..F7` runes above U+10FFFF
    cases hc <;> omega

theorem decode_width_pos (s : List Nat) : 1 ≤ (decodeRune s).2 := by
  rcases decodeRune_ok s with h | ⟨_, _, _, h⟩
  · rw [h]; exact Nat.le_refl 1
  · rw [h]; exact width_pos _

theorem next_width_pos (s : List Nat) : 1 ≤ (nextRune s).2 := by
  match s with
  | [] => exact Nat.le_refl 1
  | b :: t =>
    rw [nextRune_cons]; split
    · exact Nat.le_refl 1
    · exact decode_width_pos _

/-- one decoding step; a non-empty `s` leaves `fuel ≥ 1`, so `fuel - 1` is the fuel that is left -/
theorem toRunesAux_step {fuel : Nat} {s : List Nat} (h : s ≠ []) (hf : s.length ≤ fuel) :
    toRunesAux fuel s = (nextRune s).1 :: toRunesAux (fuel - 1) (s.drop (nextRune s).2) := by
  obtain ⟨fuel, rfl⟩ : ∃ f, fuel = f + 1 := ⟨fuel - 1, by have := List.length_pos_iff.2 h; omega⟩
  cases s with
  | nil => exact absurd rfl h
  | cons b t => rfl

theorem toRunesAux_fromRunes (rs : List Nat) (h : ∀ r ∈ rs, validScalar r) :
    ∀ fuel, (fromRunes rs).length ≤ fuel → toRunesAux fuel (fromRunes rs) = rs := by
  induction rs with
  | nil => intro fuel _; cases fuel <;> rfl
  | cons r rs ih =>
    intro fuel hf
    have hr : validScalar r := h r (List.mem_cons_self ..)
    have hlen := encode_length r hr
    have hw := width_pos r
    rw [show fromRunes (r :: rs) = encodeRune r ++ fromRunes rs from List.flatMap_cons ..] at hf ⊢
    have hl := List.length_append (as := encodeRune r) (bs := fromRunes rs)
    rw [toRunesAux_step (List.ne_nil_of_length_pos (by omega)) hf, next_encode r _ hr, ← hlen, List.drop_left,
      ih (fun x hx => h x (List.mem_cons_of_mem _ hx)) _ (by omega)]

end LlgoVerif.Slice
