import LlgoVerif.Lemmas.LinkNameRuns
/-!
# Lemmas for C14: type arguments and receivers can be read back

The rendering of covered type arguments is a prefix code: the first word and the character after it tell the
constructor (`tagOf`), then the pieces are read from the left by structural recursion. `pathOK` is asked of every package
path throughout; its no-dot part is consumed only by `pkg_split`.
-/
namespace LlgoVerif.LinkName

inductive Tag | ptr | slice | array | map | named | basic

/-- which constructor a rendered type argument starts with, read off the string -/
def tagOf (s : Str) : Tag :=
  if s.head? = some '*' then .ptr
  else if s.head? = some '[' then (if (s.drop 1).head? = some ']' then .slice else .array)
  else if (s.takeWhile nb).contains '.' then .named
  else if s.takeWhile nb = ['m', 'a', 'p'] ∧ (s.drop 3).head? = some '[' then .map else .basic

def Ty.tag : Ty → Option Tag
  | .ptr _ => some .ptr | .slice _ => some .slice | .array _ _ => some .array | .map _ _ => some .map
  | .named .. => some .named | .basic _ => some .basic
  | .chan .. | .other _ => none

theorem tagOf_bracket (s : Str) : tagOf ('[' :: s) = if s.head? = some ']' then .slice else .array := by
  simp [tagOf]

theorem tagOf_word {p : Char → Bool} (hs : p '*' = true) (hb : p '[' = true) {s : Str} (h : HeadNot p s) (w : Str)
    (hw : s.takeWhile nb = w) : tagOf s =
      if w.contains '.' then .named else if w = ['m', 'a', 'p'] ∧ (s.drop 3).head? = some '[' then .map else .basic := by
  subst hw
  unfold tagOf
  rw [if_neg (headNot_head h hs), if_neg (headNot_head h hb)]

theorem tagOf_path {p : Str} (h0 : p ≠ []) (hpc : ∀ c ∈ p, pathChar c = true) (R : Str) : tagOf (p ++ '.' :: R) = .named :=
  (tagOf_word (p := (!pathChar ·)) rfl rfl (head_of_all h0 hpc _) _ rfl).trans
    (if_pos (List.contains_iff_mem.mpr (dot_mem_word (fun c hc => path_nb (hpc c hc)) R)))

theorem tag_correct (t : Ty) (r : Str) (ht : t.ok pathOK = true) (hr : StopB r = true) :
    t.tag = some (tagOf (tyStr t ++ r)) := by
  cases t with
  | ptr e => simp [tyStr, tagOf, Ty.tag]
  | slice e => simp [tyStr, tagOf, Ty.tag]
  | array n e =>
    rw [tyStr, List.cons_append, List.cons_append, List.append_assoc, tagOf_bracket,
      if_neg (headNot_head (head_of_all (natStr_ne_nil n) (natStr_digits n) _) (by decide))]
    rfl
  | map k v =>
    simp only [tyStr, Ty.tag, List.cons_append]
    rw [tagOf_word (p := (!identChar ·)) rfl rfl (headNot_cons rfl) ['m', 'a', 'p'] rfl]
    simp
  | named p n ta sc =>
    simp only [Ty.ok, Bool.and_eq_true] at ht
    obtain ⟨hp0, hpc, hpo, _⟩ := pathOK_unpack ht.1.1
    simp only [tyStr, hpo, Ty.tag, List.append_assoc, List.cons_append]
    rw [tagOf_path hp0 hpc]
  | basic n =>
    simp only [Ty.ok] at ht
    obtain ⟨hn0, hnc⟩ := identOK_iff.mp ht
    simp only [tyStr, Ty.tag]
    rw [tagOf_word (p := (!identChar ·)) rfl rfl (head_of_all hn0 hnc r) n
      (takeWhile_run (fun c hc => ident_nb (hnc c hc)) (stop_headNot rfl rfl hr))]
    -- an identifier has no dot; if it is `map`, what follows is a stop character, not `[`
    have hd : n.contains '.' = false :=
      Bool.eq_false_iff.2 fun hcon => ne_of_pred (by decide) (hnc '.' (List.contains_iff_mem.mp hcon)) rfl
    have hm : ¬ (n = ['m', 'a', 'p'] ∧ ((n ++ r).drop 3).head? = some '[') := by
      rintro ⟨rfl, h3⟩
      exact headNot_head (stop_headNot (p := (· == '[')) rfl rfl hr) rfl h3
    rw [hd, if_neg (by decide), if_neg hm]
  | chan d e => simp [Ty.ok] at ht
  | other s => simp [Ty.ok] at ht

def Ty.Shape (t : Ty) : Tag → Prop
  | .ptr => ∃ e, t = .ptr e
  | .slice => ∃ e, t = .slice e
  | .array => ∃ n e, t = .array n e
  | .map => ∃ k v, t = .map k v
  | .named => ∃ p n ta sc, t = .named p n ta sc
  | .basic => ∃ n, t = .basic n

theorem shape_tag : ∀ (t : Ty) (g : Tag), t.tag = some g → t.Shape g
  | .ptr _, _, rfl | .slice _, _, rfl | .basic _, _, rfl => ⟨_, rfl⟩
  | .array .., _, rfl | .map .., _, rfl => ⟨_, _, rfl⟩
  | .named .., _, rfl => ⟨_, _, _, _, rfl⟩

theorem shape_of_eq {t₁ t₂ : Ty} {r₁ r₂ : Str} (h₁ : t₁.ok pathOK = true) (h₂ : t₂.ok pathOK = true)
    (hr₁ : StopB r₁ = true) (hr₂ : StopB r₂ = true) (h : tyStr t₁ ++ r₁ = tyStr t₂ ++ r₂) (g : Tag) (hg : t₁.tag = some g) :
    t₂.Shape g := by
  have e₁ := tag_correct t₁ r₁ h₁ hr₁
  rw [h, hg] at e₁
  exact shape_tag t₂ g ((tag_correct t₂ r₂ h₂ hr₂).trans e₁.symm)

def targsPart (ta : Tys) : Str := if ta.isEmpty then [] else '[' :: tysStr ta ++ [']']

theorem targsPart_headNot {p : Char → Bool} (hb : p '[' = false) (ta : Tys) {X : Str} (hX : HeadNot p X) :
    HeadNot p (targsPart ta ++ X) := by
  unfold targsPart; split
  · exact hX
  · exact headNot_cons hb

theorem namedName_eq (n : Str) (ta : Tys) : namedName n ta = n ++ targsPart ta := by
  unfold namedName targsPart; split <;> simp

theorem word_targsPart {q : Char → Bool} (ta : Tys) {X : Str} (hX : Word q X) : Word q (targsPart ta ++ X) := by
  unfold targsPart; split
  · exact hX
  · exact word_of_headNot (headNot_cons (by decide))

theorem tyStr_named (p n : Str) (ta : Tys) (sc : List Nat) (r : Str) :
    tyStr (.named p n ta sc) ++ r = pathOf p ++ '.' :: (n ++ (targsPart ta ++ (numsStr '.' sc ++ r))) := by
  simp [tyStr, targsPart, scopeStr_eq]

theorem Tys.eq_nil_of_isEmpty : ∀ {ta : Tys}, ta.isEmpty = true → ta = .nil
  | .nil, _ => rfl

/-- `,T₁,…,Tₙ]x`: with a comma before every element the list is read back one element at a time, the empty list included
    (`tysStr` has no comma before the first: `tysStr_sep`) -/
def sepStr : Tys → Str → Str
  | .nil, x => ']' :: x
  | .cons u r, x => ',' :: (tyStr u ++ sepStr r x)

theorem tysStr_sep : ∀ (ts : Tys) (x : Str), ts.isEmpty = false → ',' :: (tysStr ts ++ ']' :: x) = sepStr ts x
  | .cons t .nil, x, _ => by rw [tysStr, sepStr, sepStr]
  | .cons t (.cons u r), x, _ => by
    rw [tysStr, sepStr, ← tysStr_sep (.cons u r) x rfl, List.append_assoc, List.cons_append]

theorem stop_sepStr (ts : Tys) (x : Str) : StopB (sepStr ts x) = true := by
  cases ts <;> rfl

theorem ident_targs_inj {n₁ n₂ : Str} {ta₁ ta₂ : Tys} {X₁ X₂ : Str}
    (ih : ∀ x₁ x₂ : Str, ta₁.ok pathOK = true → ta₂.ok pathOK = true → sepStr ta₁ x₁ = sepStr ta₂ x₂ → ta₁ = ta₂ ∧ x₁ = x₂)
    (hn₁ : identOK n₁ = true) (hn₂ : identOK n₂ = true) (ht₁ : ta₁.ok pathOK = true) (ht₂ : ta₂.ok pathOK = true)
    (hX₁ : HeadNot (fun c => identChar c || c == '[') X₁) (hX₂ : HeadNot (fun c => identChar c || c == '[') X₂)
    (h : n₁ ++ (targsPart ta₁ ++ X₁) = n₂ ++ (targsPart ta₂ ++ X₂)) : n₁ = n₂ ∧ ta₁ = ta₂ ∧ X₁ = X₂ := by
  have hi : ∀ {ta X}, HeadNot (fun c => identChar c || c == '[') X → HeadNot identChar (targsPart ta ++ X) :=
    fun hX => targsPart_headNot (by decide) _ (headNot_left hX)
  obtain ⟨en, e⟩ := seg_eq (identOK_iff.mp hn₁).2 (identOK_iff.mp hn₂).2 (hi hX₁) (hi hX₂) h
  refine ⟨en, ?_⟩
  unfold targsPart at e
  cases he₁ : ta₁.isEmpty <;> cases he₂ : ta₂.isEmpty <;>
    simp only [he₁, he₂, if_true, if_false, Bool.false_eq_true, List.nil_append, List.cons_append, List.append_assoc] at e
  · exact ih _ _ ht₁ ht₂ (by rw [← tysStr_sep _ _ he₁, ← tysStr_sep _ _ he₂, (List.cons.inj e).2])
  · exact absurd e.symm (headNot_ne hX₂ rfl _)
  · exact absurd e (headNot_ne hX₁ rfl _)
  · rw [Tys.eq_nil_of_isEmpty he₁, Tys.eq_nil_of_isEmpty he₂]
    exact ⟨rfl, e⟩

/-- the `named` case of the prefix-code theorem, given the statement for its type-argument list -/
theorem named_inj_of_ih {p₁ n₁ : Str} {ta₁ : Tys} {s₁ : List Nat} {p₂ n₂ : Str} {ta₂ : Tys} {s₂ : List Nat} {r₁ r₂ : Str}
    (ih : ∀ (x₁ x₂ : Str), ta₁.ok pathOK = true → ta₂.ok pathOK = true → sepStr ta₁ x₁ = sepStr ta₂ x₂ → ta₁ = ta₂ ∧ x₁ = x₂)
    (h₁ : (Ty.named p₁ n₁ ta₁ s₁).ok pathOK = true) (h₂ : (Ty.named p₂ n₂ ta₂ s₂).ok pathOK = true)
    (hr₁ : StopB r₁ = true) (hr₂ : StopB r₂ = true)
    (h : tyStr (.named p₁ n₁ ta₁ s₁) ++ r₁ = tyStr (.named p₂ n₂ ta₂ s₂) ++ r₂) :
    Ty.named p₁ n₁ ta₁ s₁ = .named p₂ n₂ ta₂ s₂ ∧ r₁ = r₂ := by
  simp only [Ty.ok, Bool.and_eq_true] at h₁ h₂
  obtain ⟨⟨hp₁, hn₁⟩, hta₁⟩ := h₁
  obtain ⟨⟨hp₂, hn₂⟩, hta₂⟩ := h₂
  rw [tyStr_named, tyStr_named, pathOf_of_ok hp₁, pathOf_of_ok hp₂] at h
  have w : ∀ {n r : Str} (ta : Tys) (sc : List Nat), identOK n = true → StopB r = true →
      Word noSlash (n ++ (targsPart ta ++ (numsStr '.' sc ++ r))) :=
    fun ta sc hn hr => word_append (word_ident hn) (word_targsPart ta (word_append (word_nums rfl sc)
      (word_of_headNot (stop_headNot rfl rfl hr))))
  obtain ⟨rfl, hR⟩ := pkg_split hp₁ hp₂ (w ta₁ s₁ hn₁ hr₁) (w ta₂ s₂ hn₂ hr₂) h
  obtain ⟨rfl, rfl, hS⟩ := ident_targs_inj ih hn₁ hn₂ hta₁ hta₂
    (nums_headNot rfl s₁ (stop_headNot rfl rfl hr₁)) (nums_headNot rfl s₂ (stop_headNot rfl rfl hr₂)) hR
  obtain ⟨rfl, rfl⟩ := nums_inj_prefix rfl (stop_headNot rfl rfl hr₁) (stop_headNot rfl rfl hr₂) s₁ s₂ hS
  exact ⟨rfl, rfl⟩

mutual
/-- **Prefix code.** A covered type argument, rendered and followed by `,`/`]`/nothing, can be read back uniquely. -/
theorem tyStr_inj_prefix : ∀ (t₁ t₂ : Ty) (r₁ r₂ : Str), t₁.ok pathOK = true → t₂.ok pathOK = true →
    StopB r₁ = true → StopB r₂ = true → tyStr t₁ ++ r₁ = tyStr t₂ ++ r₂ → t₁ = t₂ ∧ r₁ = r₂ := by
  intro t₁ t₂ r₁ r₂ h₁ h₂ hr₁ hr₂ h
  -- the two start with the same constructor; then the pieces are compared from the left
  have sh := shape_of_eq h₁ h₂ hr₁ hr₂ h
  cases t₁ with
  | basic n₁ =>
    obtain ⟨n₂, rfl⟩ := sh _ rfl
    simp only [Ty.ok] at h₁ h₂
    simp only [tyStr] at h
    obtain ⟨rfl, er⟩ := seg_eq (identOK_iff.mp h₁).2 (identOK_iff.mp h₂).2 (stop_headNot rfl rfl hr₁) (stop_headNot rfl rfl hr₂) h
    exact ⟨rfl, er⟩
  | named p₁ n₁ ta₁ s₁ =>
    obtain ⟨p₂, n₂, ta₂, s₂, rfl⟩ := sh _ rfl
    exact named_inj_of_ih (sepStr_inj ta₁ ta₂) h₁ h₂ hr₁ hr₂ h
  | ptr e₁ =>
    obtain ⟨e₂, rfl⟩ := sh _ rfl
    obtain ⟨rfl, er⟩ := tyStr_inj_prefix e₁ e₂ r₁ r₂ h₁ h₂ hr₁ hr₂ (List.cons.inj h).2
    exact ⟨rfl, er⟩
  | slice e₁ =>
    obtain ⟨e₂, rfl⟩ := sh _ rfl
    obtain ⟨rfl, er⟩ := tyStr_inj_prefix e₁ e₂ r₁ r₂ h₁ h₂ hr₁ hr₂ (List.cons.inj (List.cons.inj h).2).2
    exact ⟨rfl, er⟩
  | array k₁ e₁ =>
    obtain ⟨k₂, e₂, rfl⟩ := sh _ rfl
    simp only [Ty.ok] at h₁ h₂
    simp only [tyStr, List.cons_append, List.cons.injEq, true_and, List.append_assoc] at h
    obtain ⟨ek, ex⟩ := seg_eq (natStr_ident k₁) (natStr_ident k₂) (headNot_cons (by decide)) (headNot_cons (by decide)) h
    cases natStr_inj ek
    obtain ⟨rfl, er⟩ := tyStr_inj_prefix e₁ e₂ r₁ r₂ h₁ h₂ hr₁ hr₂ (List.cons.inj ex).2
    exact ⟨rfl, er⟩
  | map k₁ v₁ =>
    obtain ⟨k₂, v₂, rfl⟩ := sh _ rfl
    simp only [Ty.ok, Bool.and_eq_true] at h₁ h₂
    simp only [tyStr, List.cons_append, List.cons.injEq, true_and, List.append_assoc] at h
    obtain ⟨rfl, ex⟩ := tyStr_inj_prefix k₁ k₂ (']' :: _) (']' :: _) h₁.1 h₂.1 rfl rfl h
    obtain ⟨rfl, er⟩ := tyStr_inj_prefix v₁ v₂ r₁ r₂ h₁.2 h₂.2 hr₁ hr₂ (List.cons.inj ex).2
    exact ⟨rfl, er⟩
  | chan | other => cases h₁
theorem sepStr_inj : ∀ (ts₁ ts₂ : Tys) (x₁ x₂ : Str), ts₁.ok pathOK = true → ts₂.ok pathOK = true →
    sepStr ts₁ x₁ = sepStr ts₂ x₂ → ts₁ = ts₂ ∧ x₁ = x₂
  | .nil, .nil => fun _ _ _ _ h => ⟨rfl, (List.cons.inj h).2⟩
  | .nil, .cons _ _ => fun _ _ _ _ h => absurd (List.cons.inj h).1 (by decide)
  | .cons _ _, .nil => fun _ _ _ _ h => absurd (List.cons.inj h).1 (by decide)
  | .cons t₁ r₁, .cons t₂ r₂ => fun x₁ x₂ h₁ h₂ h => by
    rw [Tys.ok, Bool.and_eq_true] at h₁ h₂
    obtain ⟨rfl, er⟩ := tyStr_inj_prefix t₁ t₂ _ _ h₁.1 h₂.1 (stop_sepStr ..) (stop_sepStr ..) (List.cons.inj h).2
    obtain ⟨rfl, ex⟩ := sepStr_inj r₁ r₂ x₁ x₂ h₁.2 h₂.2 er
    exact ⟨rfl, ex⟩
end

/-- `sepStr_inj` for the list as `typeArgs` writes it (no comma before the first element) -/
theorem tysStr_inj_prefix (ts₁ ts₂ : Tys) (x₁ x₂ : Str) (h₁ : ts₁.ok pathOK = true) (h₂ : ts₂.ok pathOK = true)
    (e₁ : ts₁.isEmpty = false) (e₂ : ts₂.isEmpty = false) (h : tysStr ts₁ ++ ']' :: x₁ = tysStr ts₂ ++ ']' :: x₂) :
    ts₁ = ts₂ ∧ x₁ = x₂ :=
  sepStr_inj ts₁ ts₂ x₁ x₂ h₁ h₂ (by rw [← tysStr_sep _ _ e₁, ← tysStr_sep _ _ e₂, h])

/-- the receiver part of `ssa.FuncName` (`recvNamed`), with its dot -/
def recvStr : Option Recv → Str
  | none => []
  | some r =>
    if r.ptr then '(' :: '*' :: (r.name ++ targsPart r.targs ++ ')' :: '.' :: [])
    else r.name ++ targsPart r.targs ++ '.' :: []

theorem funcNameStr_eq (p name : Str) (rc : Option Recv) :
    funcNameStr p name rc false = pathOf p ++ '.' :: (recvStr rc ++ name) := by
  cases rc with
  | none => rfl
  | some r =>
    simp only [funcNameStr, recvStr, namedName_eq, Bool.false_eq_true, if_false]
    cases r.ptr <;> simp

theorem ident_targs_split {n₁ n₂ : Str} {ta₁ ta₂ : Tys} {X₁ X₂ : Str}
    (hn₁ : identOK n₁ = true) (hn₂ : identOK n₂ = true) (ht₁ : ta₁.ok pathOK = true) (ht₂ : ta₂.ok pathOK = true)
    (hX₁ : HeadNot (fun c => identChar c || c == '[') X₁) (hX₂ : HeadNot (fun c => identChar c || c == '[') X₂)
    (h : n₁ ++ (targsPart ta₁ ++ X₁) = n₂ ++ (targsPart ta₂ ++ X₂)) : n₁ = n₂ ∧ ta₁ = ta₂ ∧ X₁ = X₂ :=
  ident_targs_inj (sepStr_inj ta₁ ta₂) hn₁ hn₂ ht₁ ht₂ hX₁ hX₂ h

theorem ident_head {n : Str} (h : identOK n = true) (X : Str) : HeadNot (!identChar ·) (n ++ X) :=
  head_of_all (identOK_iff.mp h).1 (identOK_iff.mp h).2 X

theorem recvStr_some (r : Recv) (B : Str) : recvStr (some r) ++ B =
    (if r.ptr then ['(', '*'] else []) ++ (r.name ++ (targsPart r.targs ++ if r.ptr then ')' :: '.' :: B else '.' :: B)) := by
  cases hp : r.ptr <;> simp [recvStr, hp]

theorem recv_some_some {r₁ r₂ : Recv} {B₁ B₂ : Str}
    (hn₁ : identOK r₁.name = true) (hta₁ : r₁.targs.ok pathOK = true) (hn₂ : identOK r₂.name = true) (hta₂ : r₂.targs.ok pathOK = true)
    (h : recvStr (some r₁) ++ B₁ = recvStr (some r₂) ++ B₂) :
    r₁.name = r₂.name ∧ r₁.targs = r₂.targs ∧ r₁.ptr = r₂.ptr ∧ B₁ = B₂ := by
  rw [recvStr_some, recvStr_some] at h
  obtain ⟨ep, hb⟩ := optPrefix_inj (c := '(') rfl rfl (ident_head hn₁ _) (ident_head hn₂ _) h
  rw [← ep] at hb
  cases hp : r₁.ptr <;> simp only [hp, if_true, if_false, Bool.false_eq_true] at hb
  · obtain ⟨en, et, eb⟩ := ident_targs_split hn₁ hn₂ hta₁ hta₂ (headNot_cons rfl) (headNot_cons rfl) hb
    exact ⟨en, et, hp.symm.trans ep, (List.cons.inj eb).2⟩
  · obtain ⟨en, et, eb⟩ := ident_targs_split hn₁ hn₂ hta₁ hta₂ (headNot_cons rfl) (headNot_cons rfl) hb
    exact ⟨en, et, hp.symm.trans ep, (List.cons.inj (List.cons.inj eb).2).2⟩

/-- no `p₁ = p₂`: the name does not render the package that declares the receiver -/
theorem funcNameStr_recv_inj {cur p₁ p₂ r₁ r₂ : Str} {ta₁ ta₂ : Tys} {ptr₁ ptr₂ : Bool} {N₁ N₂ : Str}
    (hr₁ : identOK r₁ = true) (hr₂ : identOK r₂ = true) (ht₁ : ta₁.ok pathOK = true) (ht₂ : ta₂.ok pathOK = true)
    (h : funcNameStr cur N₁ (some ⟨p₁, r₁, ta₁, ptr₁⟩) false = funcNameStr cur N₂ (some ⟨p₂, r₂, ta₂, ptr₂⟩) false) :
    r₁ = r₂ ∧ ta₁ = ta₂ ∧ ptr₁ = ptr₂ ∧ N₁ = N₂ := by
  rw [funcNameStr_eq, funcNameStr_eq] at h
  exact recv_some_some (r₁ := ⟨p₁, r₁, ta₁, ptr₁⟩) (r₂ := ⟨p₂, r₂, ta₂, ptr₂⟩) hr₁ ht₁ hr₂ ht₂ (List.cons.inj (List.append_cancel_left h)).2

end LlgoVerif.LinkName
