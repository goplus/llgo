import LlgoVerif.Model.CoreGo
/-! Helper lemmas for the CoreGo evaluator: running one layer is monotone in the oracle that answers its
    requests for sub-evaluations.  This is the only place where the free monad is unfolded; nothing here depends on
    which language constructs `step` implements. -/
namespace LlgoVerif.CoreGo

def Extends (g₁ g₂ : Task → State → Option RawRes) : Prop :=
  ∀ t s r, g₁ t s = some r → g₂ t s = some r

theorem Prog.run_mono {α : Type} {g₁ g₂ : Task → State → Option RawRes} (h : Extends g₁ g₂)
    (p : Prog α) (a : α) : p.run g₁ = some a → p.run g₂ = some a := by
  induction p with
  | pure b => intro hb; simpa [Prog.run] using hb
  | call t s k ih =>
    intro hr
    simp only [Prog.run] at hr ⊢
    cases h1 : g₁ t s with
    | none => simp [h1] at hr
    | some r =>
      rw [h1] at hr
      rw [h t s r h1]
      exact ih r hr

theorem eval_succ_extends (P : Program) (n : Nat) : Extends (eval P n) (eval P (n + 1)) := by
  induction n with
  | zero => intro t s r h; simp [eval] at h
  | succ n ih =>
    intro t s r h
    simp only [eval] at h ⊢
    exact Prog.run_mono ih _ _ h

theorem eval_le_extends (P : Program) {n m : Nat} (hnm : n ≤ m) : Extends (eval P n) (eval P m) := by
  induction hnm with
  | refl => intro t s r h; exact h
  | step _ ih => intro t s r h; exact eval_succ_extends P _ t s r (ih t s r h)

theorem det_of_fuel_mono {α : Type} {f : Nat → Option α} (hm : ∀ n m, n ≤ m → ∀ r, f n = some r → f m = some r)
    {n m : Nat} {r₁ r₂ : α} (h₁ : f n = some r₁) (h₂ : f m = some r₂) : r₁ = r₂ :=
  Option.some.inj ((hm n _ (Nat.le_max_left n m) r₁ h₁).symm.trans (hm m _ (Nat.le_max_right n m) r₂ h₂))

end LlgoVerif.CoreGo
