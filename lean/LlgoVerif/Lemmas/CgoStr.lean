import LlgoVerif.Model.CgoStr
import LlgoVerif.Lemmas.CAbiCall
/-!
# C09 — lemmas about the cgo conversion helpers (`Model/CgoStr.lean`)
-/
namespace LlgoVerif.CgoStr
open LlgoVerif.CAbiCall

theorem applyWrites_out (ws : List (Nat × Nat)) : ∀ (m : Cells) (x : Nat), (∀ w ∈ ws, w.1 ≠ x) → applyWrites m ws x = m x := by
  induction ws with
  | nil => intro m x _; rfl
  | cons w r ih =>
    intro m x h
    simp only [applyWrites]
    rw [ih (m.set w.1 w.2) x (fun w' hw' => h w' (List.mem_cons_of_mem _ hw'))]
    exact Cells.set_ne m w.1 w.2 x (fun he => h w (List.mem_cons_self) he.symm)

theorem copy_stable (m : Cells) (brk p n : Nat) (ws : List (Nat × Nat)) (h : Avoids brk n ws) :
    readCells (applyWrites (writeCells m brk (readCells m p n)) ws) brk n = readCells m p n := by
  refine Eq.trans ?_ (readCells_copy m brk p n)
  refine readCells_congr _ _ n brk brk fun i hi => ?_
  apply applyWrites_out
  intro w hw he
  rcases h w hw with h1 | h1 <;> omega

theorem strlenB_spec (m : Cells) : ∀ (k p fuel : Nat), (∀ i, i < k → m (p + i) ≠ 0) → m (p + k) = 0 → k < fuel →
    strlenB m p fuel = some k := by
  intro k
  induction k with
  | zero =>
    intro p fuel _ h0 hf
    cases fuel with
    | zero => omega
    | succ f => simp only [strlenB]; rw [if_pos (by simpa using h0)]
  | succ k ih =>
    intro p fuel hne h0 hf
    cases fuel with
    | zero => omega
    | succ f =>
      simp only [strlenB]
      have := hne 0 (by omega)
      simp only [Nat.add_zero] at this
      rw [if_neg this, ih (p + 1) f (fun i hi => by
        have := hne (i + 1) (by omega)
        rw [show p + 1 + i = p + (i + 1) by omega]; exact this)
        (by rw [show p + 1 + k = p + (k + 1) by omega]; exact h0) (by omega)]
      rfl

theorem goStringN_copy_len (s : Heap) (p n : Nat) : (goStringN .copy s p n).1.len = n := by
  unfold goStringN
  by_cases hn : (n : Int) ≤ 0
  · rw [if_pos hn]; simp only; omega
  · rw [if_neg hn]; simp

theorem cString_bytes (s : Heap) (h : GoStr) :
    readCells (cString s h).2.mem s.brk h.len = readCells s.mem h.data h.len := by
  refine Eq.trans (readCells_congr _ _ _ _ _ fun i hi => ?_) (readCells_copy s.mem s.brk h.data h.len)
  exact writeCells_out [0] _ _ _ (.inl (by omega))

theorem cString_nul (s : Heap) (h : GoStr) : (cString s h).2.mem (s.brk + h.len) = 0 := Cells.set_eq _ _ _

theorem strlenB_cString (s : Heap) (h : GoStr) (hnul : ∀ i, i < h.len → s.mem (h.data + i) ≠ 0) :
    strlenB (cString s h).2.mem s.brk ((cString s h).2.brk - s.brk) = some h.len := by
  refine strlenB_spec _ h.len s.brk _ (fun i hi => ?_) (cString_nul s h) (by simp only [cString]; omega)
  have h1 := readCells_getD (cString s h).2.mem h.len s.brk i hi
  rw [cString_bytes, readCells_getD s.mem h.len h.data i hi] at h1
  rw [← h1]; exact hnul i hi

end LlgoVerif.CgoStr
