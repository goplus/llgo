import LlgoVerif.Model.LLVMFloat
import LlgoVerif.Spec.GoFloat
/-!
Shape lemmas for the float half of C02: the regenerated obligations (`Gen/C02_float.lean`) instantiate them by `exact`, so
an obligation checks only while llgo emits exactly that shape.  The one-instruction shapes hold by `rfl`: `LLVM.fmtOf` and
`GoFloat.fmt` both abbreviate `Fmt.ofWidth`, and the instruction and the Go operator call the same `SoftFloat` function.
-/
namespace LlgoVerif.FloatOps
open LlgoVerif LlgoVerif.LLVM LlgoVerif.SoftFloat

theorem fadd_p (x y : BitVec w) : (do let v := fadd (some x) (some y); ret v) = .ok (GoFloat.add x y) := rfl
theorem fsub_p (x y : BitVec w) : (do let v := fsub (some x) (some y); ret v) = .ok (GoFloat.sub x y) := rfl
theorem fmul_p (x y : BitVec w) : (do let v := fmul (some x) (some y); ret v) = .ok (GoFloat.mul x y) := rfl
theorem fdiv_p (x y : BitVec w) : (do let v := fdiv (some x) (some y); ret v) = .ok (GoFloat.quo x y) := rfl
theorem fneg_p (x : BitVec w) : (do let v := fneg (some x); ret v) = .ok (GoFloat.neg x) := rfl

theorem fcmp_p (p : FPred) (g : Cmp → Bool) (h : ∀ c, fcmpB p c = g c) (x y : BitVec w) :
    (do let v := fcmp p (some x) (some y); ret v) = .ok (ofBool (g (GoFloat.cmp x y))) :=
  congrArg (fun b => Except.ok (ofBool b)) (h _)

theorem feq_p (x y : BitVec w) : (do let v := fcmp .oeq (some x) (some y); ret v) = .ok (ofBool (GoFloat.eq x y)) :=
  fcmp_p .oeq (· == .eq) (fun c => by cases c <;> rfl) x y
theorem fne_p (x y : BitVec w) : (do let v := fcmp .une (some x) (some y); ret v) = .ok (ofBool (GoFloat.ne x y)) :=
  fcmp_p .une (fun c => !(c == .eq)) (fun c => by cases c <;> rfl) x y
theorem flt_p (x y : BitVec w) : (do let v := fcmp .olt (some x) (some y); ret v) = .ok (ofBool (GoFloat.lt x y)) :=
  fcmp_p .olt (· == .lt) (fun c => by cases c <;> rfl) x y
theorem fle_p (x y : BitVec w) : (do let v := fcmp .ole (some x) (some y); ret v) = .ok (ofBool (GoFloat.le x y)) :=
  fcmp_p .ole (fun c => c == .lt || c == .eq) (fun c => by cases c <;> rfl) x y
theorem fgt_p (x y : BitVec w) : (do let v := fcmp .ogt (some x) (some y); ret v) = .ok (ofBool (GoFloat.gt x y)) :=
  fcmp_p .ogt (· == .gt) (fun c => by cases c <;> rfl) x y
theorem fge_p (x y : BitVec w) : (do let v := fcmp .oge (some x) (some y); ret v) = .ok (ofBool (GoFloat.ge x y)) :=
  fcmp_p .oge (fun c => c == .gt || c == .eq) (fun c => by cases c <;> rfl) x y

theorem sitofp_p (fw : Nat) (x : BitVec w) : (do let v := sitofp fw (some x); ret v) = .ok (GoFloat.ofInt true fw x) := rfl
theorem uitofp_p (fw : Nat) (x : BitVec w) : (do let v := uitofp fw (some x); ret v) = .ok (GoFloat.ofInt false fw x) := rfl
theorem fpext_p (fw : Nat) (x : BitVec w) : (do let v := fpext fw (some x); ret v) = .ok (GoFloat.conv fw x) := rfl
theorem fptrunc_p (fw : Nat) (x : BitVec w) : (do let v := fptrunc fw (some x); ret v) = .ok (GoFloat.conv fw x) := rfl

theorem toInt_eq_some {s : Bool} {n : Nat} {x : BitVec w} {v : BitVec n} (h : GoFloat.toInt s n x = some v) :
    ∃ t, SoftFloat.toInt (fmtOf w) x.toNat = some t ∧ fitsInt s n t = true ∧ BitVec.ofInt n t = v := by
  unfold GoFloat.toInt at h
  split at h
  · cases h
  · rename_i t ht
    split at h
    · exact ⟨t, ht, ‹_›, Option.some.inj h⟩
    · cases h

theorem fptoi_some (s : Bool) (n : Nat) (x : BitVec w) (t : Int) (ht : SoftFloat.toInt (fmtOf w) x.toNat = some t)
    (hf : fitsInt s n t = true) : fptoi s n (some x) = some (BitVec.ofInt n t) := by
  unfold fptoi; simp only [ht, hf, if_true]

/-- float → int by ONE `fptosi` / `fptoui` to the result type: defined whenever Go defines the conversion -/
theorem f2i_direct (s : Bool) (n : Nat) (x : BitVec w) (v : BitVec n) (h : GoFloat.toInt s n x = some v) :
    (do let r := fptoi s n (some x); ret r) = .ok v := by
  obtain ⟨t, ht, hf, rfl⟩ := toInt_eq_some h
  show ret (fptoi s n (some x)) = _   -- flattens the printed `let`s, here and below
  rw [fptoi_some s n x t ht hf]; rfl

theorem two_pow_le {n m : Nat} (h : n ≤ m) : (2 : Int) ^ n ≤ 2 ^ m := by
  have := Int.ofNat_le.mpr (Nat.pow_le_pow_right (by decide : 2 > 0) h)
  simpa [Int.natCast_pow] using this
theorem ofInt_setWidth (n m : Nat) (t : Int) (h : n ≤ m) : (BitVec.ofInt m t).setWidth n = BitVec.ofInt n t := by
  apply BitVec.eq_of_toNat_eq
  have hd : ((2 ^ n : Nat) : Int) ∣ ((2 ^ m : Nat) : Int) := Int.natCast_dvd_natCast.mpr (Nat.pow_dvd_pow 2 h)
  have h0 : 0 ≤ t % ((2 ^ m : Nat) : Int) := Int.emod_nonneg _ (Int.natCast_ne_zero.2 (Nat.ne_of_gt (Nat.two_pow_pos m)))
  rw [BitVec.toNat_setWidth, BitVec.toNat_ofInt, BitVec.toNat_ofInt, ← Int.emod_emod_of_dvd t hd,
    Int.toNat_emod h0 (Int.natCast_nonneg _), Int.toNat_natCast]

theorem fits_signed_iff (n : Nat) (t : Int) : fitsInt true n t = true ↔ -(2 : Int) ^ (n - 1) ≤ t ∧ t < (2 : Int) ^ (n - 1) := by
  simp only [fitsInt, if_true, Bool.and_eq_true, decide_eq_true_eq]
theorem fits_unsigned_iff (n : Nat) (t : Int) : fitsInt false n t = true ↔ 0 ≤ t ∧ t < (2 : Int) ^ n := by
  simp only [fitsInt, Bool.false_eq_true, if_false, Bool.and_eq_true, decide_eq_true_eq]

theorem fits_widen_signed (n m : Nat) (t : Int) (hn : n ≤ m) (h : fitsInt true n t = true) : fitsInt true m t = true := by
  rw [fits_signed_iff] at h ⊢
  have hp : (2 : Int) ^ (n - 1) ≤ 2 ^ (m - 1) := two_pow_le (by omega)
  exact ⟨Int.le_trans (Int.neg_le_neg hp) h.1, Int.lt_of_lt_of_le h.2 hp⟩

theorem fits_unsigned_in_signed (n m : Nat) (t : Int) (hn : n < m) (h : fitsInt false n t = true) : fitsInt true m t = true := by
  rw [fits_unsigned_iff] at h
  rw [fits_signed_iff]
  have hp : (2 : Int) ^ n ≤ 2 ^ (m - 1) := two_pow_le (by omega)
  exact ⟨Int.le_trans (Int.neg_nonpos_of_nonneg (Int.le_of_lt (Int.pow_pos (by decide)))) h.1, Int.lt_of_lt_of_le h.2 hp⟩

theorem fits_unsigned_widen (n m : Nat) (t : Int) (hn : n ≤ m) (h : fitsInt false n t = true) : fitsInt false m t = true := by
  rw [fits_unsigned_iff] at h ⊢
  exact ⟨h.1, Int.lt_of_lt_of_le h.2 (two_pow_le hn)⟩

/-- float → narrow signed int: `fptosi` to i64, then `trunc` -/
theorem f2i_trunc_s (n : Nat) (hn : n ≤ 64) (x : BitVec w) (v : BitVec n) (h : GoFloat.toInt true n x = some v) :
    (do let r := fptosi 64 (some x); let r2 := trunc n r; ret r2) = .ok v := by
  obtain ⟨t, ht, hf, rfl⟩ := toInt_eq_some h
  show ret (trunc n (fptoi true 64 (some x))) = _
  rw [fptoi_some true 64 x t ht (fits_widen_signed n 64 t hn hf), ← ofInt_setWidth n 64 t hn]; rfl

/-- float → narrow unsigned int: `select (x < 0) (fptosi i64) (fptoui i64)`, then `trunc`: both arms are defined (not poison)
    and equal whenever the value fits the unsigned result type; `n < 64` (`castFloatToInt`: `dstSize < 8`) lets the `fptosi` arm
    hold it in an `i64` -/
theorem f2i_sel_trunc_u (n : Nat) (hn : n < 64) (x z : BitVec w) (v : BitVec n) (h : GoFloat.toInt false n x = some v) :
    (do let c := fcmp .olt (some x) (some z); let r1 := fptosi 64 (some x); let r2 := fptoui 64 (some x)
        let r := select c r1 r2; let r3 := trunc n r; ret r3) = .ok v := by
  obtain ⟨t, ht, hf, rfl⟩ := toInt_eq_some h
  show ret (trunc n (select (fcmp .olt (some x) (some z)) (fptoi true 64 (some x)) (fptoi false 64 (some x)))) = _
  rw [fptoi_some true 64 x t ht (fits_unsigned_in_signed n 64 t hn hf),
    fptoi_some false 64 x t ht (fits_unsigned_widen n 64 t (Nat.le_of_lt hn) hf), ← ofInt_setWidth n 64 t (Nat.le_of_lt hn)]
  show ret (trunc n (if _ then _ else _)) = _
  rw [ite_self]; rfl

end LlgoVerif.FloatOps
