/-! Lists by index: a property of every element (`∀ j u, l[j]? = some u → P j u`) through `set` and `map`, and the sum of a
    per-element quantity `m` as `(l.map m).sum` (C11's thread lists; C01's in-degrees). -/
namespace LlgoVerif.Total
variable {α : Type} (m : α → Nat)

theorem forall_set {l : List α} {i : Nat} {x t : α} {P Q : Nat → α → Prop} (h : ∀ j u, l[j]? = some u → P j u)
    (ht : l[i]? = some t) (hx : Q i x) (hfr : ∀ j u, j ≠ i → P j u → Q j u) : ∀ j u, (l.set i x)[j]? = some u → Q j u := by
  intro j u hu
  by_cases hj : j = i
  · subst hj
    rw [List.getElem?_set_self (List.getElem?_eq_some_iff.mp ht).1] at hu
    exact Option.some.inj hu ▸ hx
  · rw [List.getElem?_set_ne (Ne.symm hj)] at hu
    exact hfr j u hj (h j u hu)

theorem forall_map {β : Type} {f : α → β} {P : Nat → β → Prop} {l : List α} (h : ∀ j a, l[j]? = some a → P j (f a)) :
    ∀ j u, (l.map f)[j]? = some u → P j u := by
  intro j u hu
  rw [List.getElem?_map] at hu
  obtain ⟨a, ha, rfl⟩ := Option.map_eq_some_iff.mp hu
  exact h j a ha

theorem sum_set {l : List α} {i : Nat} {x t : α} (h : l[i]? = some t) :
    ((l.set i x).map m).sum + m t = (l.map m).sum + m x := by
  induction l generalizing i with
  | nil => simp at h
  | cons a l ih =>
    cases i with
    | zero => simp at h; subst h; simp; omega
    | succ j => have := ih (i := j) (by simpa using h); simp only [List.set_cons_succ, List.map_cons, List.sum_cons]; omega

theorem le_sum {l : List α} {t : α} (h : t ∈ l) : m t ≤ (l.map m).sum := by
  induction l with
  | nil => cases h
  | cons a l ih =>
    rcases List.mem_cons.mp h with rfl | h
    · simp
    · have := ih h; simp; omega

theorem sum_pos_iff {l : List α} {Q : α → Prop} (h : ∀ t, Q t ↔ 0 < m t) :
    (∃ (i : Nat) (t : α), l[i]? = some t ∧ Q t) ↔ 0 < (l.map m).sum := by
  simp only [List.sum_pos_iff_exists_pos_nat, List.mem_map, h]
  constructor
  · rintro ⟨i, t, hi, ht⟩
    exact ⟨_, ⟨t, List.mem_of_getElem? hi, rfl⟩, ht⟩
  · rintro ⟨_, ⟨t, hm, rfl⟩, ht⟩
    obtain ⟨i, hi⟩ := List.getElem?_of_mem hm
    exact ⟨i, t, hi, ht⟩

theorem sum_le_sum (m1 m2 : α → Nat) (h : ∀ t, m1 t ≤ m2 t) (l : List α) : (l.map m1).sum ≤ (l.map m2).sum := by
  induction l with
  | nil => simp
  | cons a l ih => have := h a; simp; omega

theorem sum_map_eq (f : α → α) (hf : ∀ t, m (f t) = m t) (l : List α) : ((l.map f).map m).sum = (l.map m).sum := by
  rw [List.map_map]; congr 1; exact List.map_congr_left fun t _ => hf t

end LlgoVerif.Total
