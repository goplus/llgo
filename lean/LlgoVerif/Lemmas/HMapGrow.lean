import LlgoVerif.Lemmas.HMapTable
/-!
# Lemmas for C06: growth (`hashGrow`, `evacuate`, `growWork`)
-/
namespace LlgoVerif.HMap
open LlgoVerif.AssocList

variable {K V : Type}

/-- what `evacCells_spec` knows of `evacDecide`'s answer: a key with `k == k` keeps its tophash and goes by the bit
    `hash & newbit`; a NaN key may go either way when the table doubles, under a new tophash -/
def Decided (o : Ops K) (seed : UInt32) (ssg : Bool) (newbit : Nat) (c : Cell K V) (useY : Bool) (top : UInt8) :
    Prop :=
  5 ≤ top.toNat ∧ (ssg = true → useY = false) ∧
    (o.eq c.key c.key = true → top = c.top ∧
      (ssg = false → useY = decide ((o.hash seed c.key).toNat % (2 * newbit) ≥ newbit)))

theorem evacDecide_spec {o : Ops K} {newbit : Nat} {c : Cell K V} (h : HMap K V)
    (hl : c.live = true) (hu : o.unhashable c.key = false) :
    ∃ useY top h1, evacDecide o newbit c h = .ok (useY, top, h1) ∧ Same h h1 ∧
      Decided o h.hash0 h.sameSizeGrow newbit c useY top := by
  have h5 := live_iff.1 hl
  unfold evacDecide
  cases hs : h.sameSizeGrow with
  | true =>
    exact ⟨false, c.top, h, by simp [pure, Except.pure], Same.refl h, h5, (fun _ => rfl), fun _ => ⟨rfl, (fun e => by cases e)⟩⟩
  | false =>
    obtain ⟨hash, h1, hk, hsame, hrefl⟩ := hashKey_ok (s := h.hash0) h hu
    simp only [Bool.not_false, if_true, hk, bind, Except.bind]
    cases hr : o.eq c.key c.key with
    | true =>
      obtain ⟨e1, e2⟩ := hrefl hr
      simp only [Bool.not_true, Bool.and_false, Bool.false_eq_true, if_false]
      exact ⟨_, _, _, rfl, hsame, h5, (fun e => by cases e), fun _ => ⟨rfl, fun _ => by rw [e1]⟩⟩
    | false =>
      split
      · exact ⟨_, _, _, rfl, hsame, tophash_toNat_ge _, (fun e => by cases e), fun e => by rw [hr] at e; cases e⟩
      · exact ⟨_, _, _, rfl, hsame, h5, (fun e => by cases e), fun e => by rw [hr] at e; cases e⟩

theorem mod_two_mul_lt {a n : Nat} (h : a % (2 * n) < n) : a % (2 * n) = a % n := by
  rw [← Nat.mod_mul_left_mod a 2 n, Nat.mod_eq_of_lt h]

theorem mod_two_mul_ge {a n : Nat} (hn : 0 < n) (h : a % (2 * n) ≥ n) : a % (2 * n) = a % n + n := by
  rw [← Nat.mod_mul_left_mod a 2 n]
  exact (mod_add_of_ge h (Nat.mod_lt _ (by omega))).symm

theorem evac_index {h : HMap K V} (hB : h.sameSizeGrow = false → 1 ≤ h.B) {a j : Nat} {useY : Bool}
    (ha : a % h.noldbuckets = j) (hx : h.sameSizeGrow = true → useY = false)
    (hy : h.sameSizeGrow = false → useY = decide (a % (2 * h.noldbuckets) ≥ h.noldbuckets)) :
    a % 2 ^ h.B = if useY then j + h.noldbuckets else j := by
  cases hs : h.sameSizeGrow with
  | true =>
    rw [hx hs, ← nold_of_ssg hs, ha]; rfl
  | false =>
    rw [two_nold hs (hB hs), hy hs]
    by_cases hge : a % (2 * h.noldbuckets) ≥ h.noldbuckets
    · rw [decide_eq_true hge, if_pos rfl, mod_two_mul_ge (nold_pos h) hge, ha]
    · rw [decide_eq_false hge, if_neg nofun, mod_two_mul_lt (by omega), ha]

theorem getD_set_self {a : Array (Chain K V)} {j : Nat} (hj : j < a.size) (c : Chain K V) :
    (a.setIfInBounds j c).getD j [] = c := by
  rw [Array.getD_eq_getD_getElem?, Array.getElem?_setIfInBounds_self]; simp [hj]

theorem advanceLoop_spec (oa : Array (Chain K V)) (stop : Nat) : ∀ (fuel n : Nat), n ≤ stop →
    (∀ j, j < n → bucketEvacuated oa j = true) →
    advanceLoop oa stop fuel n ≤ stop ∧ ∀ j, j < advanceLoop oa stop fuel n → bucketEvacuated oa j = true := by
  intro fuel
  induction fuel with
  | zero => exact fun n hn hpre => ⟨hn, hpre⟩
  | succ fuel ih =>
    intro n hn hpre
    simp only [advanceLoop]
    split
    · rename_i hc
      simp only [Bool.and_eq_true, bne_iff_ne, ne_eq] at hc
      exact ih (n + 1) (by omega) fun j hj => if e : j = n then e ▸ hc.2 else hpre j (by omega)
    · exact ⟨hn, hpre⟩

variable [Inhabited K] [Inhabited V]

/-- an evacuation destination holds the cells written so far, padded with `n` zeroed cells to whole buckets; the next
    write goes to the end of `ws` -/
def DstOK (d : Dst K V) (ws : List (Cell K V)) : Prop :=
  ∃ n, d.i + n = 8 ∧ d.bi * bucketCnt + d.i = ws.length ∧ d.chain = ws ++ List.replicate n (freshCell K V)

theorem put_spec {d : Dst K V} {ws : List (Cell K V)} (hd : DstOK d ws) (c : Cell K V) (h : HMap K V) :
    DstOK (d.put c h).1 (ws ++ [c]) ∧ Same h (d.put c h).2 := by
  -- the cell goes to the first zeroed slot
  have store : ∀ {d : Dst K V}, DstOK d ws → d.i ≠ 8 →
      DstOK { d with chain := d.chain.set (d.bi * bucketCnt + d.i) c, i := d.i + 1 } (ws ++ [c]) := by
    intro d ⟨n, hn, hpos, hch⟩ h8
    cases n with
    | zero => exact absurd hn h8
    | succ n =>
      refine ⟨n, (Nat.add_right_comm d.i 1 n).trans hn, ?_, ?_⟩
      · show d.bi * bucketCnt + (d.i + 1) = (ws ++ [c]).length
        rw [List.length_append, ← hpos]; rfl
      · show d.chain.set (d.bi * bucketCnt + d.i) c = (ws ++ [c]) ++ List.replicate n (freshCell K V)
        rw [hch, hpos, List.replicate_succ, set_split]
        exact List.append_cons ..
  unfold Dst.put
  by_cases h8 : d.i = 8
  · -- a full bucket gets a zeroed successor first
    obtain ⟨n, hn, hpos, hch⟩ := hd
    obtain rfl : n = 0 := Nat.add_left_cancel (hn.trans h8.symm)
    have hfull : (d.bi + 1) * bucketCnt = ws.length := by rw [Nat.succ_mul, ← hpos, h8]; rfl
    simp only [show (d.i == bucketCnt) = true by simp [h8, bucketCnt], if_true]
    refine ⟨store (d := { chain := d.chain.take ((d.bi + 1) * bucketCnt) ++ freshBucket K V, bi := d.bi + 1, i := 0 })
      ⟨8, rfl, hfull, ?_⟩ (show 0 ≠ 8 by decide), same_incr h⟩
    show d.chain.take ((d.bi + 1) * bucketCnt) ++ freshBucket K V = ws ++ List.replicate 8 (freshCell K V)
    rw [hch, hfull, List.replicate_zero, List.append_nil, List.take_length, freshBucket_eq]
  · simp only [show (d.i == bucketCnt) = false by simpa [bucketCnt] using h8, Bool.false_eq_true, if_false]
    exact ⟨store hd h8, Same.refl h⟩

def DstGood (P : Cell K V → Prop) (d : Dst K V) (A : AList K V) : Prop :=
  ∃ ws, DstOK d ws ∧ (∀ m ∈ ws, 5 ≤ m.top.toNat ∧ P m) ∧ chainAbs ws = A

theorem DstGood.put {P : Cell K V → Prop} {d : Dst K V} {A : AList K V} (hd : DstGood P d A) {c : Cell K V}
    (h5 : 5 ≤ c.top.toNat) (hc : P c) (h : HMap K V) :
    DstGood P (d.put c h).1 (A ++ [(c.key, c.val)]) ∧ Same h (d.put c h).2 := by
  obtain ⟨ws, hd, hw, rfl⟩ := hd
  obtain ⟨hd', hs⟩ := put_spec hd c h
  refine ⟨⟨ws ++ [c], hd', fun m hm => ?_, ?_⟩, hs⟩
  · rcases List.mem_append.1 hm with hm | hm
    · exact hw m hm
    · rw [List.mem_singleton.1 hm]; exact ⟨h5, hc⟩
  · rw [chainAbs_append, chainAbs_cons_live (live_iff.2 h5)]; rfl

/-- `P useY`: what a cell sent to x (`false`) / y (`true`) must satisfy, whatever `evacDecide` answers; `seed`, `ssg`:
    `hash0` and `sameSizeGrow` of the header, which the loop does not change -/
theorem evacCells_spec {o : Ops K} {newbit : Nat} {seed : UInt32} {ssg : Bool} {P : Bool → Cell K V → Prop}
    (cells : List (Cell K V)) :
    ∀ (x y : Dst K V) (h : HMap K V) (A B : AList K V), h.hash0 = seed → h.sameSizeGrow = ssg →
    DstGood (P false) x A → (ssg = false → DstGood (P true) y B) →
    (∀ c ∈ cells, isEmptyTop c.top = false → c.live = true ∧ o.unhashable c.key = false ∧
      ∀ useY top, Decided o seed ssg newbit c useY top → P useY { top := top, key := c.key, val := c.val }) →
    ∃ marked x' y' h' A' B', evacCells o newbit cells x y h = .ok (marked, x', y', h') ∧ Same h h' ∧
      marked.length = cells.length ∧ (∀ m ∈ marked, 2 ≤ m.top.toNat ∧ m.top.toNat ≤ 4) ∧
      DstGood (P false) x' (A ++ A') ∧ (ssg = false → DstGood (P true) y' (B ++ B')) ∧
      (ssg = true → y' = y ∧ B' = []) ∧ (A' ++ B').Perm (chainAbs cells) := by
  induction cells with
  | nil =>
    intro x y h A B _ _ hx hy _
    exact ⟨[], x, y, h, [], [], rfl, Same.refl h, rfl, nofun, by simpa using hx, by simpa using hy,
      fun _ => ⟨rfl, rfl⟩, .refl _⟩
  | cons c cs ih =>
    intro x y h A B e0 es hx hy hsrc
    have hsrc' := fun c' hc' => hsrc c' (List.mem_cons_of_mem _ hc')
    rw [evacCells]
    cases hemp : isEmptyTop c.top with
    | true =>
      obtain ⟨marked, x', y', h', A', B', hev, hs, hlen, hmk, dx, dy, hy', hperm⟩ := ih x y h A B e0 es hx hy hsrc'
      simp only [if_true, hev, bind, Except.bind, pure, Except.pure]
      refine ⟨_, x', y', h', A', B', rfl, hs, by simp [hlen],
        List.forall_mem_cons.2 ⟨by simp [evacuatedEmpty], hmk⟩, dx, dy, hy', ?_⟩
      rw [chainAbs_cons_dead (dead_of_isEmpty hemp)]; exact hperm
    | false =>
      obtain ⟨hl, hu, hP⟩ := hsrc c (List.mem_cons_self ..) hemp
      have hlt : ¬ c.top < minTopHash := by
        rw [UInt8.lt_iff_toNat_lt]; have := live_iff.1 hl; simp [minTopHash]; omega
      simp only [Bool.false_eq_true, if_false, hlt]
      obtain ⟨useY, top, h1, hdec, hs1, htop5, hssgY, hrefl⟩ := evacDecide_spec (newbit := newbit) h hl hu
      rw [e0, es] at hrefl
      rw [es] at hssgY
      have hm := hP useY top ⟨htop5, hssgY, hrefl⟩
      simp only [hdec, bind, Except.bind]
      rw [chainAbs_cons_live hl]
      cases useY with
      | true =>
        have hsf : ssg = false := by cases ssg; rfl; exact absurd (hssgY rfl) nofun
        obtain ⟨dy1, hs2⟩ := (hy hsf).put htop5 hm h1
        have hs12 := hs1.trans hs2
        obtain ⟨marked, x', y', h', A', B', hev, hs, hlen, hmk, dx, dy, -, hperm⟩ :=
          ih x _ _ A _ (hs12.hash0.trans e0) (hs12.ssg.trans es) hx (fun _ => dy1) hsrc'
        simp only [if_true, hev]
        exact ⟨_, x', y', h', A', (c.key, c.val) :: B', rfl, hs12.trans hs, by simp [hlen],
          List.forall_mem_cons.2 ⟨by simp [evacuatedY], hmk⟩, dx,
          fun e => by simpa using dy e, fun e => absurd (hsf ▸ e) nofun, List.perm_middle.trans (hperm.cons _)⟩
      | false =>
        obtain ⟨dx1, hs2⟩ := hx.put htop5 hm h1
        have hs12 := hs1.trans hs2
        obtain ⟨marked, x', y', h', A', B', hev, hs, hlen, hmk, dx, dy, hy', hperm⟩ :=
          ih _ y _ _ B (hs12.hash0.trans e0) (hs12.ssg.trans es) dx1 hy hsrc'
        simp only [Bool.false_eq_true, if_false, hev]
        exact ⟨_, x', y', h', (c.key, c.val) :: A', B', rfl, hs12.trans hs, by simp [hlen],
          List.forall_mem_cons.2 ⟨by simp [evacuatedX], hmk⟩, by simpa using dx, dy, hy', hperm.cons _⟩

theorem dstGood_fresh (P : Cell K V → Prop) : DstGood P ({ chain := freshBucket K V } : Dst K V) [] :=
  ⟨[], ⟨8, rfl, rfl, freshBucket_eq⟩, nofun, rfl⟩

theorem DstGood.chain {o : Ops K} {s : UInt32} {n t : Nat} {d : Dst K V} {A : AList K V}
    (hd : DstGood (KeyOK o s n t) d A) : NewChainOK o s n t d.chain ∧ chainAbs d.chain = A := by
  obtain ⟨ws, ⟨pad, hpad, hlen, hch⟩, hw, rfl⟩ := hd
  have p := pad_fresh (ws := ws)
    (fun m hm => ne_emptyRest_of_not_empty (not_empty_of_ge5 (hw m hm).1)) pad
  have hl : d.chain.length = d.bi * 8 + 8 := by
    rw [hch, List.length_append, List.length_replicate, ← hlen, Nat.add_assoc, hpad]; rfl
  rw [← hch] at p
  exact ⟨.of_retop (fun m hm => .inr (hw m hm).1) (fun m hm _ => (hw m hm).2) p
    ⟨fun e => (by rw [e] at hl; cases hl), (by rw [hl]; omega)⟩, p.abs⟩

theorem oldOK_mark {o : Ops K} {h : HMap K V} {oa : Array (Chain K V)} (hO : OldOK o h oa) {j : Nat}
    {marked : Chain K V} (hev : evacuatedChain marked = true) (hdead : ∀ m ∈ marked, m.live = false) :
    OldOK o h (oa.setIfInBounds j marked) := by
  apply oldOK_intro
  · simpa using hO.size
  · exact hO.bpos
  · simpa using hO.nevac
  · exact forall_getElem?_set (P := fun j c => j < h.nevacuate → evacuatedChain c = true)
      (fun j' c hc hjn => by obtain ⟨hj, rfl⟩ := getElem_of_getElem? hc; exact hO.done j' hj hjn) fun _ _ => hev
  · exact forall_getElem?_set (fun j' c hc => by obtain ⟨hj, rfl⟩ := getElem_of_getElem? hc; exact hO.chain hj)
      fun _ => ⟨fun _ => hdead, fun e => by rw [hev] at e; cases e⟩

/-- `h'` is `h` after some evacuation work; `nold`: the step that ends the growth clears `sameSizeGrow`, which changes
    `noldbuckets` -/
structure Evac (o : Ops K) (h h' : HMap K V) : Prop where
  wf : WF o h'
  perm : (abs h').Perm (abs h)
  B : h'.B = h.B
  hash0 : h'.hash0 = h.hash0
  nold : h'.old = none ∨ h'.noldbuckets = h.noldbuckets
  mono : ∀ j, EvacAt h j → EvacAt h' j
  still : h.old = none → h'.old = none

theorem Evac.refl {o : Ops K} {h : HMap K V} (hw : WF o h) : Evac o h h :=
  ⟨hw, .refl _, rfl, rfl, .inr rfl, fun _ e => e, id⟩

theorem Evac.trans {o : Ops K} {a b c : HMap K V} (p : Evac o a b) (q : Evac o b c) : Evac o a c :=
  ⟨q.wf, q.perm.trans p.perm, q.B.trans p.B, q.hash0.trans p.hash0,
    q.nold.elim .inl fun e2 => p.nold.elim (fun e1 => .inl (q.still e1)) fun e1 => .inr (e2.trans e1),
    fun j e => q.mono j (p.mono j e), fun e => q.still (p.still e)⟩

theorem src_keyOK {o : Ops K} {h : HMap K V} {oa : Array (Chain K V)} (hO : OldOK o h oa) {j : Nat} (hj : j < oa.size)
    (hne : evacuatedChain oa[j] = false) :
    ∀ c ∈ oa[j], isEmptyTop c.top = false → c.live = true ∧ o.unhashable c.key = false ∧
      ∀ useY top, Decided o h.hash0 h.sameSizeGrow h.noldbuckets c useY top →
        KeyOK o h.hash0 (2 ^ h.B) (if useY then j + h.noldbuckets else j) { top := top, key := c.key, val := c.val } := by
  intro c hc he
  have hs := (hO.chain hj).src hne
  have hl : c.live = true := live_of_not_empty (hs.marks c hc) he
  refine ⟨hl, hs.hashable c hc hl, fun useY top ⟨_, hX, hr⟩ => ⟨hs.hashable c hc hl, fun hrefl => ?_⟩⟩
  obtain ⟨p1, p2⟩ := hs.placed c hc hl hrefl
  obtain ⟨e1, e2⟩ := hr hrefl
  exact ⟨e1.trans p1, evac_index hO.bpos p2 hX e2⟩

theorem evacCopy_run {o : Ops K} {h h2 : HMap K V} {oa : Array (Chain K V)} {j : Nat} (hj : j < oa.size)
    (hne : evacuatedChain oa[j] = false) {marked : List (Cell K V)} {x y : Dst K V}
    (hev : evacCells o h.noldbuckets oa[j] { chain := h.buckets.getD j [] }
      { chain := h.buckets.getD (j + h.noldbuckets) [] } h = .ok (marked, x, y, h2)) :
    evacCopy o h oa j = .ok { h2 with
      buckets := if !h2.sameSizeGrow then (h2.buckets.setIfInBounds j x.chain).setIfInBounds (j + h.noldbuckets) y.chain
                 else h2.buckets.setIfInBounds j x.chain,
      old := some (oa.setIfInBounds j marked) } := by
  unfold evacCopy
  simp only [← Array.getElem_eq_getD (h := hj) [], hne, Bool.not_false, if_true, hev, bind, Except.bind, pure,
    Except.pure]

/-- the entries of old chain `j` move to chain `j` and, when the table doubles, chain `j + noldbuckets` of the current
    array (otherwise that index lies beyond the array and the write does nothing) -/
theorem evac_move {o : Ops K} (ho : HashOK o) {h h1 : HMap K V} (hw : WF o h) {oa : Array (Chain K V)}
    (hold : h.old = some oa) {j : Nat} (hj : j < oa.size) (hne : evacuatedChain oa[j] = false)
    {cx cy marked : Chain K V}
    (hbk : h1.buckets = (h.buckets.setIfInBounds j cx).setIfInBounds (j + h.noldbuckets) cy)
    (hold1 : h1.old = some (oa.setIfInBounds j marked)) (hB : h1.B = h.B)
    (hssg : h1.sameSizeGrow = h.sameSizeGrow) (hnev : h1.nevacuate = h.nevacuate) (h0 : h1.hash0 = h.hash0)
    (hcnt : h1.count = h.count) (hx : NewChainOK o h.hash0 (2 ^ h.B) j cx)
    (hy : j + h.noldbuckets < h.buckets.size → NewChainOK o h.hash0 (2 ^ h.B) (j + h.noldbuckets) cy)
    (hy0 : h.buckets.size ≤ j + h.noldbuckets → chainAbs cy = [])
    (hmev : evacuatedChain marked = true) (hmdead : ∀ m ∈ marked, m.live = false)
    (hp : (chainAbs cx ++ chainAbs cy).Perm (chainAbs oa[j])) : Evac o h h1 := by
  have hO := hw.oldOK hold
  have hjn : j < h.noldbuckets := hO.size ▸ hj
  have hjy : (j + h.noldbuckets) % h.noldbuckets = j := by simp [Nat.mod_eq_of_lt hjn]
  have hdst : ∀ i, i % h.noldbuckets = j → ∀ c, h.buckets[i]? = some c → chainAbs c = [] := fun i hij c hc =>
    fresh_of_not_evacuated hw hold hj hne hc hij ▸ freshBucket_abs
  have hperm : (abs h1).Perm (abs h) :=
    abs_move hold hj hbk hold1 (getElem_of_getElem? ((hO.chain hj).src hne).dstX).1 (by have := nold_pos h; omega)
      (hdst j (Nat.mod_eq_of_lt hjn)) (hdst _ hjy) hy0 (chainAbs_eq_nil_iff.2 hmdead) hp
  have hev1 : ∀ b, b % h.noldbuckets = j →
      evacuatedChain ((oa.setIfInBounds j marked).getD (b % h.noldbuckets) []) = true :=
    fun b e => by rw [e, getD_set_self hj]; exact hmev
  refine ⟨wf_intro ?_ ?_ ?_ ?_ ?_, hperm, hB, h0, .inr (noldbuckets_congr hB hssg),
    fun j' e => (evacAt_some hold1).2 ?_, fun e => by rw [hold] at e; cases e⟩
  · rw [hbk, hB]; simpa using hw.size
  · rw [hbk, h0, hB]
    exact forall_getElem?_set (forall_getElem?_set (fun _ _ => hw.newOK') fun _ => hx) (by simpa using hy)
  · rw [hcnt, hw.count]; exact hperm.length_eq.symm
  · exact nodup_perm ho.eqok hperm.symm hw.nodup
  · rw [hold1]
    exact oldOK_set (h := { h with buckets := h.buckets.setIfInBounds j cx })
      (oldOK_set (oldOK_mark hO hmev hmdead) (hev1 j (Nat.mod_eq_of_lt hjn)) rfl rfl rfl rfl rfl) (hev1 _ hjy)
      hB hssg hnev h0 hbk
  · by_cases hjj : j = j'
    · subst hjj; rw [getD_set_self hj]; exact hmev
    · rw [Array.getD_eq_getD_getElem?, Array.getElem?_setIfInBounds_ne hjj, ← Array.getD_eq_getD_getElem?]
      exact (evacAt_some hold).1 e

theorem evacCopy_copy {o : Ops K} (ho : HashOK o) {h : HMap K V} (hw : WF o h) {oa : Array (Chain K V)}
    (hold : h.old = some oa) {j : Nat} (hj : j < oa.size) (hne : evacuatedChain oa[j] = false) :
    ∃ h1, evacCopy o h oa j = .ok h1 ∧ Evac o h h1 ∧ EvacAt h1 j ∧ h1.old ≠ none := by
  have hO := hw.oldOK hold
  have hsrc := (hO.chain hj).src hne
  obtain ⟨marked, x, y, h2, A', B', hev, hs, hlen, hmk, gx, gy, hy0, hperm⟩ :=
    evacCells_spec (o := o) (newbit := h.noldbuckets)
      (P := fun b => KeyOK o h.hash0 (2 ^ h.B) (if b then j + h.noldbuckets else j)) oa[j]
      { chain := h.buckets.getD j [] } { chain := h.buckets.getD (j + h.noldbuckets) [] } h [] [] rfl rfl
      (by rw [Array.getD_eq_getD_getElem?, hsrc.dstX]; exact dstGood_fresh _)
      (fun e => by rw [Array.getD_eq_getD_getElem?, hsrc.dstY e]; exact dstGood_fresh _) (src_keyOK hO hj hne)
  simp only [List.nil_append] at gx gy
  obtain ⟨xOK, xA⟩ := gx.chain
  have hmev : evacuatedChain marked = true :=
    evacuatedChain_of_marks (fun e => hsrc.ne (List.eq_nil_of_length_eq_zero (by rw [← hlen, e]; rfl))) hmk
  -- without doubling there is no y destination: chain `j + noldbuckets` lies beyond the array and `y` is untouched
  obtain ⟨hyOK, hyA, hyout, hbk⟩ :
      (j + h.noldbuckets < h.buckets.size → NewChainOK o h.hash0 (2 ^ h.B) (j + h.noldbuckets) y.chain) ∧
      chainAbs y.chain = B' ∧ (h.buckets.size ≤ j + h.noldbuckets → chainAbs y.chain = []) ∧
      (if !h.sameSizeGrow then (h.buckets.setIfInBounds j x.chain).setIfInBounds (j + h.noldbuckets) y.chain
        else h.buckets.setIfInBounds j x.chain) =
        (h.buckets.setIfInBounds j x.chain).setIfInBounds (j + h.noldbuckets) y.chain := by
    cases e : h.sameSizeGrow with
    | false =>
      exact ⟨fun _ => (gy e).chain.1, (gy e).chain.2,
        fun hle => absurd (getElem_of_getElem? (hsrc.dstY e)).1 (by omega), rfl⟩
    | true =>
      obtain ⟨rfl, rfl⟩ := hy0 e
      have hout : h.buckets.size ≤ j + h.noldbuckets := by rw [hw.size, nold_of_ssg e]; omega
      have hnil : chainAbs (h.buckets.getD (j + h.noldbuckets) []) = [] := by simp [Array.getD, Nat.not_lt.2 hout]
      exact ⟨fun hlt => absurd hlt (by omega), hnil, fun _ => hnil,
        (Array.setIfInBounds_eq_of_size_le (by simpa using hout)).symm⟩
  refine ⟨_, evacCopy_run hj hne hev,
    evac_move ho hw hold hj hne ?_ rfl hs.B hs.ssg hs.nev hs.hash0 hs.count xOK hyOK hyout hmev
      (fun m hm => dead_of_lt5 (by have := hmk m hm; omega)) (xA ▸ hyA ▸ hperm),
    (evacAt_some rfl).2 (by rw [getD_set_self hj]; exact hmev), nofun⟩
  show (if !h2.sameSizeGrow then _ else _) = _
  rw [hs.ssg, hs.buckets]
  exact hbk

theorem advance_spec {o : Ops K} {h : HMap K V} (hw : WF o h) {oa : Array (Chain K V)} (hold : h.old = some oa)
    (hev : evacuatedChain (oa.getD h.nevacuate []) = true) : Evac o h (advanceEvacuationMark h h.noldbuckets) := by
  have hO := hw.oldOK hold
  have hsz := hO.size
  have hnv := hO.nevac
  unfold advanceEvacuationMark
  split
  · rename_i hn; rw [hold] at hn; cases hn
  rename_i oa' hsome
  obtain rfl : oa = oa' := Option.some.inj (hold.symm.trans hsome)
  simp only
  obtain ⟨l2, l3⟩ := advanceLoop_spec oa (min (h.nevacuate + 1 + 1024) h.noldbuckets) 1024 (h.nevacuate + 1)
    (by rw [← hsz]; omega) fun j hj => by
      by_cases e : j = h.nevacuate
      · rw [e]; exact hev
      · exact (congrArg evacuatedChain (Array.getElem_eq_getD [])).symm.trans (hO.done j (by omega) (by omega))
  generalize advanceLoop oa (min (h.nevacuate + 1 + 1024) h.noldbuckets) 1024 (h.nevacuate + 1) = r at *
  have hevac : ∀ j (hj : j < oa.size), j < r → evacuatedChain oa[j] = true := fun j hj hjr =>
    (congrArg evacuatedChain (Array.getElem_eq_getD [])).trans (l3 j hjr)
  split
  · rename_i hr
    have hr' : r = h.noldbuckets := by simpa using hr
    have hdead : chainAbs (cellsOf oa) = [] := chainAbs_eq_nil_iff.2 fun x hx => by
      obtain ⟨j, hj, hxj⟩ := mem_cellsOf.1 hx
      exact (hO.chain hj).dead (hevac j hj (by rw [hr', ← hsz]; exact hj)) x hxj
    have habs : abs { h with nevacuate := r, old := none, sameSizeGrow := false, dead := (h.gen - 1, oa) :: h.dead } = abs h := by
      rw [abs_of_old_none rfl, abs_of_old_some hold, hdead, List.append_nil]
    exact ⟨⟨hw.size, hw.newOK, by rw [habs]; exact hw.count, by rw [habs]; exact hw.nodup, rfl⟩, .of_eq habs, rfl, rfl,
      .inl rfl, fun _ _ => evacAt_none rfl _, fun e => by simp [hold] at e⟩
  · rename_i hr
    have hr' : r ≠ h.noldbuckets := by simpa using hr
    refine ⟨⟨hw.size, hw.newOK, hw.count, hw.nodup, ?_⟩, .refl _, rfl, rfl, .inr rfl, fun _ e => e,
      fun e => by rw [hold] at e; cases e⟩
    simp only [hold]
    exact ⟨hO.size, hO.bpos, by show r < oa.size; rw [hsz]; omega, hevac, hO.chains⟩

theorem evacCopy_spec {o : Ops K} (ho : HashOK o) {h : HMap K V} (hw : WF o h) {oa : Array (Chain K V)}
    (hold : h.old = some oa) {j : Nat} (hj : j < oa.size) :
    ∃ h1, evacCopy o h oa j = .ok h1 ∧ Evac o h h1 ∧ EvacAt h1 j ∧ h1.old ≠ none := by
  cases hev : evacuatedChain oa[j] with
  | false => exact evacCopy_copy ho hw hold hj hev
  | true =>
    refine ⟨h, ?_, .refl hw, (evacAt_some hold).2 (by rw [← Array.getElem_eq_getD (h := hj) []]; exact hev),
      by rw [hold]; nofun⟩
    unfold evacCopy
    simp only [← Array.getElem_eq_getD (h := hj) [], hev, Bool.not_true, Bool.false_eq_true, if_false]
    rfl

theorem evacuate_spec {o : Ops K} (ho : HashOK o) {h : HMap K V} (hw : WF o h) {j : Nat}
    (hjs : ∀ oa, h.old = some oa → j < oa.size) : ∃ h', evacuate o h j = .ok h' ∧ Evac o h h' ∧ EvacAt h' j := by
  unfold evacuate
  split
  · rename_i hold
    exact ⟨h, rfl, .refl hw, evacAt_none hold _⟩
  · rename_i oa hold
    obtain ⟨h1, hstep, p1, e1, hold1⟩ := evacCopy_spec ho hw hold (hjs oa hold)
    simp only [hstep, bind, Except.bind, pure, Except.pure]
    split
    · rename_i hjn
      obtain ⟨oa1, hold1⟩ := Option.ne_none_iff_exists'.1 hold1
      have hjn' : j = h1.nevacuate := by simpa using hjn
      have p2 := advance_spec p1.wf hold1 ((evacAt_some hold1).1 (hjn' ▸ e1))
      rw [p1.nold.resolve_left (by rw [hold1]; nofun)] at p2
      exact ⟨_, rfl, p1.trans p2, p2.mono _ e1⟩
    · exact ⟨h1, rfl, p1, e1⟩

theorem growWork_spec {o : Ops K} (ho : HashOK o) {h : HMap K V} (hw : WF o h) (b : Nat) :
    ∃ h', growWork o h b = .ok h' ∧ Evac o h h' ∧ Home h' b := by
  unfold growWork
  obtain ⟨h1, he1, p1, e1⟩ := evacuate_spec ho hw (j := b % h.noldbuckets)
    (fun oa hold => by rw [(hw.oldOK hold).size]; exact Nat.mod_lt _ (nold_pos h))
  simp only [he1, bind, Except.bind]
  have key : ∀ {h2 : HMap K V}, Evac o h h2 → EvacAt h2 (b % h.noldbuckets) → Home h2 b := fun p e =>
    p.nold.elim (fun e0 => evacAt_none e0 _) fun e0 => by rw [Home, e0]; exact e
  cases hg : h1.old with
  | none =>
    have := growing_of_old_none hg
    simp only [this, Bool.false_eq_true, if_false, pure, Except.pure]
    exact ⟨h1, rfl, p1, key p1 e1⟩
  | some oa1 =>
    have := growing_of_old_some hg
    simp only [this, if_true]
    obtain ⟨h2, he2, p2, -⟩ := evacuate_spec ho p1.wf (j := h1.nevacuate) (fun oa e => by
      rw [hg] at e; cases e; exact (p1.wf.oldOK hg).nevac)
    exact ⟨h2, he2, p1.trans p2, key (p1.trans p2) (p2.mono _ e1)⟩

/-- `if h.growing() { growWork(t, h, bucket) }` at the head of mapassign and mapdelete (`f`: what follows); what the
    search of the home chain starts from holds of the table it leaves -/
theorem grow_first {o : Ops K} (ho : HashOK o) {h : HMap K V} (hw : WF o h) {hash : UInt64} {k : K}
    (hhash : o.eq k k = true → hash = o.hash h.hash0 k) {m : AList K V} (hm : (abs h).Perm m) :
    ∃ h3, (∀ {α : Type} (f : HMap K V → Except Err α),
        (if h.growing then growWork o h (bucketIdx hash h.B) >>= f else pure h >>= f) = f h3) ∧
      WF o h3 ∧ Home h3 (bucketIdx hash h3.B) ∧ (o.eq k k = true → hash = o.hash h3.hash0 k) ∧ (abs h3).Perm m ∧
      (h.old = none → h3 = h) := by
  cases hg : h.old with
  | none =>
    exact ⟨h, fun f => by simp [growing_of_old_none hg, pure, Except.pure, bind, Except.bind], hw, evacAt_none hg _,
      hhash, hm, fun _ => rfl⟩
  | some oa =>
    obtain ⟨h3, e, p, hhome⟩ := growWork_spec ho hw (bucketIdx hash h.B)
    exact ⟨h3, fun f => by simp [growing_of_old_some hg, e, bind, Except.bind], p.wf, by rw [p.B]; exact hhome,
      fun hr => by rw [p.hash0]; exact hhash hr, p.perm.trans hm, nofun⟩

theorem hashGrow_spec {o : Ops K} {h : HMap K V} (hw : WF o h) (hold : h.old = none) :
    WF o (hashGrow h) ∧ abs (hashGrow h) = abs h := by
  have hssg : h.sameSizeGrow = false := hw.ssg_of_old_none hold
  have hbk : (hashGrow h).buckets = freshArray K V (hashGrow h).B := rfl
  have habs : abs (hashGrow h) = abs h := by
    rw [abs_of_old_none hold, abs_of_old_some (h := hashGrow h) rfl, hbk, cellsOf_fresh_abs, List.nil_append]
  -- the present array becomes the old one; the new one has as many chains (same-size growth) or twice as many
  obtain ⟨hnold, hBle, hB⟩ : (hashGrow h).noldbuckets = 2 ^ h.B ∧ 2 ^ h.B ≤ 2 ^ (hashGrow h).B ∧
      ((hashGrow h).sameSizeGrow = false → (hashGrow h).B = h.B + 1) := by
    unfold HMap.noldbuckets hashGrow
    cases overLoadFactor (h.count + 1) h.B
    · simp
    · simp [hssg, Nat.pow_succ]; omega
  refine ⟨?_, habs⟩
  apply wf_intro
  · rw [hbk]; simp [freshArray]
  · exact fun i c hc => freshArray_ok (hbk ▸ hc)
  · rw [habs]; exact hw.count
  · rw [habs]; exact hw.nodup
  · show OldOK o (hashGrow h) h.buckets
    apply oldOK_intro
    · rw [hnold]; exact hw.size
    · exact fun e => by rw [hB e]; omega
    · show 0 < h.buckets.size
      rw [hw.size]; exact Nat.pow_pos (by omega)
    · exact fun j c _ (hj : j < 0) => absurd hj (Nat.not_lt_zero j)
    · intro j c hc
      have hn := hw.newOK' hc
      have hj : j < 2 ^ h.B := hw.size ▸ (getElem_of_getElem? hc).1
      have hne := not_evacuated_of_noMarks hn.marks
      refine ⟨(fun e => by rw [hne] at e; cases e), fun _ => ⟨hn.marks, hn.rest, ?_, hn.hashable, hn.len8.1, ?_, ?_⟩⟩
      · rw [hnold]; exact hn.placed
      · rw [hbk]; exact freshArray_get _ _ (by omega)
      · intro e
        rw [hnold, hbk]
        exact freshArray_get _ _ (by rw [hB e, Nat.pow_succ]; omega)

end LlgoVerif.HMap
