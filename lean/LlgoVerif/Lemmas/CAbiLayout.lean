import LlgoVerif.Lemmas.CAbiClassify
/-!
# C09 — lemmas: real layouts of nested types

Every type of the universe (any nesting, arrays of structs, any padding) has a `GoodView`: mutual induction over the type with the
layout cursor as invariant.
-/

namespace LlgoVerif.CAbi
open LlgoVerif.SysV

theorem mem_shift (d : Nat) (l : List Elem) (e : Elem) : e ∈ shift d l ↔ ∃ e' ∈ l, e = (e'.1 + d, e'.2) := by
  simp only [shift, List.mem_map, eq_comm]

theorem shift_map_snd (d : Nat) (l : List Elem) : (shift d l).map (·.2) = l.map (·.2) := by
  unfold shift; simp [List.map_map, Function.comp_def]

theorem sorted_shift (d : Nat) (l : List Elem) (h : Sorted l) : Sorted (shift d l) := by
  unfold Sorted shift at *
  rw [List.pairwise_map]
  exact h.imp (fun {a b} hab => by simp only; omega)

/-- leaves of size at most `A` laid out between the cursor positions `lo` and `hi`. `dense` quantifies over the address `b` from the
    start: a shift by a multiple of `A` does not keep "`B` is a multiple of `M`" for `M > A`, so `Run.shift` instantiates `b + d` -/
structure Run (A : Nat) (l : List Elem) (lo hi : Nat) : Prop where
  leaf : ∀ e ∈ l, e.1 % e.2.size = 0 ∧ e.2.size ≤ A ∧ lo ≤ e.1 ∧ e.1 + e.2.size ≤ hi
  sorted : Sorted l
  dense : ∀ M, Pow8 M → A ≤ M → ∀ b B, b % A = 0 → B % M = 0 → b + lo ≤ B → B < b + hi → ∃ e ∈ l, b + e.1 = B

theorem Run.nil (A lo : Nat) : Run A [] lo lo :=
  ⟨fun _ he => absurd he List.not_mem_nil, List.Pairwise.nil, fun _ _ _ _ _ _ _ h1 h2 => absurd h2 (Nat.not_lt.mpr h1)⟩

theorem Run.single (s : Scalar) : Run s.size [(0, s)] 0 s.size := by
  refine ⟨?_, List.pairwise_singleton _ _, ?_⟩
  · intro e he
    rw [List.mem_singleton.mp he]
    exact ⟨Nat.zero_mod _, Nat.le_refl _, Nat.le_refl _, by simp⟩
  · intro M hM hle b B hb hB h1 h2
    refine ⟨(0, s), List.mem_singleton.mpr rfl, ?_⟩
    have hsB := Nat.dvd_of_mod_eq_zero ((pow8_size s).mod_eq_zero hM hle hB)
    rcases Nat.lt_or_ge b B with h | h
    · have := add_le_of_dvd_of_lt (Nat.dvd_of_mod_eq_zero hb) hsB h; omega
    · omega

theorem Run.mono {A A' lo hi : Nat} {l : List Elem} (h : Run A l lo hi) (hA : Pow8 A) (hA' : Pow8 A') (hle : A ≤ A') :
    Run A' l lo hi :=
  ⟨fun e he => let ⟨h1, h2, h3⟩ := h.leaf e he; ⟨h1, Nat.le_trans h2 hle, h3⟩, h.sorted,
    fun M hM hM' b B hb => h.dense M hM (Nat.le_trans hle hM') b B (hA.mod_eq_zero hA' hle hb)⟩

theorem Run.shift {A lo hi : Nat} {l : List Elem} (h : Run A l lo hi) (hA : Pow8 A) (d : Nat) (hd : d % A = 0) :
    Run A (shift d l) (d + lo) (d + hi) := by
  refine ⟨?_, sorted_shift d l h.sorted, ?_⟩
  · intro e he
    obtain ⟨e', he', rfl⟩ := (mem_shift d l e).mp he
    obtain ⟨h1, h2, h3, h4⟩ := h.leaf e' he'
    exact ⟨add_mod_eq_zero h1 ((pow8_size e'.2).mod_eq_zero hA h2 hd), h2, by simp only; omega, by simp only; omega⟩
  · intro M hM hle b B hb hB h1 h2
    obtain ⟨e, he, hee⟩ := h.dense M hM hle (b + d) B (add_mod_eq_zero hb hd) hB (by omega) (by omega)
    exact ⟨(e.1 + d, e.2), (mem_shift d l _).mpr ⟨e, he, rfl⟩, by simp only; omega⟩

theorem Run.pad_lo {A a lo hi : Nat} {l : List Elem} (h : Run A l (alignUp lo a) hi) (ha : Pow8 a) (hA : Pow8 A)
    (haA : a ≤ A) : Run A l lo hi := by
  have := le_alignUp lo a ha.pos
  refine ⟨fun e he => ?_, h.sorted, ?_⟩
  · obtain ⟨h1, h2, h3, h4⟩ := h.leaf e he
    exact ⟨h1, h2, by omega, h4⟩
  · intro M hM hle b B hb hB h1 h2
    have hab : a ∣ b := Nat.dvd_trans (ha.dvd hA haA) (Nat.dvd_of_mod_eq_zero hb)
    have haB : a ∣ B := Nat.dvd_trans (ha.dvd hM (Nat.le_trans haA hle)) (Nat.dvd_of_mod_eq_zero hB)
    exact h.dense M hM hle b B hb hB (alignUp_add_le hab haB h1) h2

theorem Run.pad_hi {A lo hi : Nat} {l : List Elem} (h : Run A l lo hi) (hA : Pow8 A) : Run A l lo (alignUp hi A) := by
  have := le_alignUp hi A hA.pos
  refine ⟨fun e he => ?_, h.sorted, ?_⟩
  · obtain ⟨h1, h2, h3, h4⟩ := h.leaf e he
    exact ⟨h1, h2, h3, by omega⟩
  · intro M hM hle b B hb hB h1 h2
    refine h.dense M hM hle b B hb hB h1 (Nat.lt_of_not_le fun hge => ?_)
    have := alignUp_add_le (Nat.dvd_of_mod_eq_zero hb)
      (Nat.dvd_trans (hA.dvd hM hle) (Nat.dvd_of_mod_eq_zero hB)) hge
    omega

theorem Run.append {A lo mid hi : Nat} {l₁ l₂ : List Elem} (h₁ : Run A l₁ lo mid) (h₂ : Run A l₂ mid hi)
    (hlm : lo ≤ mid) (hmh : mid ≤ hi) : Run A (l₁ ++ l₂) lo hi := by
  refine ⟨?_, ?_, ?_⟩
  · intro e he
    rcases List.mem_append.mp he with he | he
    · obtain ⟨h1, h2, h3, h4⟩ := h₁.leaf e he
      exact ⟨h1, h2, h3, by omega⟩
    · obtain ⟨h1, h2, h3, h4⟩ := h₂.leaf e he
      exact ⟨h1, h2, by omega, h4⟩
  · exact List.pairwise_append.mpr ⟨h₁.sorted, h₂.sorted,
      fun x hx y hy => Nat.le_trans (h₁.leaf x hx).2.2.2 (h₂.leaf y hy).2.2.1⟩
  · intro M hM hle b B hb hB h1 h2
    by_cases hc : B < b + mid
    · obtain ⟨e, he, hee⟩ := h₁.dense M hM hle b B hb hB h1 hc
      exact ⟨e, List.mem_append_left _ he, hee⟩
    · obtain ⟨e, he, hee⟩ := h₂.dense M hM hle b B hb hB (by omega) h2
      exact ⟨e, List.mem_append_right _ he, hee⟩

structure TyOK (t : CType) : Prop where
  al : Pow8 t.align
  sz : t.size % t.align = 0
  flat : t.flatten = t.elems.map (·.2)
  leaf : ∀ e ∈ t.elems, e.1 % e.2.size = 0 ∧ e.2.size ≤ t.align ∧ e.1 + e.2.size ≤ t.size
  sorted : Sorted t.elems
  big : t.align = 1 ∨ ∃ e ∈ t.elems, e.2.size = t.align
  dense : ∀ M, Pow8 M → t.align ≤ M → ∀ b B, b % t.align = 0 → B % M = 0 → b ≤ B → B < b + t.size →
    ∃ e ∈ t.elems, b + e.1 = B

/-- the fields of a struct, laid out from the cursor `cur` (the layout invariant) -/
structure LsOK (fs : List CType) : Prop where
  al : Pow8 (alignL fs)
  flat : ∀ cur, flattenL fs = (elemsL fs cur).map (·.2)
  endge : ∀ cur, cur ≤ endL fs cur
  leaf : ∀ cur, ∀ e ∈ elemsL fs cur,
    e.1 % e.2.size = 0 ∧ e.2.size ≤ alignL fs ∧ cur ≤ e.1 ∧ e.1 + e.2.size ≤ endL fs cur
  sorted : ∀ cur, Sorted (elemsL fs cur)
  big : alignL fs = 1 ∨ ∀ cur, ∃ e ∈ elemsL fs cur, e.2.size = alignL fs
  dense : ∀ M, Pow8 M → alignL fs ≤ M → ∀ cur b B, b % alignL fs = 0 → B % M = 0 → b + cur ≤ B →
    B < b + endL fs cur → ∃ e ∈ elemsL fs cur, b + e.1 = B

theorem TyOK.run {t : CType} (h : TyOK t) : Run t.align t.elems 0 t.size :=
  ⟨fun e he => let ⟨h1, h2, h3⟩ := h.leaf e he; ⟨h1, h2, Nat.zero_le _, h3⟩, h.sorted, h.dense⟩

theorem LsOK.run {fs : List CType} (h : LsOK fs) (cur : Nat) : Run (alignL fs) (elemsL fs cur) cur (endL fs cur) :=
  ⟨h.leaf cur, h.sorted cur, fun M hM hle => h.dense M hM hle cur⟩

theorem TyOK.of_run {t : CType} (al : Pow8 t.align) (sz : t.size % t.align = 0) (flat : t.flatten = t.elems.map (·.2))
    (big : t.align = 1 ∨ ∃ e ∈ t.elems, e.2.size = t.align) (r : Run t.align t.elems 0 t.size) : TyOK t :=
  ⟨al, sz, flat, fun e he => let ⟨h1, h2, _, h4⟩ := r.leaf e he; ⟨h1, h2, h4⟩, r.sorted, big, r.dense⟩

theorem LsOK.of_run {fs : List CType} (al : Pow8 (alignL fs)) (flat : ∀ cur, flattenL fs = (elemsL fs cur).map (·.2))
    (endge : ∀ cur, cur ≤ endL fs cur) (big : alignL fs = 1 ∨ ∀ cur, ∃ e ∈ elemsL fs cur, e.2.size = alignL fs)
    (r : ∀ cur, Run (alignL fs) (elemsL fs cur) cur (endL fs cur)) : LsOK fs :=
  ⟨al, flat, endge, fun cur => (r cur).leaf, fun cur => (r cur).sorted, big, fun M hM hle cur => (r cur).dense M hM hle⟩

theorem tyOK_sc (s : Scalar) : TyOK (.sc s) :=
  .of_run (pow8_size s) (Nat.mod_self _) rfl (.inr ⟨(0, s), List.mem_singleton.mpr rfl, rfl⟩) (Run.single s)

theorem tyOK_struct (fs : List CType) (h : LsOK fs) : TyOK (.struct fs) :=
  .of_run h.al (Nat.mod_eq_zero_of_dvd (alignUp_dvd _ _)) (h.flat 0) (h.big.imp id (· 0)) ((h.run 0).pad_hi h.al)

theorem lsOK_nil : LsOK [] :=
  .of_run (.inl rfl) (fun _ => rfl) Nat.le_refl (.inl rfl) (Run.nil 1)

theorem lsOK_cons (f : CType) (fs : List CType) (hf : TyOK f) (hs : LsOK fs) : LsOK (f :: fs) := by
  have hA : Pow8 (max f.align (alignL fs)) := hf.al.max hs.al
  have hend : ∀ cur, cur ≤ endL (f :: fs) cur := fun cur =>
    Nat.le_trans (Nat.le_trans (le_alignUp cur f.align hf.al.pos) (Nat.le_add_right _ _)) (hs.endge _)
  have r : ∀ cur, Run (max f.align (alignL fs)) (elemsL (f :: fs) cur) cur (endL (f :: fs) cur) := fun cur =>
    have block := (hf.run.shift hf.al _ (Nat.mod_eq_zero_of_dvd (alignUp_dvd cur f.align))).mono hf.al hA (Nat.le_max_left _ _)
    have padded := block.pad_lo hf.al hA (Nat.le_max_left _ _)
    have rest := (hs.run (alignUp cur f.align + f.size)).mono hs.al hA (Nat.le_max_right _ _)
    padded.append rest (Nat.le_trans (le_alignUp cur f.align hf.al.pos) (Nat.le_add_right _ _)) (hs.endge _)
  refine .of_run hA ?_ hend ?_ r
  · intro cur
    simp only [flattenL, elemsL, List.map_append, shift_map_snd]
    rw [hf.flat, ← hs.flat]
  · show max f.align (alignL fs) = 1 ∨ ∀ cur, ∃ e ∈ elemsL (f :: fs) cur, e.2.size = max f.align (alignL fs)
    rcases Nat.le_total (alignL fs) f.align with hge | hge
    · rw [Nat.max_eq_left hge]
      refine hf.big.imp id fun ⟨e, he, hes⟩ cur => ?_
      exact ⟨(e.1 + alignUp cur f.align, e.2), List.mem_append_left _ ((mem_shift _ _ _).mpr ⟨e, he, rfl⟩), hes⟩
    · rw [Nat.max_eq_right hge]
      refine hs.big.imp id fun h cur => ?_
      obtain ⟨e, he, hes⟩ := h (alignUp cur f.align + f.size)
      exact ⟨e, List.mem_append_right _ he, hes⟩

def arrEnd (n sz base : Nat) : Nat :=
  match n with
  | 0 => base
  | n + 1 => arrEnd n sz (base + sz)

theorem arrEnd_eq (n sz base : Nat) : arrEnd n sz base = base + n * sz := by
  induction n generalizing base with
  | zero => simp [arrEnd]
  | succ n ih =>
    simp only [arrEnd, ih, Nat.succ_mul]
    generalize n * sz = k
    omega

structure ArrOK (t : CType) (n base : Nat) : Prop where
  flat : repeatL n t.flatten = (arrElems n t.size t.elems base).map (·.2)
  leaf : ∀ e ∈ arrElems n t.size t.elems base,
    e.1 % e.2.size = 0 ∧ e.2.size ≤ t.align ∧ base ≤ e.1 ∧ e.1 + e.2.size ≤ arrEnd n t.size base
  sorted : Sorted (arrElems n t.size t.elems base)
  big : 0 < n → t.align = 1 ∨ ∃ e ∈ arrElems n t.size t.elems base, e.2.size = t.align
  dense : ∀ M, Pow8 M → t.align ≤ M → ∀ b B, b % t.align = 0 → B % M = 0 → b + base ≤ B →
    B < b + arrEnd n t.size base → ∃ e ∈ arrElems n t.size t.elems base, b + e.1 = B

theorem ArrOK.run {t : CType} {n base : Nat} (h : ArrOK t n base) :
    Run t.align (arrElems n t.size t.elems base) base (arrEnd n t.size base) :=
  ⟨h.leaf, h.sorted, h.dense⟩

theorem ArrOK.of_run {t : CType} {n base : Nat} (flat : repeatL n t.flatten = (arrElems n t.size t.elems base).map (·.2))
    (big : 0 < n → t.align = 1 ∨ ∃ e ∈ arrElems n t.size t.elems base, e.2.size = t.align)
    (r : Run t.align (arrElems n t.size t.elems base) base (arrEnd n t.size base)) : ArrOK t n base :=
  ⟨flat, r.leaf, r.sorted, big, r.dense⟩

theorem arrOK (t : CType) (ht : TyOK t) (n : Nat) : ∀ base, base % t.align = 0 → ArrOK t n base := by
  induction n with
  | zero =>
    intro base _
    exact .of_run rfl (fun h => absurd h (Nat.lt_irrefl 0)) (Run.nil t.align base)
  | succ n ih =>
    intro base hbase
    have rest := ih (base + t.size) (add_mod_eq_zero hbase ht.sz)
    have r : Run t.align (arrElems (n + 1) t.size t.elems base) base (arrEnd (n + 1) t.size base) :=
      (ht.run.shift ht.al base hbase).append rest.run (Nat.le_add_right _ _)
        (by rw [arrEnd_eq, Nat.succ_mul]; omega)
    refine .of_run ?_ (fun _ => ?_) r
    · simp only [repeatL, arrElems, List.map_append, shift_map_snd]
      rw [← rest.flat, ← ht.flat]
    · refine ht.big.imp id fun ⟨e, he, hes⟩ => ?_
      exact ⟨(e.1 + base, e.2), List.mem_append_left _ ((mem_shift _ _ _).mpr ⟨e, he, rfl⟩), hes⟩

theorem tyOK_array (n : Nat) (t : CType) (hn : 0 < n) (ht : TyOK t) : TyOK (.array n t) := by
  have a := arrOK t ht n 0 (Nat.zero_mod _)
  have hend : arrEnd n t.size 0 = n * t.size := by rw [arrEnd_eq]; omega
  have r : Run t.align (arrElems n t.size t.elems 0) 0 (n * t.size) := hend ▸ a.run
  exact .of_run ht.al (Nat.mod_eq_zero_of_dvd (Nat.dvd_trans (Nat.dvd_of_mod_eq_zero ht.sz) (Nat.dvd_mul_left _ _))) a.flat
    (a.big hn) r

mutual
theorem tyOK : ∀ t : CType, t.wf = true → TyOK t
  | .sc s, _ => tyOK_sc s
  | .struct fs, h => tyOK_struct fs (lsOK fs (by simpa [CType.wf] using h))
  | .array n t, h => by
    simp only [CType.wf, Bool.and_eq_true, decide_eq_true_eq] at h
    exact tyOK_array n t h.1 (tyOK t h.2)
theorem lsOK : ∀ fs : List CType, wfL fs = true → LsOK fs
  | [], _ => lsOK_nil
  | f :: fs, h => by
    simp only [wfL, Bool.and_eq_true] at h
    exact lsOK_cons f fs (tyOK f h.1) (lsOK fs h.2)
end

theorem goodView_of_wf (t : CType) (h : t.wf = true) : GoodView t.view := by
  have k := tyOK t h
  refine ⟨k.flat, k.al, fun e he => ⟨(k.leaf e he).1, (k.leaf e he).2.2⟩, k.sorted, ?_, ?_⟩
  · intro M hM hle B hB hlt
    have hM' : Pow8 M := by rcases hM with h | h <;> simp [Pow8, h]
    obtain ⟨e, he, hee⟩ := k.dense M hM' hle 0 B (by simp) hB (by omega) (by rw [Nat.zero_add]; exact hlt)
    exact ⟨e, he, by omega⟩
  · intro h8
    rcases k.big with h1 | h1
    · exact absurd (h1.symm.trans h8) (by decide)
    · obtain ⟨e, he, hes⟩ := h1
      exact ⟨e, he, by rw [hes]; exact h8⟩

theorem wf_flat (fs : List Scalar) : (CType.struct (fs.map .sc)).wf = true := by
  simp only [CType.wf]
  induction fs with
  | nil => simp [wfL]
  | cons s r ih => simp [wfL, CType.wf, ih]

theorem goodView_of_natural (v : View) (hn : v.natural) : GoodView v :=
  natural_eq_flat v hn ▸ goodView_of_wf _ (wf_flat _)

theorem classifyLegacyV_sound (v : View) (hn : v.natural) (isRet : Bool) : Sound (classifyLegacyV v isRet) v :=
  classifyV_eq_legacy_of_natural v hn isRet ▸ classifyV_sound_good v (goodView_of_natural v hn) isRet

end LlgoVerif.CAbi
