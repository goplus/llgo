import LlgoVerif.Model.PyGuard
/-! Every step of the model but the store into a module variable (`InvA.storeMod`) pushes one event and stores into at most
    one variable (`St.push`, allowed when `Enabled`); the
    invariants (`InvA`, `Inv`, and `DInv` relative to the finished packages) are proved for that one step and carried
    through the loops (`foldlM_spec`), `initBody` and `run`. -/
namespace LlgoVerif.PyGuard

def isImport (m : Mod) : Ev → Bool
  | .importCall _ n => n == m
  | _ => false

def isLoad (y : Sym) : Ev → Bool
  | .loadSym _ z => z == y
  | _ => false

/-- `PyImport_ImportModule(m)` was executed by some binding package's `init` -/
def Imported (m : Mod) (t : List Ev) : Prop := ∃ p, Ev.importCall p m ∈ t
/-- the symbol variable of `y` was stored by some package's `init` -/
def Loaded (y : Sym) (t : List Ev) : Prop := ∃ p, Ev.loadSym p y ∈ t
/-- the module object exists: it was in `sys.modules` at start-up or its body has run -/
def Live (pre : List Mod) (m : Mod) (t : List Ev) : Prop := m ∈ pre ∨ Ev.modBody m ∈ t

/-- what must have happened before an event -/
def Req (pre : List Mod) (t : List Ev) : Ev → Prop
  | .pyInit => True
  | .importCall _ _ => Ev.pyInit ∈ t
  | .explicitImport _ _ => Ev.pyInit ∈ t
  | .modBody _ => Ev.pyInit ∈ t
  | .loadSym _ y => Ev.pyInit ∈ t ∧ Imported y.1 t ∧ Live pre y.1 t
  | .call _ y => Ev.pyInit ∈ t ∧ Imported y.1 t ∧ Live pre y.1 t ∧ Loaded y t
  | .getVar _ y => Ev.pyInit ∈ t ∧ Imported y.1 t ∧ Live pre y.1 t

/-- every event of the trace is preceded by what it needs -/
def Safe (pre : List Mod) (t : List Ev) : Prop := ∀ l₁ e l₂, t = l₁ ++ e :: l₂ → Req pre l₁ e

/-- `p` is the first package of the initialisation order that binds the Python module `m` -/
def FirstBinder (P : Prog) (order : List Nat) (p : Nat) (m : Mod) : Prop :=
  ∃ l₁ l₂, order = l₁ ++ p :: l₂ ∧ (P p).binds = some m ∧ ∀ q ∈ l₁, (P q).binds ≠ some m

/-- the second conjunct of `Consistent` -/
def DepsFirst (P : Prog) (t : List Nat) : Prop :=
  ∀ l₁ p l₂, t = l₁ ++ p :: l₂ → ∀ q ∈ (P p).imports, q ∈ l₁

/-- hypotheses on the packages of a program, in Prop form -/
structure PkgOk (P : Prog) (imp : Mod → Bool) (p : Nat) : Prop where
  isScoped : scopedPkg P p = true
  isDeclOnly : declOnlyPkg P p = true
  isImportable : boundImportable P imp p = true
  isLoadsOk : loadsOkPkg P p = true

/-- all hypotheses of the guard theorem as one decidable check -/
def checkB (P : Prog) (imp : Mod → Bool) (order : List Nat) (calls : List (Nat × Use)) : Bool :=
  consistentB P [] order &&
  order.all (fun p => scopedPkg P p && declOnlyPkg P p && boundImportable P imp p && loadsOkPkg P p) &&
  needPyInit P order && callsOk P order calls

theorem split_snoc {α : Type} {t : List α} {e : α} {l₁ : List α} {x : α} {l₂ : List α}
    (h : t ++ [e] = l₁ ++ x :: l₂) :
    (l₁ = t ∧ x = e ∧ l₂ = []) ∨ (∃ l₂', t = l₁ ++ x :: l₂' ∧ l₂ = l₂' ++ [e]) := by
  rcases List.eq_nil_or_concat l₂ with rfl | ⟨l₂', b, rfl⟩
  · obtain ⟨h1, h2⟩ := List.append_inj' h rfl
    exact .inl ⟨h1.symm, (List.singleton_inj.1 h2).symm, rfl⟩
  · rw [List.concat_eq_append, ← List.cons_append, ← List.append_assoc] at h
    obtain ⟨h1, h2⟩ := List.append_inj' h rfl
    exact .inr ⟨l₂', h1, by rw [List.concat_eq_append, List.singleton_inj.1 h2]⟩

theorem forall_split_snoc {α : Type} {R : List α → α → Prop} {t : List α} {e : α}
    (ht : ∀ l₁ x l₂, t = l₁ ++ x :: l₂ → R l₁ x) (he : R t e) :
    ∀ l₁ x l₂, t ++ [e] = l₁ ++ x :: l₂ → R l₁ x := by
  intro l₁ x l₂ h
  rcases split_snoc h with ⟨rfl, rfl, _⟩ | ⟨l₂', h1, _⟩
  · exact he
  · exact ht l₁ x l₂' h1

/-- a 0/1 counter that mirrors a flag `a` stays in step when an event is appended: the event counts iff it raises the flag -/
theorem countP_snoc_flag {α : Type} {q : α → Bool} {t : List α} {e : α} {a a' : Prop} [Decidable a] [Decidable a']
    (h : t.countP q = if a then 1 else 0) (hq : q e = true → ¬a) (ha' : a' ↔ a ∨ q e = true) :
    (t ++ [e]).countP q = if a' then 1 else 0 := by
  rw [List.countP_append, List.countP_singleton, h]
  by_cases hqe : q e = true
  · rw [if_neg (hq hqe), if_pos hqe, if_pos (ha'.2 (.inr hqe))]
  · rw [if_neg hqe]
    exact (ite_congr (propext (ha'.trans (or_iff_left hqe))) (fun _ => rfl) (fun _ => rfl)).symm

/-- the invariant, except for the import counter (which is broken in the middle of a guarded import) -/
structure InvA (pre : List Mod) (s : St) : Prop where
  inited : s.inited = true
  pyinit : Ev.pyInit ∈ s.trace
  preSub : ∀ m ∈ pre, m ∈ s.sysModules
  modImp : ∀ m ∈ s.modVar, Imported m s.trace ∧ m ∈ s.sysModules
  sysBody : ∀ m ∈ s.sysModules, Live pre m s.trace
  symLoad : ∀ y ∈ s.symVar, Loaded y s.trace ∧ y.1 ∈ s.modVar
  /-- the three counters (this, `loadCount`, `Inv.impCount`): every "exactly once" of `GuardOk` is read off them -/
  bodyCount : ∀ m, s.trace.count (.modBody m) = if m ∈ s.sysModules ∧ m ∉ pre then 1 else 0
  loadCount : ∀ y, s.trace.countP (isLoad y) = if y ∈ s.symVar then 1 else 0
  safe : Safe pre s.trace

structure Inv (pre : List Mod) (s : St) : Prop where
  a : InvA pre s
  impCount : ∀ m, s.trace.countP (isImport m) = if m ∈ s.modVar then 1 else 0

/-- what every step but the guarded import does: module variables and import events stay, trace and symbol variables only
    grow; so `Inv.impCount` survives (`Inv.frame`) -/
structure Frame (s s' : St) : Prop where
  modVar : s'.modVar = s.modVar
  impEq : ∀ m, s'.trace.countP (isImport m) = s.trace.countP (isImport m)
  imports : ∀ p m, Ev.importCall p m ∈ s'.trace → Ev.importCall p m ∈ s.trace
  sub : ∀ e ∈ s.trace, e ∈ s'.trace
  symMono : ∀ y ∈ s.symVar, y ∈ s'.symVar

theorem Frame.refl (s : St) : Frame s s := ⟨rfl, fun _ => rfl, fun _ _ h => h, fun _ h => h, fun _ h => h⟩

theorem Frame.trans {a b c : St} (h1 : Frame a b) (h2 : Frame b c) : Frame a c :=
  ⟨h2.modVar.trans h1.modVar, fun m => (h2.impEq m).trans (h1.impEq m),
   fun p m h => h1.imports p m (h2.imports p m h),
   fun e h => h2.sub e (h1.sub e h), fun y h => h2.symMono y (h1.symMono y h)⟩

theorem Frame.mem_import {s s' : St} (hf : Frame s s') {p : Nat} {m : Mod} :
    Ev.importCall p m ∈ s'.trace ↔ Ev.importCall p m ∈ s.trace := ⟨hf.imports p m, hf.sub _⟩

theorem Inv.frame {pre : List Mod} {s s' : St} (hi : Inv pre s) (ha : InvA pre s') (hf : Frame s s') :
    Inv pre s' :=
  ⟨ha, fun m => by rw [hf.impEq m, hf.modVar]; exact hi.impCount m⟩

def St.push (s : St) : Ev → St
  | .modBody m => { (s.emit (.modBody m)) with sysModules := m :: s.sysModules }
  | .loadSym p y => { (s.emit (.loadSym p y)) with symVar := y :: s.symVar }
  | e => s.emit e

def Enabled (s : St) : Ev → Prop
  | .modBody m => m ∉ s.sysModules
  | .loadSym _ y => y ∉ s.symVar ∧ y.1 ∈ s.modVar
  | .call _ y => y ∈ s.symVar
  | .getVar _ y => y.1 ∈ s.modVar
  | _ => True

theorem St.push_trace (s : St) (e : Ev) : (s.push e).trace = s.trace ++ [e] := by cases e <;> rfl
theorem St.mem_push_trace {s : St} {e x : Ev} : x ∈ (s.push e).trace ↔ x ∈ s.trace ∨ x = e := by
  rw [St.push_trace, List.mem_append, List.mem_singleton]
theorem St.push_modVar (s : St) (e : Ev) : (s.push e).modVar = s.modVar := by cases e <;> rfl

theorem St.mem_push_sysModules {s : St} {e : Ev} {m : Mod} :
    m ∈ (s.push e).sysModules ↔ e = .modBody m ∨ m ∈ s.sysModules := by
  cases e <;> simp [St.push, St.emit, eq_comm]

theorem isLoad_iff {y : Sym} {e : Ev} : isLoad y e = true ↔ ∃ p, e = .loadSym p y := by
  cases e <;> simp [isLoad]

theorem St.mem_push_symVar {s : St} {e : Ev} {y : Sym} :
    y ∈ (s.push e).symVar ↔ isLoad y e = true ∨ y ∈ s.symVar := by
  cases e with
  | loadSym p z => exact List.mem_cons.trans (or_congr (eq_comm.trans beq_iff_eq.symm) Iff.rfl)
  | _ => exact (or_iff_right Bool.false_ne_true).symm

theorem InvA.req {pre : List Mod} {s : St} (hi : InvA pre s) : ∀ {e : Ev}, Enabled s e → Req pre s.trace e
  | .pyInit, _ => trivial
  | .importCall _ _, _ => hi.pyinit
  | .explicitImport _ _, _ => hi.pyinit
  | .modBody _, _ => hi.pyinit
  | .loadSym _ _, h => ⟨hi.pyinit, (hi.modImp _ h.2).1, hi.sysBody _ (hi.modImp _ h.2).2⟩
  | .call _ y, h =>
    have hm := (hi.symLoad y h).2
    ⟨hi.pyinit, (hi.modImp _ hm).1, hi.sysBody _ (hi.modImp _ hm).2, (hi.symLoad y h).1⟩
  | .getVar _ _, h => ⟨hi.pyinit, (hi.modImp _ h).1, hi.sysBody _ (hi.modImp _ h).2⟩

theorem InvA.push {pre : List Mod} {s : St} (hi : InvA pre s) {e : Ev} (he : Enabled s e) :
    InvA pre (s.push e) := by
  have hsub : ∀ x ∈ s.trace, x ∈ (s.push e).trace := fun x hx => St.mem_push_trace.2 (.inl hx)
  have hlast : e ∈ (s.push e).trace := St.mem_push_trace.2 (.inr rfl)
  refine ⟨by cases e <;> exact hi.inited, hsub _ hi.pyinit, fun m hm => St.mem_push_sysModules.2 (.inr (hi.preSub m hm)),
    ?_, ?_, ?_, ?_, ?_, s.push_trace e ▸ forall_split_snoc (R := Req pre) hi.safe (hi.req he)⟩
  · intro m hm
    rw [St.push_modVar] at hm
    exact ⟨(hi.modImp m hm).1.imp fun _ => hsub _, St.mem_push_sysModules.2 (.inr (hi.modImp m hm).2)⟩
  · intro m hm
    rcases St.mem_push_sysModules.1 hm with rfl | h
    · exact .inr hlast
    · exact (hi.sysBody m h).imp id (hsub _)
  · intro y hy
    rw [St.push_modVar]
    rcases St.mem_push_symVar.1 hy with h | h
    · obtain ⟨p, rfl⟩ := isLoad_iff.1 h
      exact ⟨⟨p, hlast⟩, he.2⟩
    · exact ⟨(hi.symLoad y h).1.imp fun _ => hsub _, (hi.symLoad y h).2⟩
  · intro m
    rw [St.push_trace]
    refine countP_snoc_flag (q := (· == Ev.modBody m)) (hi.bodyCount m) (fun h ha => ?_) ?_
    · exact (beq_iff_eq.1 h ▸ he : Enabled s (.modBody m)) ha.1
    · rw [St.mem_push_sysModules, beq_iff_eq, or_and_right, or_comm]
      exact or_congr_right (and_iff_left_of_imp fun h hp => (h ▸ he : Enabled s (.modBody m)) (hi.preSub m hp))
  · intro y
    rw [St.push_trace]
    exact countP_snoc_flag (hi.loadCount y)
      (fun h => (isLoad_iff.1 h).elim fun p hp => (hp ▸ he : Enabled s (.loadSym p y)).1) (St.mem_push_symVar.trans or_comm)

/-- the store into a module variable, the one step of the model that is not a `push` -/
theorem InvA.storeMod {pre : List Mod} {s : St} (ha : InvA pre s) {m : Mod} (hi : Imported m s.trace)
    (hs : m ∈ s.sysModules) : InvA pre { s with modVar := m :: s.modVar } :=
  { ha with
    modImp := fun n hn => (List.mem_cons.1 hn).elim (fun e => by rw [e]; exact ⟨hi, hs⟩) (ha.modImp n)
    symLoad := fun y hy => ⟨(ha.symLoad y hy).1, List.mem_cons_of_mem _ (ha.symLoad y hy).2⟩ }

theorem Frame.push (s : St) {e : Ev} (hI : ∀ m, isImport m e = false) : Frame s (s.push e) := by
  refine ⟨s.push_modVar e, fun m => ?_, fun p m h => ?_,
    fun x hx => St.mem_push_trace.2 (.inl hx), fun y hy => St.mem_push_symVar.2 (.inr hy)⟩
  · rw [St.push_trace, List.countP_append, List.countP_singleton, hI m]; rfl
  · rcases St.mem_push_trace.1 h with h | rfl
    · exact h
    · simp [isImport] at hI

theorem Inv.push {pre : List Mod} {s : St} (hi : Inv pre s) {e : Ev} (he : Enabled s e) (hI : ∀ m, isImport m e = false) :
    Inv pre (s.push e) ∧ Frame s (s.push e) :=
  ⟨hi.frame (hi.a.push he) (Frame.push s hI), Frame.push s hI⟩

theorem cpyImport_spec {pre : List Mod} (imp : Mod → Bool) (m : Mod) {s : St} (hi : InvA pre s) :
    ∃ s' b, cpyImport imp m s = .ok (s', b) ∧ InvA pre s' ∧ Frame s s' ∧
      (b = true → m ∈ s'.sysModules) ∧ (imp m = true → b = true) := by
  unfold cpyImport
  simp only [hi.inited, Bool.not_true, Bool.false_eq_true, if_false]
  by_cases hm : m ∈ s.sysModules
  · simp only [hm, if_true]
    exact ⟨s, true, rfl, hi, Frame.refl s, fun _ => hm, fun _ => rfl⟩
  · simp only [hm, if_false]
    cases imp m with
    | true =>
      exact ⟨_, true, rfl, hi.push (e := .modBody m) hm, Frame.push s (e := .modBody m) (fun _ => rfl),
        fun _ => List.mem_cons_self, fun _ => rfl⟩
    | false => exact ⟨s, false, rfl, hi, Frame.refl s, Bool.noConfusion, Bool.noConfusion⟩

theorem loadSym_spec {pre : List Mod} (p : Nat) {s : St} (y : Sym) (hi : Inv pre s) (hm : y.1 ∈ s.modVar) :
    ∃ s', loadSym p s y = .ok s' ∧ Inv pre s' ∧ Frame s s' ∧ y ∈ s'.symVar := by
  unfold loadSym
  by_cases hy : y ∈ s.symVar
  · simp only [hy, if_true]
    exact ⟨s, rfl, hi, Frame.refl s, hy⟩
  · simp only [hy, if_false, hm, if_true]
    obtain ⟨i, f⟩ := hi.push (e := .loadSym p y) ⟨hy, hm⟩ (fun _ => rfl)
    exact ⟨_, rfl, i, f, List.mem_cons_self⟩

/-- the requirement `doUse` checks -/
def Usable (s : St) : Use → Prop
  | .call y => y ∈ s.symVar
  | .var y => y.1 ∈ s.modVar
  | .explicitImport _ => True

theorem Usable.frame {s s' : St} {u : Use} (h : Usable s u) (hf : Frame s s') : Usable s' u := by
  cases u with
  | call y => exact hf.symMono y h
  | var y => exact (hf.modVar ▸ (h : y.1 ∈ s.modVar) : y.1 ∈ s'.modVar)
  | explicitImport m => trivial

theorem doUse_spec {pre : List Mod} (imp : Mod → Bool) (p : Nat) {s : St} (u : Use) (hi : Inv pre s)
    (hu : Usable s u) : ∃ s', doUse imp p s u = .ok s' ∧ Inv pre s' ∧ Frame s s' := by
  cases u with
  | call y => exact ⟨_, if_pos hu, hi.push (e := .call p y) hu (fun _ => rfl)⟩
  | var y => exact ⟨_, if_pos hu, hi.push (e := .getVar p y) hu (fun _ => rfl)⟩
  | explicitImport m =>
    obtain ⟨i, hf⟩ := hi.push (e := .explicitImport p m) trivial (fun _ => rfl)
    obtain ⟨s', b, he, ha, hf', _⟩ := cpyImport_spec imp m i.a
    refine ⟨s', ?_, hi.frame ha (hf.trans hf'), hf.trans hf'⟩
    simp only [doUse]
    -- `push` of an event that stores nothing is `emit`
    rw [show cpyImport imp m (s.emit (.explicitImport p m)) = .ok (s', b) from he]

theorem guardedImport_spec {pre : List Mod} (imp : Mod → Bool) (p : Nat) (m : Mod) {s : St}
    (hi : Inv pre s) (himp : imp m = true) :
    ∃ s', guardedImport imp p m s = .ok s' ∧ Inv pre s' ∧
      (∀ n, n ∈ s'.modVar ↔ n ∈ s.modVar ∨ n = m) ∧
      (∀ q n, Ev.importCall q n ∈ s'.trace ↔ Ev.importCall q n ∈ s.trace ∨ (q = p ∧ n = m ∧ n ∉ s.modVar)) ∧
      (∀ y ∈ s.symVar, y ∈ s'.symVar) := by
  unfold guardedImport
  by_cases hm : m ∈ s.modVar
  · rw [if_pos hm]
    exact ⟨s, rfl, hi, fun n => ⟨.inl, fun h => h.elim id (· ▸ hm)⟩,
      fun q n => ⟨.inl, fun h => h.elim id (fun h => absurd hm (h.2.1 ▸ h.2.2))⟩, fun _ h => h⟩
  · rw [if_neg hm]
    obtain ⟨s2, b, he, ha, hf, hb1, hb2⟩ :=
      cpyImport_spec imp m (hi.a.push (e := .importCall p m) trivial)
    obtain rfl := hb2 himp
    rw [show cpyImport imp m (s.emit (.importCall p m)) = .ok (s2, true) from he]
    have hmv : s2.modVar = s.modVar := hf.modVar
    have hev : ∀ q n, Ev.importCall q n ∈ s2.trace ↔ Ev.importCall q n ∈ s.trace ∨ (q = p ∧ n = m) := fun q n => by
      rw [hf.mem_import, St.mem_push_trace, Ev.importCall.injEq]
    refine ⟨_, rfl, ⟨ha.storeMod ⟨p, (hev p m).2 (.inr ⟨rfl, rfl⟩)⟩ (hb1 rfl), ?_⟩,
      fun n => by rw [← hmv]; exact List.mem_cons.trans or_comm, fun q n => ?_, hf.symMono⟩
    · intro n
      rw [hf.impEq n, St.push_trace, hmv]
      exact countP_snoc_flag (hi.impCount n) (fun h ha => hm (beq_iff_eq.1 h ▸ ha))
        (List.mem_cons.trans (or_comm.trans (or_congr_right (eq_comm.trans beq_iff_eq.symm))))
    · rw [hev]
      exact or_congr_right (and_congr_right fun _ => (and_iff_left_of_imp fun h => h ▸ hm).symm)

theorem firstBinder_snoc {P : Prog} {done : List Nat} {p q : Nat} {m : Mod} :
    FirstBinder P (done ++ [p]) q m ↔
      FirstBinder P done q m ∨ (q = p ∧ (P p).binds = some m ∧ ∀ x ∈ done, (P x).binds ≠ some m) := by
  constructor
  · rintro ⟨l₁, l₂, e, hb, hno⟩
    rcases split_snoc e with ⟨rfl, rfl, _⟩ | ⟨l₂', h1, _⟩
    · exact .inr ⟨rfl, hb, hno⟩
    · exact .inl ⟨l₁, l₂', h1, hb, hno⟩
  · rintro (⟨l₁, l₂, e, hb, hno⟩ | ⟨rfl, hb, hno⟩)
    · exact ⟨l₁, l₂ ++ [p], by rw [e, List.append_assoc, List.cons_append], hb, hno⟩
    · exact ⟨done, [], rfl, hb, hno⟩

/-- invariant relative to `done`, the prefix of the initialisation order whose `init` bodies have finished
    (`symDone` speaks of ordinary packages only: `AfterInit` is skipped for a binding package, it loads nothing) -/
structure DInv (P : Prog) (pre : List Mod) (done : List Nat) (s : St) : Prop where
  inv : Inv pre s
  modDone : ∀ m, m ∈ s.modVar ↔ ∃ q ∈ done, (P q).binds = some m
  impFirst : ∀ p m, Ev.importCall p m ∈ s.trace ↔ FirstBinder P done p m
  symDone : ∀ q ∈ done, (P q).binds = none → ∀ y ∈ (P q).pyobjs, y ∈ s.symVar

theorem DInv.init (P : Prog) (pre : List Mod) :
    DInv P pre [] { inited := true, sysModules := pre, trace := [Ev.pyInit] } where
  inv :=
    { a :=
        { inited := rfl
          pyinit := List.mem_singleton_self _
          preSub := fun _ h => h
          modImp := fun _ h => nomatch h
          sysBody := fun _ h => .inl h
          symLoad := fun _ h => nomatch h
          bodyCount := fun m => by by_cases h : m ∈ pre <;> simp [h]
          loadCount := fun _ => rfl
          safe := forall_split_snoc (R := Req pre) (t := []) (fun l₁ _ _ h => by cases l₁ <;> cases h) trivial }
      impCount := fun _ => rfl }
  modDone := by simp
  impFirst := by simp [FirstBinder]
  symDone := fun _ h => nomatch h

theorem DInv.frame {P : Prog} {pre : List Mod} {done : List Nat} {s s' : St}
    (hd : DInv P pre done s) (hi : Inv pre s') (hf : Frame s s') : DInv P pre done s' :=
  ⟨hi, fun m => by rw [hf.modVar]; exact hd.modDone m,
   fun p m => hf.mem_import.trans (hd.impFirst p m),
   fun q hq hb y hy => hf.symMono y (hd.symDone q hq hb y hy)⟩

theorem DInv.snoc {P : Prog} {pre : List Mod} {done : List Nat} {s s' : St} {p : Nat}
    (hd : DInv P pre done s) (hi : Inv pre s')
    (hmv : ∀ m, m ∈ s'.modVar ↔ m ∈ s.modVar ∨ (P p).binds = some m)
    (himp : ∀ q m, Ev.importCall q m ∈ s'.trace ↔
      Ev.importCall q m ∈ s.trace ∨ (q = p ∧ (P p).binds = some m ∧ m ∉ s.modVar))
    (hsym : ∀ y ∈ s.symVar, y ∈ s'.symVar)
    (hobj : (P p).binds = none → ∀ y ∈ (P p).pyobjs, y ∈ s'.symVar) :
    DInv P pre (done ++ [p]) s' := by
  refine ⟨hi, fun m => ?_, fun q m => ?_, fun q hq hb y hy => ?_⟩
  · rw [hmv, hd.modDone]
    simp only [List.mem_append, List.mem_singleton, or_and_right, exists_or, exists_eq_left]
  · have hno : m ∉ s.modVar ↔ ∀ x ∈ done, (P x).binds ≠ some m := by
      rw [hd.modDone]; simp only [not_exists, not_and, ne_eq]
    rw [himp, hd.impFirst, firstBinder_snoc, hno]
  · rcases List.mem_append.1 hq with h | h
    · exact hsym y (hd.symDone q h hb y hy)
    · rw [List.mem_singleton.1 h] at hb hy
      exact hobj hb y hy

theorem foldlM_cons_ok {σ α ε : Type} {f : σ → α → Except ε σ} {s s₁ : σ} {a : α} {l : List α} (h : f s a = .ok s₁) :
    (a :: l).foldlM f s = l.foldlM f s₁ := by
  rw [List.foldlM_cons, h]; rfl

theorem scoped_mod {P : Prog} {p : Nat} (h : scopedPkg P p = true) {u : Use} (hu : u ∈ (P p).allUses)
    {m : Mod} (hm : u.mod? = some m) (hb : (P p).binds = none) :
    ∃ q ∈ (P p).imports, (P q).binds = some m := by
  have := List.all_eq_true.1 h u hu
  simp only [hm, hb, Bool.or_eq_true, beq_iff_eq, reduceCtorEq, false_or, List.any_eq_true] at this
  exact this

theorem mem_pyobjs {k : Pkg} {y : Sym} : y ∈ k.pyobjs ↔ Use.call y ∈ k.allUses := by
  unfold Pkg.pyobjs
  simp only [List.mem_filterMap]
  constructor
  · rintro ⟨u, hu, h⟩
    cases u <;> simp [Use.callSym] at h
    subst h; exact hu
  · intro h; exact ⟨_, h, rfl⟩

theorem allUses_of_binds {P : Prog} {p : Nat} {m : Mod} (h : declOnlyPkg P p = true) (hb : (P p).binds = some m) :
    (P p).allUses = [] := by
  simp only [declOnlyPkg, hb, Option.isNone_some, Bool.false_or, Bool.and_eq_true, List.isEmpty_iff] at h
  exact h.1

theorem usable_of_done {P : Prog} {pre : List Mod} {done : List Nat} {s : St} (hd : DInv P pre done s)
    {p : Nat} (hs : scopedPkg P p = true) (hnb : (P p).binds = none) (himp : ∀ q ∈ (P p).imports, q ∈ done)
    (hsym : ∀ y ∈ (P p).pyobjs, y ∈ s.symVar) {u : Use} (hu : u ∈ (P p).allUses) : Usable s u := by
  cases u with
  | call y => exact hsym y (mem_pyobjs.2 hu)
  | var y =>
    obtain ⟨q, hq, hb⟩ := scoped_mod hs hu (m := y.1) rfl hnb
    exact (hd.modDone y.1).2 ⟨q, himp q hq, hb⟩
  | explicitImport m => trivial

/-- a loop whose steps keep `Inv` and frame the state: what an element requires (`R`) need only hold at the start, what it
    establishes (`Q`) lasts to the end, both being kept by a frame -/
theorem foldlM_spec {pre : List Mod} {α : Type} {f : St → α → Except Err St} {R Q : St → α → Prop}
    (hR : ∀ {s s' a}, R s a → Frame s s' → R s' a) (hQ : ∀ {s s' a}, Q s a → Frame s s' → Q s' a)
    (hf : ∀ {s} a, Inv pre s → R s a → ∃ s', f s a = .ok s' ∧ Inv pre s' ∧ Frame s s' ∧ Q s' a) :
    ∀ (l : List α) {s : St}, Inv pre s → (∀ a ∈ l, R s a) →
      ∃ s', l.foldlM f s = .ok s' ∧ Inv pre s' ∧ Frame s s' ∧ ∀ a ∈ l, Q s' a := by
  intro l
  induction l with
  | nil => exact fun {s} hi _ => ⟨s, rfl, hi, Frame.refl s, fun _ h => nomatch h⟩
  | cons a l ih =>
    intro s hi hr
    obtain ⟨s1, h1, i1, f1, q1⟩ := hf a hi (hr a List.mem_cons_self)
    obtain ⟨s2, h2, i2, f2, q2⟩ := ih i1 fun b hb => hR (hr b (List.mem_cons_of_mem _ hb)) f1
    exact ⟨s2, (foldlM_cons_ok h1).trans h2, i2, f1.trans f2, List.forall_mem_cons.2 ⟨hQ q1 f2, q2⟩⟩

theorem initBody_spec {P : Prog} {pre : List Mod} (imp : Mod → Bool) {done : List Nat} {s : St} (p : Nat)
    (hd : DInv P pre done s) (himp : ∀ q ∈ (P p).imports, q ∈ done) (hok : PkgOk P imp p) :
    ∃ s', initBody P imp s p = .ok s' ∧ DInv P pre (done ++ [p]) s' := by
  have hs := hok.isScoped
  unfold initBody
  cases hb : (P p).binds with
  | none =>
    obtain ⟨hl1, hl2⟩ : (∀ y ∈ (P p).loads, y ∈ (P p).pyobjs) ∧ (∀ y ∈ (P p).pyobjs, y ∈ (P p).loads) := by
      simpa only [loadsOkPkg, hb, Option.isSome_none, Bool.false_eq_true, if_false, Bool.and_eq_true,
        List.all_eq_true, List.contains_iff_mem] using hok.isLoadsOk
    have hm : ∀ y ∈ (P p).loads, y.1 ∈ s.modVar := fun y hy => by
      obtain ⟨q, hq, hbq⟩ := scoped_mod hs (mem_pyobjs.1 (hl1 y hy)) (m := y.1) rfl hb
      exact (hd.modDone y.1).2 ⟨q, himp q hq, hbq⟩
    obtain ⟨s1, h1, i1, f1, m0⟩ := foldlM_spec (R := fun s y => y.1 ∈ s.modVar) (Q := fun s y => y ∈ s.symVar)
      (fun h f => f.modVar ▸ h) (fun h f => f.symMono _ h) (fun y hi h => loadSym_spec p y hi h) (P p).loads hd.inv hm
    have m1 : ∀ y ∈ (P p).pyobjs, y ∈ s1.symVar := fun y hy => m0 y (hl2 y hy)
    obtain ⟨s2, h2, i2, f2, _⟩ := foldlM_spec (R := Usable) (Q := fun _ _ => True) Usable.frame (fun _ _ => trivial)
      (fun u hi h => (doUse_spec imp p u hi h).imp fun _ h => ⟨h.1, h.2.1, h.2.2, trivial⟩) (P p).initUses i1
      (fun u hu => usable_of_done (hd.frame i1 f1) hs hb himp m1 (List.mem_append_left _ hu))
    have f := f1.trans f2
    simp only [h1, h2]
    refine ⟨s2, rfl, hd.snoc i2 (fun m => ?_) (fun q m => ?_) f.symMono (fun _ y hy => f2.symMono y (m1 y hy))⟩
    · rw [f.modVar, hb]; simp only [reduceCtorEq, or_false]
    · rw [hb, f.mem_import]; simp only [reduceCtorEq, false_and, and_false, or_false]
  | some m =>
    have hemp : (P p).initUses = [] := (List.append_eq_nil_iff.1 (allUses_of_binds hok.isDeclOnly hb)).1
    have himpm : imp m = true := by simpa only [boundImportable, hb] using hok.isImportable
    simp only [hemp, List.foldlM_nil, pure, Except.pure]
    obtain ⟨s1, h1, i1, hmv, hev, hsym⟩ := guardedImport_spec imp p m hd.inv himpm
    refine ⟨s1, h1, hd.snoc i1 (fun n => ?_) (fun q n => ?_) hsym (fun h => nomatch hb ▸ h)⟩
    · rw [hmv, hb, Option.some.injEq, eq_comm (a := n)]
    · rw [hev, hb, Option.some.injEq, eq_comm (a := n)]

theorem inits_spec {P : Prog} {pre : List Mod} (imp : Mod → Bool) : ∀ (l₂ done : List Nat) (s : St),
    DInv P pre done s → DepsFirst P (done ++ l₂) → (∀ p ∈ l₂, PkgOk P imp p) →
    ∃ s', l₂.foldlM (initBody P imp) s = .ok s' ∧ DInv P pre (done ++ l₂) s' := by
  intro l₂
  induction l₂ with
  | nil => intro done s hd _ _; exact ⟨s, rfl, by rwa [List.append_nil]⟩
  | cons p rest ih =>
    intro done s hd hdf hok
    obtain ⟨s1, h1, d1⟩ := initBody_spec imp p hd (hdf done p rest rfl) (hok p List.mem_cons_self)
    rw [List.append_cons] at hdf ⊢
    obtain ⟨s2, h2, d2⟩ := ih (done ++ [p]) s1 d1 hdf (fun q hq => hok q (List.mem_cons_of_mem _ hq))
    exact ⟨s2, (foldlM_cons_ok h1).trans h2, d2⟩

/-- once every `init` body has run, a use made from a function of any package of the program meets its requirement -/
theorem DInv.usable {P : Prog} {pre : List Mod} {imp : Mod → Bool} {order : List Nat} {s : St} (hd : DInv P pre order s)
    (hdf : DepsFirst P order) {p : Nat} (hp : p ∈ order) (hok : PkgOk P imp p) {u : Use} (hu : u ∈ (P p).uses) :
    Usable s u := by
  have hnb : (P p).binds = none := by
    cases hb : (P p).binds with
    | none => rfl
    | some m =>
      rw [(List.append_eq_nil_iff.1 (allUses_of_binds hok.isDeclOnly hb)).2] at hu
      cases hu
  obtain ⟨l₁, l₂, e⟩ := List.append_of_mem hp
  exact usable_of_done hd hok.isScoped hnb (fun q hq => e ▸ List.mem_append_left _ (hdf l₁ p l₂ e q hq))
    (hd.symDone p hp hnb) (List.mem_append_right _ hu)

theorem calls_spec {P : Prog} {pre : List Mod} (imp : Mod → Bool) {order : List Nat}
    (hdf : DepsFirst P order) (hok : ∀ p ∈ order, PkgOk P imp p) (calls : List (Nat × Use)) (s : St)
    (hd : DInv P pre order s) (hc : callsOk P order calls = true) :
    ∃ s', calls.foldlM (fun s c => doUse imp c.1 s c.2) s = .ok s' ∧ DInv P pre order s' := by
  have hu : ∀ c ∈ calls, Usable s c.2 := fun c hcm => by
    have h := List.all_eq_true.1 hc c hcm
    rw [Bool.and_eq_true, List.contains_iff_mem, List.contains_iff_mem] at h
    exact hd.usable hdf h.1 (hok c.1 h.1) h.2
  obtain ⟨s', h, i, f, _⟩ := foldlM_spec (R := fun s c => Usable s c.2) (Q := fun _ _ => True) Usable.frame
    (fun _ _ => trivial) (fun c hi h => (doUse_spec imp c.1 c.2 hi h).imp fun _ h => ⟨h.1, h.2.1, h.2.2, trivial⟩)
    calls hd.inv hu
  exact ⟨s', h, hd.frame i f⟩

/-- Of `Consistent` only `DepsFirst` is needed: running an `init` body a second time is harmless (the loads and the
    guarded import do nothing then). -/
theorem run_spec {P : Prog} (imp : Mod → Bool) (pre : List Mod) (order : List Nat) (calls : List (Nat × Use))
    (hdf : DepsFirst P order) (hok : ∀ p ∈ order, PkgOk P imp p) (hpy : needPyInit P order = true)
    (hcalls : callsOk P order calls = true) :
    ∃ s, run P imp pre order calls = .ok s ∧ DInv P pre order s := by
  unfold run
  simp only [hpy, if_true]
  obtain ⟨s1, h1, d1⟩ := inits_spec imp order [] _ (DInv.init P pre) (by rw [List.nil_append]; exact hdf) hok
  rw [h1]
  exact calls_spec imp hdf hok calls s1 (List.nil_append order ▸ d1) hcalls

theorem consistentB_sound (P : Prog) : ∀ (l done : List Nat), consistentB P done l = true → done.Nodup →
    (done ++ l).Nodup ∧ ∀ l₁ p l₂, l = l₁ ++ p :: l₂ → ∀ q ∈ (P p).imports, q ∈ done ++ l₁ := by
  intro l
  induction l with
  | nil => intro done _ hn; exact ⟨by rwa [List.append_nil], fun l₁ _ _ h => by cases l₁ <;> cases h⟩
  | cons a t ih =>
    intro done h hn
    simp only [consistentB, Bool.and_eq_true, Bool.not_eq_true', List.all_eq_true, List.contains_iff_mem] at h
    obtain ⟨⟨h1, h2⟩, h3⟩ := h
    have h1' : a ∉ done := by simpa using h1
    have hn' : (done ++ [a]).Nodup := List.nodup_append.2 ⟨hn, List.nodup_cons.2 ⟨List.not_mem_nil, List.nodup_nil⟩,
      fun _ hx _ hy e => h1' (List.mem_singleton.1 hy ▸ e ▸ hx)⟩
    obtain ⟨n2, d2⟩ := ih (done ++ [a]) h3 hn'
    refine ⟨List.append_cons done a t ▸ n2, fun l₁ p l₂ e q hq => ?_⟩
    rcases List.cons_eq_append_iff.1 e with ⟨rfl, h⟩ | ⟨l₁', rfl, h⟩
    · cases h
      exact List.mem_append_left _ (h2 q hq)
    · rw [List.append_cons]
      exact d2 l₁' p l₂ h q hq

theorem consistent_of_B {P : Prog} {order : List Nat} (h : consistentB P [] order = true) : Consistent P order := by
  obtain ⟨h1, h2⟩ := consistentB_sound P order [] h (by simp)
  exact ⟨by simpa using h1, fun l₁ p l₂ e q hq => by simpa using h2 l₁ p l₂ e q hq⟩

theorem pkgOk_of_B {P : Prog} {imp : Mod → Bool} {order : List Nat}
    (h : order.all (fun p => scopedPkg P p && declOnlyPkg P p && boundImportable P imp p && loadsOkPkg P p) = true) :
    ∀ p ∈ order, PkgOk P imp p := by
  intro p hp
  have hp := List.all_eq_true.1 h p hp
  simp only [Bool.and_eq_true] at hp
  obtain ⟨⟨⟨h1, h2⟩, h3⟩, h4⟩ := hp
  exact ⟨h1, h2, h3, h4⟩

/-- `fun slots ai` is the model's `fun slots (a, i)` -/
theorem buildSeq_aux {α β : Type} (conv : α → β) : ∀ (rest : List α) (done : List β),
    (rest.zipIdx done.length).foldl (fun slots (ai : α × Nat) => slots.set ai.2 (some (conv ai.1)))
      (done.map some ++ List.replicate rest.length none) = (done ++ rest.map conv).map some := by
  intro rest
  induction rest with
  | nil => intro done; simp
  | cons a t ih =>
    intro done
    have := ih (done ++ [conv a])
    rw [List.length_append, List.length_singleton, List.map_append, List.append_assoc, List.append_assoc] at this
    simp only [List.zipIdx_cons, List.foldl_cons, List.length_cons, List.replicate_succ]
    rw [List.set_append_right _ _ (by rw [List.length_map]; exact Nat.le_refl _), List.length_map, Nat.sub_self, List.set_cons_zero]
    exact this

end LlgoVerif.PyGuard
