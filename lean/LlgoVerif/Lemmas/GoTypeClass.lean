import LlgoVerif.Lemmas.GoType
/-!
`classOf` reads a class off the text of a name, and it is the class of the type (`class_name`; `class_argStr` for type arguments):
`… ↔ identical` is needed for equal heads only (`iff_by_head`).
-/
namespace LlgoVerif.Types

inductive Head | ptr | slice | array | map | chanB | chanS | chanR | atom

inductive Stem | func | struct | iface

inductive AtomClass | hash (s : Stem) | dotted | any | basic | plain

/-- the order of the tests matters (`[]` before `[`; a bare `<` is `<-chan`) -/
def headOf : Str → Head
  | '*' :: _ => .ptr
  | '[' :: ']' :: _ => .slice
  | '[' :: _ => .array
  | 'm' :: 'a' :: 'p' :: '[' :: _ => .map
  | 'c' :: 'h' :: 'a' :: 'n' :: ' ' :: _ => .chanB
  | 'c' :: 'h' :: 'a' :: 'n' :: '<' :: _ => .chanS
  | '<' :: _ => .chanR
  | _ => .atom

def plainClass (r : Str) : AtomClass :=
  if r = litAnyName then .any else if reserved.contains r then .basic else .plain

def Stem.text : Stem → Str
  | .func => ['f', 'u', 'n', 'c']
  | .struct => ['s', 't', 'r', 'u', 'c', 't']
  | .iface => ['i', 'f', 'a', 'c', 'e']

/-- `r`: the text before the first `$`, reversed; meaningful on `hashAtom` texts only -/
def stemClass (r : Str) : Stem :=
  if Stem.func.text.reverse.isPrefixOf r then .func else if Stem.struct.text.reverse.isPrefixOf r then .struct else .iface

def atomClass (s : Str) : AtomClass :=
  if '$' ∈ s then .hash (stemClass (s.takeWhile (· != '$')).reverse)
  else if '.' ∈ s then .dotted else plainClass (s.drop llgoPrefix.length)

/-- a function of the TEXT alone; `class_name` computes it on `nameC t`, so names of types with different heads differ by
    `congrArg classOf` -/
def classOf (s : Str) : Head × Option AtomClass :=
  match headOf s with
  | .atom => (.atom, some (atomClass s))
  | h => (h, none)

theorem headOf_flat {s : Str} (h : Flat s) : headOf s = .atom := by
  unfold headOf
  split
  · exact absurd (h '*' (by simp)) (by decide)
  · exact absurd (h '[' (by simp)) (by decide)
  · exact absurd (h '[' (by simp)) (by decide)
  · exact absurd (h '[' (by simp)) (by decide)
  · exact absurd (h ' ' (by simp)) (by decide)
  · exact absurd (h '<' (by simp)) (by decide)
  · exact absurd (h '<' (by simp)) (by decide)
  · rfl

/-- after `[` stands a length, not `]` -/
theorem headOf_array (n : Nat) (s : Str) : headOf ('[' :: dec n ++ s) = .array := by
  rw [List.cons_append, headOf.eq_3]
  intro r e
  cases hd : dec n with
  | nil => exact dec_ne_nil n hd
  | cons d ds =>
    rw [hd] at e
    exact dec_notin n (c := ']') (by decide) (by rw [hd, (List.cons.inj e).1]; simp)

theorem classOf_flat {s : Str} (h : Flat s) : classOf s = (.atom, some (atomClass s)) := by rw [classOf, headOf_flat h]

theorem chanDirStr_chars (d : ChanDir) :
    chanDirStr d = match d with | .both => ['c', 'h', 'a', 'n'] | .send => ['c', 'h', 'a', 'n', '<', '-'] | .recv => ['<', '-', 'c', 'h', 'a', 'n'] := by
  cases d <;> exact String.toList_ofList

theorem atomClass_dollar {pre h : Str} (hp : '$' ∉ pre) : atomClass (pre ++ '$' :: h) = .hash (stemClass pre.reverse) := by
  unfold atomClass
  have : ∀ a ∈ pre, (a != '$') = true := fun a ha => bne_iff_ne.2 fun e => hp (e ▸ ha)
  rw [if_pos (by simp), List.takeWhile_append_of_pos this]
  simp

theorem atomClass_dotted {s : Str} (h1 : '$' ∉ s) (h2 : '.' ∈ s) : atomClass s = .dotted := by
  unfold atomClass; simp [h1, h2]

theorem atomClass_plain {r : Str} (h1 : '$' ∉ r) (h2 : '.' ∉ r) : atomClass (llgoPrefix ++ r) = plainClass r := by
  have e1 : '$' ∉ llgoPrefix ++ r := by simp [h1, llgoPrefix]
  have e2 : '.' ∉ llgoPrefix ++ r := by simp [h2, llgoPrefix]
  unfold atomClass
  rw [if_neg e1, if_neg e2, List.drop_left]

theorem plainClass_basic (k : BasicKind) : plainClass (basicGoName k) = .basic := by
  unfold plainClass
  rw [if_neg (basicGoName_spec k).2.2, if_pos (basicGoName_reserved k)]

theorem plainClass_other {r : Str} (h : reserved.contains r = false) : plainClass r = .plain := by
  unfold plainClass
  rw [if_neg (fun e => by rw [e, any_reserved] at h; cases h), if_neg (by rw [h]; decide)]

/-- `FuncName` / `StructName` / `InterfaceName`: the text before `$H` -/
def hashAtomPre (s : Stem) (P : Str) : Str := (if P = [] then llgoPrefix else P ++ ['.']) ++ s.text

def hashAtom (s : Stem) (P H : Str) : Str := hashAtomPre s P ++ '$' :: H

theorem stemClass_text (s : Stem) (X : Str) : stemClass (s.text.reverse ++ X) = s := by
  cases s <;> simp [stemClass, Stem.text]

theorem hashAtom_stem (s : Stem) {P : Str} (hP : Clean P) : Clean (hashAtomPre s P) := by
  unfold hashAtomPre
  refine all_append ?_ (by cases s <;> exact all_lit _ (by decide))
  split
  · exact all_lit _ (by decide)
  · exact all_append hP (all_lit _ (by decide))

theorem hashAtom_flat (s : Stem) {P H : Str} (hP : Clean P) (hH : ∀ c ∈ H, hashChar c = true) : Flat (hashAtom s P H) :=
  all_append (clean_flat (hashAtom_stem s hP)) (all_cons (by decide) fun c hc => pathChar_flat (hashChar_path (hH c hc)))

theorem hashAtom_class (s : Stem) {P H : Str} (hP : Clean P) (hH : ∀ c ∈ H, hashChar c = true) :
    classOf (hashAtom s P H) = (.atom, some (.hash s)) := by
  rw [classOf_flat (hashAtom_flat s hP hH), hashAtom, atomClass_dollar (clean_nodollar (hashAtom_stem s hP)), hashAtomPre,
    List.reverse_append, stemClass_text]

theorem hashAtom_iff (s : Stem) {P₁ P₂ H₁ H₂ : Str} (h1 : Clean P₁) (h2 : Clean P₂) :
    hashAtom s P₁ H₁ = hashAtom s P₂ H₂ ↔ P₁ = P₂ ∧ H₁ = H₂ := by
  refine ⟨fun h => ?_, fun ⟨eP, eH⟩ => by rw [eP, eH]⟩
  obtain ⟨hp, hH⟩ := (splitFirst_iff '$' (clean_nodollar (hashAtom_stem s h1)) (clean_nodollar (hashAtom_stem s h2))).1 h
  refine ⟨?_, hH⟩
  have hp := List.append_cancel_right (hp : _ ++ s.text = _ ++ s.text)
  have clash : ∀ {P : Str}, llgoPrefix ≠ P ++ ['.'] := fun e => by
    have := congrArg List.getLast? e
    simp [llgoPrefix] at this
  split at hp <;> split at hp
  · simp [*]
  · exact absurd hp clash
  · exact absurd hp.symm clash
  · exact List.append_cancel_right hp

/-- the class of an alias-free type: the graph of a function, kept as a relation because case analysis on two proofs with one
    class leaves the equal heads only (`sameHead_of_class`) -/
inductive HasClass : GoType → Head × Option AtomClass → Prop
  | pointer (e) : HasClass (.pointer e) (.ptr, none)
  | slice (e) : HasClass (.slice e) (.slice, none)
  | array (n e) : HasClass (.array n e) (.array, none)
  | map (k v) : HasClass (.map k v) (.map, none)
  | chanB (e) : HasClass (.chan .both e) (.chanB, none)
  | chanS (e) : HasClass (.chan .send e) (.chanS, none)
  | chanR (e) : HasClass (.chan .recv e) (.chanR, none)
  | basic (k) : HasClass (.basic k) (.atom, some .basic)
  | func (ps rs v) : HasClass (.func ps rs v) (.atom, some (.hash .func))
  | struct (fs) : HasClass (.struct fs) (.atom, some (.hash .struct))
  | any : HasClass (.iface .nil) (.atom, some .any)
  | iface (n p s r) : HasClass (.iface (.cons n p s r)) (.atom, some (.hash .iface))
  | plain (d name sc targs) : HasClass (.named d none name sc targs) (.atom, some .plain)
  | dotted (d p name sc targs) : HasClass (.named d (some p) name sc targs) (.atom, some .dotted)

inductive SameHead : GoType → GoType → Prop
  | pointer (e e') : SameHead (.pointer e) (.pointer e')
  | slice (e e') : SameHead (.slice e) (.slice e')
  | array (n e n' e') : SameHead (.array n e) (.array n' e')
  | map (k v k' v') : SameHead (.map k v) (.map k' v')
  | chan (d e e') : SameHead (.chan d e) (.chan d e')
  | basic (k k') : SameHead (.basic k) (.basic k')
  | func (ps rs v ps' rs' v') : SameHead (.func ps rs v) (.func ps' rs' v')
  | struct (fs fs') : SameHead (.struct fs) (.struct fs')
  | any : SameHead (.iface .nil) (.iface .nil)
  | iface (n p s r n' p' s' r') : SameHead (.iface (.cons n p s r)) (.iface (.cons n' p' s' r'))
  | named (d pkg name sc targs d' pkg' name' sc' targs') : SameHead (.named d pkg name sc targs) (.named d' pkg' name' sc' targs')

theorem HasClass.of_eq {t : GoType} {c c' : Head × Option AtomClass} (h : HasClass t c) (e : c' = c) : HasClass t c' := e ▸ h

theorem HasClass.unalias {t : GoType} {c : Head × Option AtomClass} (h : HasClass t c) : unalias t = t := by cases h <;> rfl

theorem sameHead_of_class {t u : GoType} {c : Head × Option AtomClass} (h1 : HasClass t c) (h2 : HasClass u c) : SameHead t u := by
  cases h1 <;> cases h2 <;> constructor

theorem sameHead_iface : ∀ (a b : MList), identicalM a b = true → SameHead (.iface a) (.iface b)
  | .nil, .nil, _ => .any
  | .nil, .cons _ _ _ _, h => by simp [identicalM] at h
  | .cons _ _ _ _, .nil, h => by simp [identicalM] at h
  | .cons _ _ _ _, .cons _ _ _ _, _ => .iface _ _ _ _ _ _ _ _

theorem sameHead_of_identical (t₁ t₂ : GoType) : identical t₁ t₂ = true → SameHead (unalias t₁) (unalias t₂) := by
  induction t₁ using unalias.induct with
  | case1 n a ih => rw [identical, unalias]; exact ih
  | case2 t hna =>
    rw [unalias.eq_2 t hna]
    -- per head of `t`: `unalias t₂` has it too (`e`), or `identical` is `false`
    fun_cases identical t t₂ <;> intro h <;> try cases h
    · exact absurd rfl (hna _ _)
    · next e => rw [e]; exact .basic _ _
    · next e => rw [e]; exact .pointer _ _
    · next e => rw [e]; exact .slice _ _
    · next e => rw [e]; exact .array _ _ _ _
    · next e => rw [e]; exact .map _ _ _ _
    · next d _ d' _ e =>
      rw [e]
      have : d = d' := by simp only [Bool.and_eq_true, beq_iff_eq] at h; exact h.1
      exact this ▸ .chan _ _ _
    · next e => rw [e]; exact .func _ _ _ _ _ _
    · next e => rw [e]; exact .struct _ _
    · next ms ms' e => rw [e]; exact sameHead_iface ms ms' h
    · next e => rw [e]; exact .named _ _ _ _ _ _ _ _ _ _

/-- both `f t₁ = f t₂` (through the class of the text, `hc`) and identity force equal heads: the equivalence is needed for an
    alias-free `t₁` against alias-free types of the same head only -/
theorem iff_by_head {f : GoType → Str} {cls : Str → Head × Option AtomClass} {P : GoType → Prop}
    (hf : ∀ t, f (unalias t) = f t) (hP : ∀ t, P t → P (unalias t)) (hc : ∀ t, P t → HasClass (unalias t) (cls (f t)))
    {t₁ t₂ : GoType} (ht : unalias t₁ = t₁) (h1 : P t₁) (h2 : P t₂)
    (key : ∀ u, P u → SameHead t₁ u → (f t₁ = f u ↔ identical t₁ u = true)) : f t₁ = f t₂ ↔ identical t₁ t₂ = true := by
  have c1 := hc t₁ h1
  have c2 := hc t₂ h2
  rw [ht] at c1
  rw [← hf t₂] at c2 ⊢
  rw [identical_unalias_r]
  have key := key _ (hP _ h2)
  exact ⟨fun a => (key (sameHead_of_class c1 (congrArg cls a ▸ c2))).1 a,
    fun i => (key (c1.unalias ▸ c2.unalias ▸ sameHead_of_identical _ _ i)).2 i⟩

end LlgoVerif.Types
