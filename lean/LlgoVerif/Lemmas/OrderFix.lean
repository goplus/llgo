import LlgoVerif.Model.OrderFix
/-! Specification of what `fixSSAOrderBlock` may do to a block, and the proof that the model does exactly that.  Proofs by
    `fun_cases` address the branches of a model function by number (`case6`): the numbers shift when a branch is added. -/
namespace LlgoVerif.OrderFix

/-- may a load of alloc `a` defining value `lid` be delayed past `x`?  `x` must not store through an address derived from
    `a`, and must not use the loaded value. -/
def CanCross (a lid : Nat) (x : Instr) : Prop := storeWrites a x = false ∧ usesVal lid x = false

/-- Where the load lands (after the last call that takes the alloc) is not specified; no theorem relates a move to the
    evaluation of the block. -/
inductive Step (rets : List Nat) : List Instr → List Instr → Prop where
  | move (pre mid post : List Instr) (l : Instr) (a : Nat)
      (hk : l.kind = .load a) (hr : l.id ∈ rets) (hc : ∀ x ∈ mid, CanCross a l.id x) :
      Step rets (pre ++ l :: (mid ++ post)) (pre ++ (mid ++ l :: post))

inductive Steps (rets : List Nat) : List Instr → List Instr → Prop where
  | refl (b : List Instr) : Steps rets b b
  | head {b c d : List Instr} : Step rets b c → Steps rets c d → Steps rets b d

/-- the results of the block's last `Return` (what the pass iterates over) -/
def retResults (b : List Instr) : List Nat :=
  match lastRetIdx b with
  | none => []
  | some r =>
    match b[r]? with
    | some ret => ret.uses
    | none => []

/-- the designated loads: loads of a local alloc whose value is a result of the `Return` -/
def designated (rets : List Nat) (i : Instr) : Bool :=
  match i.kind with
  | .load _ => rets.contains i.id
  | _ => false

/-- `x` comes before `y` only if `x` does not use the value `y` defines -/
def DefBeforeUse (b : List Instr) : Prop := b.Pairwise (fun x y => usesVal y.id x = false)

theorem Steps.single {rets : List Nat} {b c : List Instr} (h : Step rets b c) : Steps rets b c :=
  .head h (.refl c)

theorem Steps.trans {rets : List Nat} {a b c : List Instr} (h₁ : Steps rets a b) (h₂ : Steps rets b c) : Steps rets a c := by
  induction h₁ with
  | refl => exact h₂
  | head hs _ ih => exact .head hs (ih h₂)

theorem Steps.lift {rets : List Nat} {R : List Instr → List Instr → Prop} (refl : ∀ b, R b b)
    (trans : ∀ {a b c}, R a b → R b c → R a c) (step : ∀ {b c}, Step rets b c → R b c)
    {b c : List Instr} (h : Steps rets b c) : R b c := by
  induction h with
  | refl b => exact refl b
  | head hs _ ih => exact trans (step hs) ih

theorem Step.perm {rets : List Nat} {b c : List Instr} (h : Step rets b c) : c.Perm b := by
  cases h with
  | move pre mid post l a _ _ _ =>
    apply List.Perm.append_left
    rw [← List.cons_append]
    exact (List.perm_middle (a := l) (l₁ := mid) (l₂ := post))

theorem Steps.perm {rets : List Nat} {b c : List Instr} (h : Steps rets b c) : c.Perm b :=
  h.lift (R := fun b c => c.Perm b) .refl (fun h₁ h₂ => h₂.trans h₁) Step.perm

theorem Step.filter_eq {rets : List Nat} {b c : List Instr} (h : Step rets b c) (p : Instr → Bool)
    (hp : ∀ i, designated rets i = true → p i = false) : c.filter p = b.filter p := by
  cases h with
  | move pre mid post l a hk hr _ =>
    have hl : p l = false := hp l (by simp [designated, hk, hr])
    simp [List.filter_append, hl]

theorem Steps.filter_eq {rets : List Nat} {b c : List Instr} (h : Steps rets b c) (p : Instr → Bool)
    (hp : ∀ i, designated rets i = true → p i = false) : c.filter p = b.filter p :=
  h.lift (R := fun b c => c.filter p = b.filter p) (fun _ => rfl) (fun h₁ h₂ => h₂.trans h₁) (·.filter_eq p hp)

theorem Step.defBeforeUse {rets : List Nat} {b c : List Instr} (h : Step rets b c) (hb : DefBeforeUse b) :
    DefBeforeUse c := by
  cases h with
  | move pre mid post l a hk hr hc =>
    unfold DefBeforeUse at hb ⊢
    rw [List.pairwise_append] at hb ⊢
    obtain ⟨h1, h2, h3⟩ := hb
    rw [List.pairwise_cons, List.pairwise_append] at h2
    obtain ⟨hl, hmid, hpost, hmp⟩ := h2
    refine ⟨h1, ?_, ?_⟩
    · rw [List.pairwise_append, List.pairwise_cons]
      refine ⟨hmid, ⟨fun y hy => hl y (List.mem_append_right _ hy), hpost⟩, ?_⟩
      intro x hx y hy
      rcases List.mem_cons.mp hy with rfl | hy
      · exact (hc x hx).2
      · exact hmp x hx y hy
    · intro x hx y hy
      apply h3 x hx y
      simp only [List.mem_append, List.mem_cons] at hy ⊢
      rcases hy with hy | rfl | hy
      · exact .inr (.inl hy)
      · exact .inl rfl
      · exact .inr (.inr hy)

theorem Steps.defBeforeUse {rets : List Nat} {b c : List Instr} (h : Steps rets b c) : DefBeforeUse b → DefBeforeUse c :=
  h.lift (R := fun b c => DefBeforeUse b → DefBeforeUse c) (fun _ => id) (fun f g => g ∘ f) Step.defBeforeUse

theorem lastIdxIn_succ (b : List Instr) (lo hi : Nat) (p : Instr → Bool) :
    lastIdxIn b lo (hi + 1) p = lastStep b lo p (lastIdxIn b lo hi p) hi := by
  unfold lastIdxIn
  rw [List.range_succ, List.foldl_append]
  rfl

theorem lastStep_some {b : List Instr} {lo : Nat} {p : Instr → Bool} {acc : Option Nat} {i j : Nat}
    (h : lastStep b lo p acc i = some j) : acc = some j ∨ (j = i ∧ lo < i ∧ ∃ x, b[i]? = some x) := by
  revert h
  fun_cases lastStep b lo p acc i with
  | case1 hlo x hx _ => exact fun h => .inr ⟨(Option.some.inj h).symm, hlo, x, hx⟩
  | _ => exact .inl

theorem lastIdxIn_some {b : List Instr} {lo : Nat} {p : Instr → Bool} :
    ∀ {hi i : Nat}, lastIdxIn b lo hi p = some i → lo < i ∧ i < hi ∧ ∃ x, b[i]? = some x := by
  intro hi
  induction hi with
  | zero => intro i h; cases h
  | succ n ih =>
    intro i h
    rw [lastIdxIn_succ] at h
    rcases lastStep_some h with h | ⟨rfl, hlo, hx⟩
    · exact ⟨(ih h).1, Nat.lt_succ_of_lt (ih h).2.1, (ih h).2.2⟩
    · exact ⟨hlo, Nat.lt_succ_self _, hx⟩

theorem anyIn_false {b : List Instr} {lo hi : Nat} {p : Instr → Bool} (h : anyIn b lo hi p = false)
    {i : Nat} (h1 : lo < i) (h2 : i < hi) {x : Instr} (hx : b[i]? = some x) : p x = false := by
  unfold anyIn at h
  rw [List.any_eq_false] at h
  have := h i (List.mem_range.mpr h2)
  simp [h1, hx] at this
  exact this

theorem indexOfId_some : ∀ {b : List Instr} {v i : Nat}, indexOfId b v = some i → ∃ x, b[i]? = some x ∧ x.id = v := by
  intro b
  induction b with
  | nil => intro v i h; cases h
  | cons y ys ih =>
    intro v i h
    rw [indexOfId] at h
    split at h
    · rename_i hy
      cases h; exact ⟨y, rfl, hy⟩
    · cases hq : indexOfId ys v with
      | none => rw [hq] at h; cases h
      | some j => rw [hq] at h; cases h; exact ih hq

theorem moveInstr_later (pre mid post : List Instr) (l : Instr) (hmid : mid ≠ []) :
    moveInstr (pre ++ l :: (mid ++ post)) pre.length (pre.length + mid.length + 1) = pre ++ (mid ++ l :: post) := by
  have hpos : 0 < mid.length := List.length_pos_iff.mpr hmid
  have h1 : ¬ (pre.length + mid.length + 1 > (pre ++ l :: (mid ++ post)).length) := by
    simp only [List.length_append, List.length_cons]; omega
  have h2 : ¬ (pre.length = pre.length + mid.length + 1 ∨ pre.length + 1 = pre.length + mid.length + 1) := by omega
  have h3 : pre.length + mid.length + 1 > pre.length := by omega
  have ht : (pre ++ l :: (mid ++ post)).take pre.length = pre := List.take_left' rfl
  have hd : (pre ++ l :: (mid ++ post)).drop (pre.length + 1) = mid ++ post := by
    rw [List.append_cons]; exact List.drop_left' (List.length_append.trans rfl)
  unfold moveInstr
  rw [List.getElem?_append_right (Nat.le_refl _), Nat.sub_self, List.getElem?_cons_zero]
  simp only [h1, h2, h3, if_false, if_true, Nat.add_sub_cancel]
  rw [ht, hd, ← List.append_assoc pre mid post, List.take_left' List.length_append, List.drop_left' List.length_append,
    List.append_assoc]

/-- `c + 1`, where the load goes, is `pre.length + mid.length + 1`, the argument of `moveInstr_later` -/
theorem cut_between {b : List Instr} {frm c : Nat} {l : Instr} (hl : b[frm]? = some l) (hfc : frm < c) (hc : c < b.length) :
    ∃ pre mid post, b = pre ++ l :: (mid ++ post) ∧ pre.length = frm ∧ pre.length + mid.length = c ∧ mid ≠ [] ∧
      ∀ x ∈ mid, ∃ i, frm < i ∧ i ≤ c ∧ b[i]? = some x := by
  have hfl : frm < b.length := Nat.lt_trans hfc hc
  have hget : b[frm] = l := Option.some.inj ((List.getElem?_eq_getElem hfl).symm.trans hl)
  have hlen : ((b.drop (frm + 1)).take (c - frm)).length = c - frm :=
    List.length_take_of_le (by rw [List.length_drop]; omega)
  refine ⟨b.take frm, (b.drop (frm + 1)).take (c - frm), (b.drop (frm + 1)).drop (c - frm), ?_, ?_, ?_, ?_, ?_⟩
  · rw [List.take_append_drop, ← hget, ← List.drop_eq_getElem_cons hfl, List.take_append_drop]
  · exact List.length_take_of_le (Nat.le_of_lt hfl)
  · rw [List.length_take_of_le (Nat.le_of_lt hfl), hlen]
    exact Nat.add_sub_cancel' (Nat.le_of_lt hfc)
  · exact fun h => Nat.ne_of_gt (Nat.sub_pos_of_lt hfc) (hlen.symm.trans (congrArg List.length h))
  · intro x hx
    obtain ⟨j, hj⟩ := List.mem_iff_getElem?.mp hx
    rw [List.getElem?_take] at hj
    split at hj
    · rw [List.getElem?_drop] at hj
      exact ⟨frm + 1 + j, by omega, by omega, hj⟩
    · cases hj

theorem fixOne_step {rets : List Nat} (b : List Instr) (retIdx : Nat) {rv : Nat} (hrv : rv ∈ rets) :
    Steps rets b (fixOne b retIdx rv) := by
  fun_cases fixOne b retIdx rv with
  -- the one branch that moves anything: a load, before the `Return`, a last call found, no store, no use
  | case6 loadIdx hidx lid a us hl _ lastCall hlast hstore huse =>
    obtain ⟨h1, h2, y, hy⟩ := lastIdxIn_some hlast
    obtain ⟨x0, hx0, hid0⟩ := indexOfId_some hidx
    have hidrv : lid = rv := by rw [hl] at hx0; cases hx0; exact hid0
    -- nothing between load and `Return` is an obstacle, so nothing in `mid` (load to last call) is
    obtain ⟨pre, mid, post, hb, hpre, hmid, hne, hmem⟩ := cut_between hl h1 (List.getElem?_eq_some_iff.mp hy).1
    subst hpre hmid
    have hc : ∀ x ∈ mid, CanCross a lid x := fun x hx => by
      obtain ⟨i, hi1, hi2, hxi⟩ := hmem x hx
      have hi3 : i < retIdx := Nat.lt_of_le_of_lt hi2 h2
      exact ⟨anyIn_false (eq_false_of_ne_true hstore) hi1 hi3 hxi,
        hidrv ▸ anyIn_false (eq_false_of_ne_true huse) hi1 hi3 hxi⟩
    subst hb
    rw [moveInstr_later pre mid post _ hne]
    exact .single (.move pre mid post _ a rfl (hidrv ▸ hrv) hc)
  | _ => exact .refl b

theorem fixResults_steps {rets : List Nat} (retId : Nat) : ∀ (rvs : List Nat) (b : List Instr) (retIdx : Nat),
    rvs ⊆ rets → Steps rets b (fixResults retId rvs b retIdx) := by
  intro rvs
  induction rvs with
  | nil => intro b _ _; exact .refl b
  | cons rv rest ih =>
    intro b retIdx h
    exact (fixOne_step b retIdx (h List.mem_cons_self)).trans (ih _ _ fun _ hx => h (List.mem_cons_of_mem rv hx))

theorem fixBlock_steps (b : List Instr) : Steps (retResults b) b (fixBlock b) := by
  unfold fixBlock retResults
  cases lastRetIdx b with
  | none => exact .refl b
  | some r =>
    dsimp only
    cases b[r]? with
    | none => exact .refl b
    | some ret => exact fixResults_steps _ _ _ _ fun _ h => h

end LlgoVerif.OrderFix
