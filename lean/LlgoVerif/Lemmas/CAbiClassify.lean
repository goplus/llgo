import LlgoVerif.Lemmas.CAbi
/-!
# C09 — lemmas: `TypeInfoAmd64.GetTypeInfo` (`getTypeInfo`) on a good layout
-/

namespace LlgoVerif.CAbi
open LlgoVerif.SysV

def Sorted (l : List Elem) : Prop := l.Pairwise fun a b => a.1 + a.2.size ≤ b.1

/-- what the classifier's soundness needs of a real layout. `dense` at `M = 4` and `big` serve one step only (`off2_halves`);
    `align ≤ 8` always, so at `M = 8` `dense` is unconditional (`leaf_at8`) -/
structure GoodView (v : View) : Prop where
  types_eq : v.types = v.elems.map (·.2)
  al : Pow8 v.align
  leaf : ∀ e ∈ v.elems, e.1 % e.2.size = 0 ∧ e.1 + e.2.size ≤ v.size
  sorted : Sorted v.elems
  dense : ∀ M, (M = 4 ∨ M = 8) → v.align ≤ M → ∀ B, B % M = 0 → B < v.size → ∃ e ∈ v.elems, e.1 = B
  big : v.align = 8 → ∃ e ∈ v.elems, e.2.size = 8

theorem exists_two {α : Type} (l : List α) (h : l.length = 2) : ∃ a b, l = [a, b] := by
  match l, h with
  | [a, b], _ => exact ⟨a, b, rfl⟩

theorem sorted_head_le (x : Elem) (r : List Elem) (hs : Sorted (x :: r)) (e : Elem) (he : e ∈ x :: r) :
    e = x ∨ x.1 + x.2.size ≤ e.1 := by
  simp only [List.mem_cons] at he
  rcases he with h | h
  · left; exact h
  · right; exact (List.pairwise_cons.mp hs).1 e h

theorem sorted_head_eq {x : Elem} {r : List Elem} (hs : Sorted (x :: r)) {e : Elem} (he : e ∈ x :: r) (h : e.1 ≤ x.1) :
    e = x := by
  rcases sorted_head_le x r hs e he with h' | h'
  · exact h'
  · have := size_pos x.2; omega

theorem GoodView.elems_nil {v : View} (g : GoodView v) (h0 : v.size = 0) : v.elems = [] := by
  cases hel : v.elems with
  | nil => rfl
  | cons x r =>
    have := (g.leaf x (hel ▸ List.mem_cons_self)).2
    have := size_pos x.2
    omega

theorem GoodView.leaf_at8 {v : View} (g : GoodView v) (B : Nat) (hB : B % 8 = 0) (hlt : B < v.size) :
    ∃ e ∈ v.elems, e.1 = B :=
  g.dense 8 (.inr rfl) g.al.le8 B hB hlt

theorem GoodView.head0 {v : View} (g : GoodView v) (h0 : v.size ≠ 0) : ∃ x r, v.elems = x :: r ∧ x.1 = 0 := by
  obtain ⟨e0, he0, h00⟩ := g.leaf_at8 0 rfl (by omega)
  cases hel : v.elems with
  | nil => rw [hel] at he0; cases he0
  | cons x r =>
    refine ⟨x, r, rfl, ?_⟩
    rw [hel] at he0
    rw [← sorted_head_eq (hel ▸ g.sorted) he0 (by omega)]; exact h00

theorem GoodView.length_elems {v : View} (g : GoodView v) : v.elems.length = v.types.length := by
  rw [g.types_eq, List.length_map]

theorem GoodView.single {v : View} (g : GoodView v) (h0 : v.size ≠ 0) (hn : v.types.length < 2) :
    ∃ s, v.elems = [(0, s)] ∧ v.types = [s] ∧ v.size ≤ 8 := by
  obtain ⟨⟨o, s⟩, r, hel, hx⟩ := g.head0 h0
  rw [g.types_eq, hel, List.length_map, List.length_cons] at hn
  have hr : r = [] := List.eq_nil_of_length_eq_zero (by omega)
  simp only at hx
  subst hx hr
  refine ⟨s, hel, by rw [g.types_eq, hel]; rfl, Nat.le_of_not_lt fun h8 => ?_⟩
  obtain ⟨e, he, h88⟩ := g.leaf_at8 8 rfl h8
  rw [hel, List.mem_singleton] at he
  rw [he] at h88; cases h88

theorem GoodView.two {v : View} (g : GoodView v) {a b : Scalar} (ht : v.types = [a, b]) :
    ∃ o0 o1, v.elems = [(o0, a), (o1, b)] := by
  obtain ⟨⟨o0, s0⟩, ⟨o1, s1⟩, hel⟩ := exists_two v.elems (by rw [g.length_elems, ht]; rfl)
  have gt := g.types_eq
  rw [ht, hel] at gt
  cases gt
  exact ⟨o0, o1, hel⟩

theorem GoodView.pair {v : View} (g : GoodView v) {a b : Scalar} (ht : v.types = [a, b]) (h8 : 8 < v.size) :
    v.elems = [(0, a), (8, b)] := by
  obtain ⟨x, r, hel0, hx⟩ := g.head0 (by omega)
  obtain ⟨e8, he8, h88⟩ := g.leaf_at8 8 rfl h8
  obtain ⟨o0, o1, hel⟩ := g.two ht
  rw [hel] at hel0 he8
  simp only [List.cons.injEq] at hel0
  simp only [List.mem_cons, List.mem_nil_iff, or_false] at he8
  have h0' : o0 = 0 := by rw [← hel0.1] at hx; exact hx
  have h1' : o1 = 8 := by
    rcases he8 with h | h <;> rw [h] at h88
    · simp only at h88; omega
    · exact h88
  rw [hel, h0', h1']

theorem GoodView.pair8 {v : View} (g : GoodView v) {a b : Scalar} (ht : v.types = [a, b]) (sa : a.size = 8) (sb : b.size = 8) :
    v.elems = [(0, a), (8, b)] ∧ v.size = 16 := by
  obtain ⟨o0, o1, hel2⟩ := g.two ht
  have h8 : 8 < v.size := by
    have h01 := (List.pairwise_cons.mp (hel2 ▸ g.sorted)).1 (o1, b) (by simp)
    have := (g.leaf (o1, b) (by rw [hel2]; simp)).2
    simp only at h01 this
    omega
  have hel := g.pair ht h8
  refine ⟨hel, Nat.le_antisymm (Nat.le_of_not_lt fun h => ?_) ?_⟩
  · obtain ⟨e, he, hee⟩ := g.leaf_at8 16 rfl h
    rw [hel] at he
    simp only [List.mem_cons, List.mem_nil_iff, or_false] at he
    rcases he with h' | h' <;> rw [h'] at hee <;> cases hee
  · have := (g.leaf (8, b) (by rw [hel]; simp)).2
    simp only at this
    omega

/-- `subType` with `left` resolved into the width `n` of the integer fallback; `smallClassify n` coerces to the same type (`Window.small`) -/
def halfTy (n : Nat) (subs : List Scalar) : RegTy :=
  match subs with
  | [s] => s.regTy
  | _ => if subs = [.f32, .f32] then .v2f32 else .int n

theorem subType_true (size : Nat) (subs : List Scalar) : subType size subs true = halfTy 8 subs := rfl
theorem subType_false (size : Nat) (subs : List Scalar) : subType size subs false = halfTy (size - 8) subs := rfl
theorem subType_single' (size : Nat) (s : Scalar) (left : Bool) : subType size [s] left = s.regTy := rfl
theorem subType_ff' (size : Nat) (left : Bool) : subType size [.f32, .f32] left = .v2f32 := by simp [subType]

theorem halfTy_single (n : Nat) (s : Scalar) : halfTy n [s] = s.regTy := rfl
theorem halfTy_ff (n : Nat) : halfTy n [.f32, .f32] = .v2f32 := by simp [halfTy]
theorem halfTy_int (n : Nat) (a b : Scalar) (r : List Scalar) (h : ¬ (a = .f32 ∧ b = .f32)) :
    halfTy n (a :: b :: r) = .int n := by
  have : a :: b :: r ≠ [.f32, .f32] := fun e => h ⟨(List.cons.inj e).1, (List.cons.inj (List.cons.inj e).2).1⟩
  simp only [halfTy, this, if_false]

theorem smallClassify_int (n : Nat) (a b : Scalar) (r : List Scalar) (h : ¬ (a = .f32 ∧ b = .f32)) :
    smallClassify n (a :: b :: r) = .coerce (.int n) := by
  unfold smallClassify
  split
  · next heq => exact absurd ⟨(List.cons.inj heq).1, (List.cons.inj (List.cons.inj heq).2).1⟩ h
  · rfl

structure Window (w : Nat) (H : List Elem) : Prop where
  sorted : Sorted H
  inside : ∀ e ∈ H, w ≤ e.1 ∧ e.1 + e.2.size ≤ w + 8
  head : ∃ x r, H = x :: r ∧ x.1 = w

theorem Window.div8 {w : Nat} {H : List Elem} (W : Window w H) (k : Nat) (hw : w = 8 * k) : ∀ e ∈ H, e.1 / 8 = k :=
  fun e he => by have := W.inside e he; have := size_pos e.2; omega

/-- two neighbours share the 8 bytes of their eightbyte, and fill them only if nothing follows -/
theorem Window.pair_le {w : Nat} {a b : Elem} {rest : List Elem} (W : Window w (a :: b :: rest)) :
    a.2.size + b.2.size ≤ 8 ∧ (a.2.size + b.2.size = 8 → rest = []) := by
  have hab := (List.pairwise_cons.mp W.sorted).1 b List.mem_cons_self
  have ina := W.inside a List.mem_cons_self
  have inb := W.inside b (List.mem_cons_of_mem _ List.mem_cons_self)
  refine ⟨by omega, fun h8 => ?_⟩
  cases rest with
  | nil => rfl
  | cons c r =>
    have hbc := (List.pairwise_cons.mp (List.pairwise_cons.mp W.sorted).2).1 c List.mem_cons_self
    have := (W.inside c (by simp)).2
    have := size_pos c.2
    omega

theorem Window.of8 {w : Nat} {H : List Elem} (W : Window w H) {c : Elem} (hc : c ∈ H) (h8 : c.2.size = 8) : H = [c] := by
  obtain ⟨x, r, rfl, hx⟩ := W.head
  have hin := W.inside c hc
  have hcx : c = x := sorted_head_eq W.sorted hc (by omega)
  cases r with
  | nil => rw [hcx]
  | cons z r' =>
    exfalso
    have hz := (List.pairwise_cons.mp W.sorted).1 z (by simp)
    have := W.inside z (by simp)
    have := size_pos z.2
    rw [← hcx] at hz
    omega

theorem Window.sse {w : Nat} {a b : Elem} {rest : List Elem} (W : Window w (a :: b :: rest))
    (hall : ((a :: b :: rest).map (·.2)).all (·.isSSE) = true) : a.2 = .f32 ∧ b.2 = .f32 := by
  have ha := List.all_eq_true.mp hall a.2 (by simp)
  have hb := List.all_eq_true.mp hall b.2 (by simp)
  have h1 := isSSE_size a.2 ha
  have h2 := isSSE_size b.2 hb
  have := W.pair_le.1
  exact ⟨isSSE_size4 a.2 ha (by omega), isSSE_size4 b.2 hb (by omega)⟩

/-- what an eightbyte holds: one scalar, exactly two floats, or several scalars whose classes merge to INTEGER -/
inductive Window.Shape (w : Nat) (H : List Elem) : Prop
  | one (x : Elem) (e : H = [x]) (hx : x.1 = w)
  | ff (e : H.map (·.2) = [.f32, .f32])
  | int (a b : Elem) (r : List Elem) (e : H = a :: b :: r) (hff : ¬ (a.2 = .f32 ∧ b.2 = .f32))
      (hc : clsList (H.map (·.2)) = .integer)

theorem Window.shape {w : Nat} {H : List Elem} (W : Window w H) : Window.Shape w H := by
  obtain ⟨x, r, rfl, hx⟩ := W.head
  match r with
  | [] => exact .one x rfl hx
  | b :: r =>
    by_cases hff : x.2 = .f32 ∧ b.2 = .f32
    · -- two floats fill the eightbyte
      obtain rfl := W.pair_le.2 (by rw [hff.1, hff.2]; rfl)
      exact .ff (by rw [List.map_cons, List.map_cons, List.map_nil, hff.1, hff.2])
    · exact .int x b r rfl hff ((clsList_cons _ _).trans (if_neg fun hall => hff (W.sse hall)))

theorem Window.halfTy_spec {w : Nat} {H : List Elem} (W : Window w H) (n : Nat) (hn : n ≤ 8)
    (hcov : ∀ e ∈ H, e.1 + e.2.size ≤ w + n) :
    regCls (halfTy n (H.map (·.2))) = clsList (H.map (·.2)) ∧ (halfTy n (H.map (·.2))).bytes ≤ 8 ∧
      ∀ e ∈ H, e.1 + e.2.size ≤ w + (halfTy n (H.map (·.2))).bytes := by
  rcases W.shape with ⟨x, rfl, hx⟩ | hff | ⟨a, b, r, rfl, hff, hc⟩
  · rw [List.map_cons, List.map_nil, halfTy_single, regTy_bytes]
    refine ⟨(regCls_regTy _).trans (merge_noClass_right _).symm, size_le8 _, fun e he => ?_⟩
    rw [List.mem_singleton.mp he, hx]
    exact Nat.le_refl _
  · rw [hff, halfTy_ff]
    exact ⟨rfl, by decide, fun e he => (W.inside e he).2⟩
  · rw [hc, show (a :: b :: r).map (·.2) = a.2 :: b.2 :: r.map (·.2) from rfl, halfTy_int n _ _ _ hff]
    exact ⟨rfl, hn, hcov⟩

theorem Window.small {w : Nat} {H : List Elem} (W : Window w H) (n : Nat) (hlen : 2 ≤ H.length) :
    smallClassify n (H.map (·.2)) = .coerce (halfTy n (H.map (·.2))) := by
  rcases W.shape with ⟨x, rfl, _⟩ | hff | ⟨a, b, r, rfl, hff, _⟩
  · exact absurd hlen (Nat.lt_irrefl 1)
  · rw [hff, halfTy_ff]; rfl
  · rw [show (a :: b :: r).map (·.2) = a.2 :: b.2 :: r.map (·.2) from rfl, halfTy_int n _ _ _ hff,
      smallClassify_int n _ _ _ hff]

theorem Window.of_mem {w : Nat} {H : List Elem} (hs : Sorted H) (hin : ∀ e ∈ H, w ≤ e.1 ∧ e.1 + e.2.size ≤ w + 8) {e : Elem}
    (he : e ∈ H) (hw : e.1 = w) : Window w H := by
  obtain ⟨x, r, rfl⟩ := List.exists_cons_of_ne_nil (List.ne_nil_of_mem he)
  exact ⟨hs, hin, x, r, rfl, sorted_head_eq hs he (hw ▸ (hin x List.mem_cons_self).1) ▸ hw⟩

theorem GoodView.window0 {v : View} (g : GoodView v) (h0 : v.size ≠ 0) (h8 : v.size ≤ 8) : Window 0 v.elems :=
  ⟨g.sorted, fun e he => ⟨Nat.zero_le _, by have := (g.leaf e he).2; omega⟩, g.head0 h0⟩

/-- the two halves `splitIndex` separates are the two eightbytes: `leaf_at8` puts a leaf at 0 and one at 8; a leaf that starts
    below 8 ends by 8 (`no_straddle`); behind the first leaf at or beyond 8 all are (sorted) -/
theorem GoodView.windows {v : View} (g : GoodView v) (h8 : 8 < v.size) (h16 : v.size ≤ 16) :
    ∃ L R, v.elems = L ++ R ∧ splitIndex v.elems = L.length ∧ Window 0 L ∧ Window 8 R := by
  obtain ⟨L, R, hsplit, hidx, hL, hRx⟩ := splitIndex_spec v.elems
  obtain ⟨hsL, hsR, _⟩ := List.pairwise_append.mp (show Sorted (L ++ R) from hsplit ▸ g.sorted)
  have hR : ∀ e ∈ R, 8 ≤ e.1 := fun e he => by
    obtain ⟨x, r, rfl⟩ := List.exists_cons_of_ne_nil (List.ne_nil_of_mem he)
    have := hRx x r rfl
    rcases sorted_head_le x r hsR e he with h | h
    · rw [h]; exact this
    · omega
  obtain ⟨e0, he0, h00⟩ := g.leaf_at8 0 rfl (by omega)
  obtain ⟨e8, he8, h88⟩ := g.leaf_at8 8 rfl h8
  have he0L : e0 ∈ L := (List.mem_append.mp (hsplit ▸ he0)).resolve_right fun h => by have := hR e0 h; omega
  have he8R : e8 ∈ R := (List.mem_append.mp (hsplit ▸ he8)).resolve_left fun h => by have := hL e8 h; omega
  refine ⟨L, R, hsplit, hidx, .of_mem hsL (fun e he => ⟨Nat.zero_le _, ?_⟩) he0L h00,
    .of_mem hsR (fun e he => ⟨hR e he, ?_⟩) he8R h88⟩
  · have hmod := (g.leaf e (hsplit ▸ List.mem_append_left _ he)).1
    have := (pow8_size e.2).no_straddle (Nat.dvd_of_mod_eq_zero hmod) (hL e he)
    omega
  · have := (g.leaf e (hsplit ▸ List.mem_append_right _ he)).2
    omega

theorem ebClass_two_runs (L R : List Elem) (hL : ∀ e ∈ L, e.1 / 8 = 0) (hR : ∀ e ∈ R, e.1 / 8 = 1) :
    ebClass (L ++ R) 0 = clsList (L.map (·.2)) ∧ ebClass (L ++ R) 1 = clsList (R.map (·.2)) := by
  constructor
  · rw [ebClass_append, ebClass_in _ 0 hL, ebClass_out _ 0 (fun e he => by rw [hR e he]; decide), merge_noClass_right]
  · rw [ebClass_append, ebClass_in _ 1 hR, ebClass_out _ 1 (fun e he => by rw [hL e he]; decide)]
    rfl

theorem ebClass_single (s : Scalar) : ebClass [(0, s)] 0 = clsOf s := by
  simp [ebClass, merge_noClass_right]

theorem ebClass_pair (a b : Scalar) : ebClass [(0, a), (8, b)] 0 = clsOf a ∧ ebClass [(0, a), (8, b)] 1 = clsOf b := by
  simp [ebClass, merge_noClass_right]

theorem sound_memory (v : View) (h16 : 16 < v.size) : Sound .memory v := by
  refine ⟨?_, fun r hr => absurd hr List.not_mem_nil, fun h => absurd rfl h⟩
  simp only [kindImage, regImage, classifyAgg_large _ h16]

theorem sound_one {pk : PassKind} {v : View} (r : RegTy) (hk : kindRegs pk v = [(0, r)]) (hm : pk ≠ .memory)
    (h0 : v.size ≠ 0) (h8 : v.size ≤ 8) (hcls : regCls r = ebClass v.elems 0) (hb : r.bytes ≤ 8)
    (hcov : ∀ e ∈ v.elems, e.1 + e.2.size ≤ r.bytes) : Sound pk v := by
  refine ⟨?_, ?_, fun _ e he => ?_⟩
  · rw [kindImage_regs hm, hk, regImage_one v h0 h8, ← hcls]; rfl
  · intro r' hr'
    rw [hk, List.mem_singleton] at hr'
    rw [hr']; exact hb
  · have := hcov e he
    simp only [hk, covered, List.any_cons, List.any_nil, Bool.or_false, Bool.and_eq_true, decide_eq_true_eq]
    omega

theorem sound_two {pk : PassKind} {v : View} (r₁ r₂ : RegTy) (hk : kindRegs pk v = [(0, r₁), (8, r₂)]) (hm : pk ≠ .memory)
    (h8 : 8 < v.size) (h16 : v.size ≤ 16) (hc₁ : regCls r₁ = ebClass v.elems 0) (hc₂ : regCls r₂ = ebClass v.elems 1)
    (hb₁ : r₁.bytes ≤ 8) (hb₂ : r₂.bytes ≤ 8)
    (hcov : ∀ e ∈ v.elems, e.1 + e.2.size ≤ r₁.bytes ∨ 8 ≤ e.1 ∧ e.1 + e.2.size ≤ 8 + r₂.bytes) : Sound pk v := by
  refine ⟨?_, ?_, fun _ e he => ?_⟩
  · rw [kindImage_regs hm, hk, regImage_two v h8 h16, ← hc₁, ← hc₂]; rfl
  · intro r' hr'
    rw [hk] at hr'
    simp only [List.mem_cons, List.mem_nil_iff, or_false] at hr'
    rcases hr' with rfl | rfl
    · exact hb₁
    · exact hb₂
  · have := hcov e he
    simp only [hk, covered, List.any_cons, List.any_nil, Bool.or_false, Bool.or_eq_true, Bool.and_eq_true,
      decide_eq_true_eq]
    omega

theorem sound_few_good (v : View) (g : GoodView v) (h0 : v.size ≠ 0) (hn : v.types.length < 2) : Sound .direct v := by
  obtain ⟨s, hel, _, h8⟩ := g.single h0 hn
  refine sound_one s.regTy (by simp only [kindRegs, hel]; rfl) (fun h => nomatch h) h0 h8 ?_ ?_ ?_
  · rw [hel, regCls_regTy, ebClass_single]
  · rw [regTy_bytes]; exact size_le8 s
  · intro e he
    rw [hel, List.mem_singleton] at he
    rw [he, regTy_bytes]; exact Nat.le_of_eq (Nat.zero_add _)

theorem sound_small_good (v : View) (g : GoodView v) (h0 : v.size ≠ 0) (hn : 2 ≤ v.types.length) (h8 : v.size ≤ 8) :
    Sound (smallClassify v.size v.types) v := by
  have W := g.window0 h0 h8
  rw [g.types_eq] at hn ⊢
  rw [W.small v.size (by rwa [List.length_map] at hn)]
  obtain ⟨c, b, cov⟩ := W.halfTy_spec v.size h8 fun e he => by have := (g.leaf e he).2; omega
  refine sound_one _ rfl (fun h => nomatch h) h0 h8 (c.trans (ebClass_in _ 0 (W.div8 0 rfl)).symm) b fun e he => ?_
  have := cov e he; omega

theorem abiAlign_pow8 (r : RegTy) : Pow8 r.abiAlign := by
  cases r with
  | int n =>
    simp only [RegTy.abiAlign, Pow8]
    split
    · simp
    · split
      · simp
      · split <;> simp
  | _ => simp [RegTy.abiAlign, Pow8]

theorem off2_eq8_of_allocSize (r₁ r₂ : RegTy) (h : r₁.allocSize = 8) : off2 r₁ r₂ = 8 := by
  unfold off2
  rw [h]; exact alignUp_of_dvd (abiAlign_pow8 r₂).pos (abiAlign_pow8 r₂).dvd8

theorem off2_eq8_of_abiAlign (r₁ r₂ : RegTy) (h0 : 0 < r₁.allocSize) (h8 : r₁.allocSize ≤ 8) (ha : r₂.abiAlign = 8) :
    off2 r₁ r₂ = 8 := by
  unfold off2
  rw [ha]
  refine Nat.le_antisymm (alignUp_le_of_dvd h8 (Nat.dvd_refl 8)) (Nat.le_of_dvd ?_ (alignUp_dvd _ _))
  exact Nat.lt_of_lt_of_le h0 (le_alignUp _ _ (by decide))

/-- a lone leaf of less than 8 bytes on the left means no leaf starts at byte 4, so the object is 8-aligned and its 8-byte leaf is
    all of the right half, whose register type then has ABI alignment 8 -/
theorem GoodView.off2_halves {v : View} (g : GoodView v) (h8 : 8 < v.size) {L R : List Elem} (hel : v.elems = L ++ R)
    (WL : Window 0 L) (WR : Window 8 R) : off2 (halfTy 8 (L.map (·.2))) (halfTy (v.size - 8) (R.map (·.2))) = 8 := by
  rcases WL.shape with ⟨y, hy, hy0⟩ | hff | ⟨a, b, r, rfl, hff, _⟩
  · have hal : (halfTy 8 (L.map (·.2))).allocSize = y.2.size := by
      rw [hy, List.map_cons, List.map_nil, halfTy_single, allocSize_regTy]
    by_cases hs8 : y.2.size = 8
    · exact off2_eq8_of_allocSize _ _ (hal.trans hs8)
    · refine off2_eq8_of_abiAlign _ _ (hal ▸ size_pos _) (hal ▸ size_le8 _) ?_
      have hal8 : v.align = 8 := by
        rcases Nat.lt_or_ge 4 v.align with h4 | h4
        · rcases g.al with h | h | h | h <;> omega
        · obtain ⟨e4, he4, h44⟩ := g.dense 4 (.inl rfl) h4 4 rfl (by omega)
          rcases List.mem_append.mp (hel ▸ he4) with h | h
          · rw [hy, List.mem_singleton] at h
            rw [h] at h44; omega
          · have := (WR.inside e4 h).1; omega
      obtain ⟨c, hc, hcs⟩ := g.big hal8
      rcases List.mem_append.mp (hel ▸ hc) with h | h
      · rw [hy, List.mem_singleton] at h
        rw [h] at hcs; exact absurd hcs hs8
      · rw [WR.of8 h hcs, List.map_cons, List.map_nil, halfTy_single, regTy_abiAlign]
        exact hcs
  · rw [hff, halfTy_ff]
    exact off2_eq8_of_allocSize _ _ (by decide)
  · rw [show (a :: b :: r).map (·.2) = a.2 :: b.2 :: r.map (·.2) from rfl, halfTy_int 8 _ _ _ hff]
    exact off2_eq8_of_allocSize _ _ (by decide)

theorem splitClassify_sound_good (v : View) (g : GoodView v) (h8 : 8 < v.size) (h16 : v.size ≤ 16) :
    Sound (splitClassify v) v := by
  obtain ⟨L, R, hel, hidx, WL, WR⟩ := g.windows h8 h16
  have hRsz : ∀ e ∈ R, e.1 + e.2.size ≤ v.size := fun e he => (g.leaf e (hel ▸ List.mem_append_right _ he)).2
  have htk : v.types.take L.length = L.map (·.2) := by
    rw [g.types_eq, hel, List.map_append]
    exact List.take_left' (List.length_map _)
  have hdr : v.types.drop L.length = R.map (·.2) := by
    rw [g.types_eq, hel, List.map_append]
    exact List.drop_left' (List.length_map _)
  obtain ⟨l1, l2, l3⟩ := WL.halfTy_spec 8 (Nat.le_refl 8) fun e he => (WL.inside e he).2
  obtain ⟨r1, r2, r3⟩ := WR.halfTy_spec (v.size - 8) (by omega) fun e he => by have := hRsz e he; omega
  obtain ⟨hc0, hc1⟩ := ebClass_two_runs L R (WL.div8 0 rfl) (WR.div8 1 rfl)
  unfold splitClassify
  rw [hidx, htk, hdr, subType_true, subType_false]
  refine sound_two _ _ (by simp only [kindRegs, g.off2_halves h8 hel WL WR]) (fun h => nomatch h) h8 h16 ?_ ?_ l2 r2
    fun e he => ?_
  · rw [l1, hel, hc0]
  · rw [r1, hel, hc1]
  · rcases List.mem_append.mp (hel ▸ he) with h | h
    · left; have := l3 e h; omega
    · right; exact ⟨(WR.inside e h).1, by have := r3 e h; omega⟩

theorem GoodView.splitClassify_pair {v : View} (g : GoodView v) {a b : Scalar} (ht : v.types = [a, b]) (h8 : 8 < v.size) :
    splitClassify v = .coerce2 a.regTy b.regTy := by
  unfold splitClassify
  rw [g.pair ht h8, ht]
  rfl

theorem getTypeInfo_sound_good (v : View) (g : GoodView v) (h0 : v.size ≠ 0) : Sound (getTypeInfo v) v := by
  rcases getTypeInfo_case v with ⟨hn, e⟩ | ⟨h16, e⟩ | ⟨hn, h8, e⟩ | ⟨a, b, ht, h8, h16, e⟩ | ⟨h8, h16, e⟩ <;> rw [e]
  · exact sound_few_good v g h0 hn
  · exact sound_memory v h16
  · exact sound_small_good v g h0 hn h8
  · exact g.splitClassify_pair ht h8 ▸ splitClassify_sound_good v g h8 h16
  · exact splitClassify_sound_good v g h8 h16

theorem classifyV_sound_good (v : View) (g : GoodView v) (isRet : Bool) : Sound (classifyV v isRet) v := by
  unfold classifyV
  by_cases h0 : v.size = 0
  · cases isRet <;> simp [Sound, kindImage, kindRegs, regImage, classifyAgg, h0, g.elems_nil h0]
  · rw [if_neg h0]
    exact getTypeInfo_sound_good v g h0

theorem clsOK_good (v : View) (g : GoodView v) : ClsOK classifyV v := by
  refine ⟨fun r => classifyV_sound_good v g r, g.al.le8, fun r hk => ?_, fun hlt => ?_⟩
  · by_cases h0 : v.size = 0
    · have hel := g.elems_nil h0
      exact .inl ⟨hel, by rw [g.types_eq, hel]; rfl⟩
    · unfold classifyV at hk
      rw [if_neg h0] at hk
      obtain ⟨s, hel, hty, _⟩ := g.single h0 ((getTypeInfo_case v).few_of_direct (fun h => nomatch h) hk)
      exact .inr ⟨s, hel, hty⟩
  · by_cases h0 : v.size = 0
    · omega
    · obtain ⟨_, _, _, h8⟩ := g.single h0 hlt
      omega

end LlgoVerif.CAbi
