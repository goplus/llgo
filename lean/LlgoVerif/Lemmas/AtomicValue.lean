import LlgoVerif.Model.AtomicValue
import LlgoVerif.Lemmas.Total
/-! The invariant `Inv` of the `atomic.Value` first-store protocol and, independently of it, `written_offered`: every
    value that reaches the data word is an argument of some call. -/
namespace LlgoVerif.AValue

/-- what a parking point commits the thread to -/
inductive Role where
  | neutral
  /-- it read a real type word `τ` and will use the data word on that basis -/
  | relies (τ : Nat)
  /-- inside the first store, its data word not yet written -/
  | storing
  /-- inside the first store, its data word written, about to publish the type word -/
  | publishing (v : Val)

def role : Pc → Role
  | .lData τ => .relies τ
  | .sData2 v | .wSwap v => .relies v.1
  | .cLoadData _ n | .cCas2 n _ => .relies n.1
  | .sData _ | .wData _ | .cData _ => .storing
  | .sTyp v | .wTyp v | .cTyp v => .publishing v
  | _ => .neutral

/-- the thread is inside the first store (between its successful CAS and the publication of the type word) -/
def inFirstStore (t : Thread) : Bool :=
  match t.pc with
  | .sData _ | .sTyp _ | .wData _ | .wTyp _ | .cData _ | .cTyp _ => true
  | _ => false

def pcVal : Pc → Option Val
  | .sLoad v | .sCas v | .sData v | .sTyp v | .sData2 v => some v
  | .wLoad v | .wCas v | .wData v | .wTyp v | .wSwap v => some v
  | .cLoad _ n | .cCas _ n | .cData n | .cTyp n | .cLoadData _ n | .cCas2 n _ => some n
  | .done | .lTyp | .lData _ => none

/-- what thread `j` in a given role knows of the `Value` -/
def Local (j : Nat) (sh : Shared) : Role → Prop
  | .neutral => True
  -- a type word, once real, is what every thread that read it relies on
  | .relies τ => sh.typ = .real τ
  -- only the thread whose CAS succeeded is inside the first store
  | .storing => sh.typ = .inProgress ∧ sh.owner = some j
  -- its data word is in place when it publishes the type
  | .publishing v => (sh.typ = .inProgress ∧ sh.owner = some j) ∧ sh.data = v.2 ∧ v ∈ sh.written

/-- One step by its effect on the `Value` (`Store`, `Swap`, `CompareAndSwap` run three copies of one protocol);
    `look` = a load or a lost CAS: what the thread knows afterwards follows from what it knew, in the state it saw. -/
inductive Step (i : Nat) (sh : Shared) (t : Thread) : Shared → Thread → Prop
  | ret : Step i sh t sh t.finish
  | look {pc' : Pc} : pcVal pc' = pcVal t.pc → (Local i sh (role t.pc) → Local i sh (role pc')) →
      Step i sh t sh (t.goto pc')
  | casWon {pc' : Pc} : sh.typ = .nil → pcVal pc' = pcVal t.pc → role pc' = .storing →
      Step i sh t { sh with typ := .inProgress, owner := some i } (t.goto pc')
  | firstData {v : Val} {pc' : Pc} : pcVal t.pc = some v → role t.pc = .storing → pcVal pc' = pcVal t.pc →
      role pc' = .publishing v → Step i sh t { sh with data := v.2, written := v :: sh.written } (t.goto pc')
  | publish {v : Val} : role t.pc = .publishing v → Step i sh t { sh with typ := .real v.1 } t.finish
  | write {v : Val} : pcVal t.pc = some v → role t.pc = .relies v.1 →
      Step i sh t { sh with data := v.2, written := v :: sh.written } t.finish
  | observe {τ : Nat} : role t.pc = .relies τ →
      Step i sh t { sh with observed := (τ, sh.data) :: sh.observed } t.finish
  | swap {v : Val} : pcVal t.pc = some v → role t.pc = .relies v.1 →
      Step i sh t { sh with data := v.2, written := v :: sh.written, observed := (v.1, sh.data) :: sh.observed } t.finish

theorem stepThread_step {i : Nat} {sh sh' : Shared} {t t' : Thread} {ev : Option Event}
    (h : stepThread i sh t = some (sh', t', ev)) : Step i sh t sh' t' := by
  revert h
  -- `constructor` takes the first rule whose indices unify: no two rules have the same shape of `sh'`, `t'`
  fun_cases stepThread i sh t <;> intro h <;> cases h <;> constructor <;>
    simp_all [pcVal, role, Local]

theorem Local.own {j : Nat} {sh : Shared} {u : Thread} (h : Local j sh (role u.pc)) (hf : inFirstStore u = true) :
    sh.typ = .inProgress ∧ sh.owner = some j := by
  obtain ⟨pc, _, _⟩ := u
  cases pc <;> first | exact h | exact h.1 | cases hf

/-- the value a call wants to store -/
def opVal : Op → Option Val
  | .store v | .swap v | .cas _ v => some v
  | .load => none

theorem firstPc_some {o : Op} {pc : Pc} (h : firstPc o = some pc) : role pc = .neutral ∧ pcVal pc = opVal o := by
  unfold firstPc at h
  split at h <;> (try split at h) <;> (try split at h) <;> cases h <;> simp [role, pcVal, opVal]

theorem startNext_spec : ∀ (p : List Op) (k : Nat),
    ((startNext p k).pc = .done ∨ ∃ o ∈ p, firstPc o = some (startNext p k).pc) ∧
    ∀ op ∈ (startNext p k).prog, op ∈ p := by
  intro p
  induction p with
  | nil => exact fun _ => ⟨.inl rfl, fun _ h => h⟩
  | cons o r ih =>
    intro k
    unfold startNext
    split
    · exact ⟨.inr ⟨o, List.mem_cons_self, ‹_›⟩, fun _ h => List.mem_cons_of_mem _ h⟩
    · obtain ⟨a, b⟩ := ih (k + 1)
      exact ⟨a.imp_right fun ⟨o', ho', e⟩ => ⟨o', List.mem_cons_of_mem _ ho', e⟩, fun op h => List.mem_cons_of_mem _ (b op h)⟩

theorem startNext_neutral (p : List Op) (k : Nat) : role (startNext p k).pc = .neutral := by
  rcases (startNext_spec p k).1 with h | ⟨o, _, h⟩
  · rw [h]; rfl
  · exact (firstPc_some h).1

theorem Local.finish (j : Nat) (sh : Shared) (t : Thread) : Local j sh (role t.finish.pc) :=
  startNext_neutral .. ▸ trivial

/-- what a step of thread `i` leaves of the other threads' `Local`; under `casWon` and `owner` every other thread is
    `neutral` -/
inductive Frame (i : Nat) (sh sh' : Shared) : Prop where
  | same : sh'.typ = sh.typ → sh'.data = sh.data → sh'.owner = sh.owner → Frame i sh sh'
  | casWon : sh.typ = .nil → Frame i sh sh'
  | owner : sh.typ = .inProgress → sh.owner = some i → Frame i sh sh'
  | realWrite (τ : Nat) : sh.typ = .real τ → sh'.typ = sh.typ → Frame i sh sh'

theorem stepThread_inv {i : Nat} {sh sh' : Shared} {t t' : Thread} {ev : Option Event}
    (h : stepThread i sh t = some (sh', t', ev))
    (hpub : ∀ τ, sh.typ = .real τ → (τ, sh.data) ∈ sh.written) (hl : Local i sh (role t.pc))
    (hobs : ∀ v ∈ sh.observed, v ∈ sh.written) :
    (∀ τ, sh'.typ = .real τ → (τ, sh'.data) ∈ sh'.written) ∧
    (∀ v ∈ sh'.observed, v ∈ sh'.written) ∧
    (∀ v ∈ sh.written, v ∈ sh'.written) ∧ Local i sh' (role t'.pc) ∧ Frame i sh sh' := by
  have grow {a : Val} {l : List Val} : ∀ v ∈ l, v ∈ a :: l := fun _ => List.mem_cons_of_mem _
  cases stepThread_step h with
  | ret => exact ⟨hpub, hobs, fun _ hv => hv, .finish .., .same rfl rfl rfl⟩
  | look _ hr => exact ⟨hpub, hobs, fun _ hv => hv, hr hl, .same rfl rfl rfl⟩
  | casWon hn _ hr => exact ⟨nofun, hobs, fun _ hv => hv, hr ▸ ⟨rfl, rfl⟩, .casWon hn⟩
  | firstData _ hr _ hr' =>
    rw [hr] at hl
    refine ⟨fun τ hτ => ?_, fun x hx => grow x (hobs x hx), grow, hr' ▸ ⟨hl, rfl, List.mem_cons_self⟩, .owner hl.1 hl.2⟩
    rw [hl.1] at hτ; cases hτ
  | publish hr =>
    rw [hr] at hl
    refine ⟨fun τ hτ => ?_, hobs, fun _ hv => hv, .finish .., .owner hl.1.1 hl.1.2⟩
    cases hτ; rw [hl.2.1]; exact hl.2.2
  | write _ hr =>
    rw [hr] at hl
    refine ⟨fun τ hτ => ?_, fun x hx => grow x (hobs x hx), grow, .finish .., .realWrite _ hl rfl⟩
    rw [hl] at hτ; cases hτ; exact List.mem_cons_self
  | observe hr =>
    rw [hr] at hl
    refine ⟨hpub, fun x hx => ?_, fun _ hv => hv, .finish .., .same rfl rfl rfl⟩
    rcases List.mem_cons.mp hx with rfl | hx
    · exact hpub _ hl
    · exact hobs x hx
  | swap _ hr =>
    rw [hr] at hl
    refine ⟨fun τ hτ => ?_, fun x hx => grow x ?_, grow, .finish .., .realWrite _ hl rfl⟩
    · rw [hl] at hτ; cases hτ; exact List.mem_cons_self
    · rcases List.mem_cons.mp hx with rfl | hx
      · exact hpub _ hl
      · exact hobs x hx

theorem Local.frame {i j : Nat} {sh sh' : Shared} {r : Role} (hu : Local j sh r) (fr : Frame i sh sh')
    (hij : j ≠ i) (mono : ∀ v ∈ sh.written, v ∈ sh'.written) : Local j sh' r := by
  -- inside the first store `j` is the owner: of the steps of another thread only `same` is possible
  have first : sh.typ = .inProgress ∧ sh.owner = some j →
      (sh'.typ = .inProgress ∧ sh'.owner = some j) ∧ sh'.data = sh.data := fun hu => by
    cases fr with
    | same a b c => exact ⟨⟨a.trans hu.1, c.trans hu.2⟩, b⟩
    | casWon a | realWrite _ a => rw [a] at hu; cases hu.1
    | owner _ b => exact absurd (Option.some.inj (hu.2.symm.trans b)) hij
  cases r with
  | neutral => trivial
  | relies τ =>
    have hu : sh.typ = .real τ := hu
    cases fr with
    | same a | realWrite _ _ a => exact a.trans hu
    | casWon a | owner a => rw [a] at hu; cases hu
  | storing => exact (first hu).1
  | publishing v => exact ⟨(first hu.1).1, (first hu.1).2.trans hu.2.1, mono v hu.2.2⟩

theorem next_inv {s s' : State} {i : Nat} (hn : next s i = some s') :
    ∃ t sh' t' ev, s.threads[i]? = some t ∧ stepThread i s.sh t = some (sh', t', ev) ∧
      s' = ⟨sh', s.threads.set i t'⟩ := by
  unfold next at hn
  revert hn
  fun_cases nextEv s i <;> intro hn <;> cases hn
  exact ⟨_, _, _, _, ‹_›, ‹_›, rfl⟩

structure Inv (s : State) : Prop where
  /-- a published type word comes with a data word that was stored with that type -/
  pub : ∀ τ, s.sh.typ = .real τ → (τ, s.sh.data) ∈ s.sh.written
  loc : ∀ (j : Nat) (u : Thread), s.threads[j]? = some u → Local j s.sh (role u.pc)
  obs : ∀ v ∈ s.sh.observed, v ∈ s.sh.written

theorem inv_init (progs : List (List Op)) : Inv (init progs) :=
  ⟨nofun, Total.forall_map fun _ p _ => startNext_neutral p 0 ▸ trivial, nofun⟩

theorem inv_next {s s' : State} {i : Nat} (h : Inv s) (hn : next s i = some s') : Inv s' := by
  obtain ⟨t, sh', t', ev, ht, hs, rfl⟩ := next_inv hn
  obtain ⟨gpub, gobs, mono, gl, fr⟩ := stepThread_inv hs h.pub (h.loc i t ht) h.obs
  exact ⟨gpub, Total.forall_set h.loc ht gl fun j u hj hu => hu.frame fr hj mono, gobs⟩

theorem Inv.reachable {s0 s : State} (h0 : Inv s0) (hr : Reachable s0 s) : Inv s := by
  induction hr with
  | refl => exact h0
  | step i _ hn ih => exact inv_next ih hn

theorem inv_reachable {progs : List (List Op)} {s : State} (hr : Reachable (init progs) s) : Inv s :=
  (inv_init progs).reachable hr

theorem run_reachable {s0 : State} : ∀ (is : List Nat) (s s' : State),
    Reachable s0 s → run s is = some s' → Reachable s0 s' := by
  intro is s s' hr h
  fun_induction run s is with
  | case1 => cases h; exact hr
  | case2 _ i _ _ hn ih => exact ih (.step i hr hn) h
  | case3 => cases h

/-! ### every stored value is an argument of some call -/

/-- all values the programs offer to the `Value` -/
def offered (progs : List (List Op)) : List Val := (progs.flatten).filterMap opVal

/-- the thread only carries offered values -/
def ValsIn (O : List Val) (t : Thread) : Prop :=
  (∀ v, pcVal t.pc = some v → v ∈ O) ∧ (∀ op ∈ t.prog, ∀ v, opVal op = some v → v ∈ O)

theorem startNext_valsIn (O : List Val) (p : List Op) (k : Nat)
    (hp : ∀ op ∈ p, ∀ v, opVal op = some v → v ∈ O) : ValsIn O (startNext p k) := by
  refine ⟨fun v hv => ?_, fun op hop => hp op ((startNext_spec p k).2 op hop)⟩
  rcases (startNext_spec p k).1 with h | ⟨o, ho, h⟩
  · rw [h] at hv; cases hv
  · exact hp o ho v ((firstPc_some h).2 ▸ hv)

theorem stepThread_vals {O : List Val} {i : Nat} {sh sh' : Shared} {t t' : Thread} {ev : Option Event}
    (h : stepThread i sh t = some (sh', t', ev)) (ht : ValsIn O t) (hw : ∀ x ∈ sh.written, x ∈ O) :
    ValsIn O t' ∧ ∀ x ∈ sh'.written, x ∈ O := by
  have hf : ValsIn O t.finish := startNext_valsIn O t.prog (t.opsDone + 1) ht.2
  have goto : ∀ pc', pcVal pc' = pcVal t.pc → ValsIn O (t.goto pc') := fun pc' h => ⟨fun v hv => ht.1 v (h ▸ hv), ht.2⟩
  have cons : ∀ v, pcVal t.pc = some v → ∀ x ∈ v :: sh.written, x ∈ O := fun v hv x hx => by
    rcases List.mem_cons.mp hx with rfl | hx
    · exact ht.1 _ hv
    · exact hw x hx
  cases stepThread_step h with
  | ret | publish | observe => exact ⟨hf, hw⟩
  | look hv | casWon _ hv => exact ⟨goto _ hv, hw⟩
  | firstData hv _ hv' => exact ⟨goto _ hv', cons _ hv⟩
  | write hv | swap hv => exact ⟨hf, cons _ hv⟩

theorem valsIn_reachable {O : List Val} {s0 s : State}
    (h0 : (∀ (j : Nat) (u : Thread), s0.threads[j]? = some u → ValsIn O u) ∧ ∀ x ∈ s0.sh.written, x ∈ O)
    (hr : Reachable s0 s) :
    (∀ (j : Nat) (u : Thread), s.threads[j]? = some u → ValsIn O u) ∧ ∀ x ∈ s.sh.written, x ∈ O := by
  induction hr with
  | refl => exact h0
  | step i _ hn ih =>
    obtain ⟨t, sh', t', ev, ht, hs, rfl⟩ := next_inv hn
    obtain ⟨a, b⟩ := stepThread_vals hs (ih.1 i t ht) ih.2
    exact ⟨Total.forall_set ih.1 ht a fun _ _ _ h => h, b⟩

theorem written_offered {progs : List (List Op)} {s : State} (hr : Reachable (init progs) s) :
    ∀ x ∈ s.sh.written, x ∈ offered progs :=
  (valsIn_reachable ⟨Total.forall_map fun j p hp => startNext_valsIn _ p 0 fun op hop v hv =>
    List.mem_filterMap.mpr ⟨op, List.mem_flatten.mpr ⟨p, List.mem_of_getElem? hp, hop⟩, hv⟩, fun _ h => absurd h List.not_mem_nil⟩ hr).2

end LlgoVerif.AValue
