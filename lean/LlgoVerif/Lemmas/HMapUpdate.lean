import LlgoVerif.Lemmas.HMapTable
/-!
# Lemmas for C06: mapassign and mapdelete on the home chain of the key
-/
namespace LlgoVerif.HMap
open LlgoVerif.AssocList

variable {K V : Type}

theorem KeyOK.update {o : Ops K} (ho : HashOK o) {s : UInt32} {n i : Nat} {x : Cell K V} {k : K}
    (hx : KeyOK o s n i x) (hk : o.eq k x.key = true) (hunh : o.unhashable k = false) (upd : Bool) (v : V) :
    KeyOK o s n i { x with key := if upd then k else x.key, val := v } := by
  cases upd with
  | false => exact hx
  | true =>
    refine ⟨hunh, fun _ => ?_⟩
    show x.top = tophash (o.hash s k) ∧ (o.hash s k).toNat % n = i
    rw [ho.hash_eq s k x.key hk]
    exact hx.2 (ho.eqok.refl_right hk)

theorem NewChainOK.replace {o : Ops K} {s : UInt32} {n i : Nat} {l1 l2 : List (Cell K V)} {x y : Cell K V}
    (hc : NewChainOK o s n i (l1 ++ x :: l2)) (hm : y.top.toNat ≤ 1 ∨ 5 ≤ y.top.toNat) (hr : RestOK (l1 ++ y :: l2))
    (hk : y.live = true → KeyOK o s n i y) : NewChainOK o s n i (l1 ++ y :: l2) :=
  .of_keys (forall_mem_replace hc.marks hm) hr (hc.len8.of_length (by simp))
    (forall_mem_replace (p := fun z => z.live = true → KeyOK o s n i z) (fun _ hz => hc.key hz) hk)

theorem NewChainOK.fill {o : Ops K} {s : UInt32} {n i : Nat} {l1 l2 : List (Cell K V)} {x y : Cell K V}
    (hc : NewChainOK o s n i (l1 ++ x :: l2)) (hfull : ∀ z ∈ l1, isEmptyTop z.top = false)
    (hxe : isEmptyTop x.top = true) (hk : KeyOK o s n i y) (h5 : 5 ≤ y.top.toNat) :
    NewChainOK o s n i (l1 ++ y :: l2) ∧
      (chainAbs (l1 ++ y :: l2)).Perm (chainAbs (l1 ++ x :: l2) ++ [(y.key, y.val)]) := by
  have hnz : ∀ z ∈ l1, z.top ≠ emptyRest := fun z hz => ne_emptyRest_of_not_empty (hfull z hz)
  refine ⟨hc.replace (.inr h5) ((restOK_append_of_ne_emptyRest hnz).2
    ⟨fun e => absurd e (ne_emptyRest_of_not_empty (not_empty_of_ge5 h5)),
      ((restOK_append_of_ne_emptyRest hnz).1 hc.rest).2⟩) (fun _ => hk), ?_⟩
  rw [chainAbs_append, chainAbs_append, chainAbs_cons_live (live_iff.2 h5), chainAbs_cons_dead (dead_of_isEmpty hxe)]
  exact List.perm_middle.trans (List.perm_append_singleton _ _).symm

variable [Inhabited K] [Inhabited V]

theorem NewChainOK.grow {o : Ops K} {s : UInt32} {n i : Nat} {c : Chain K V} {y : Cell K V}
    (hc : NewChainOK o s n i c) (hfull : ∀ x ∈ c, isEmptyTop x.top = false) (hk : KeyOK o s n i y)
    (h5 : 5 ≤ y.top.toNat) :
    NewChainOK o s n i ((c ++ freshBucket K V).set c.length y) ∧
      (chainAbs ((c ++ freshBucket K V).set c.length y)).Perm (chainAbs c ++ [(y.key, y.val)]) := by
  -- the new overflow bucket is padding, and its first cell a free slot
  have p := pad_fresh (ws := c) (fun z hz => ne_emptyRest_of_not_empty (hfull z hz)) 8
  have hp : NewChainOK o s n i (c ++ freshCell K V :: List.replicate 7 (freshCell K V)) :=
    .of_retop hc.marks (fun _ hz => hc.key hz) p ⟨by simp, by have := hc.len8.2; simp; omega⟩
  rw [freshBucket_eq, List.replicate_succ, set_split]
  exact p.abs ▸ hp.fill hfull rfl hk h5

/-- the home chain of `k` is replaced by a chain that stands for `f` of what it stood for (`f` = `insert`, `erase`);
    `hn` says `count + 1`, `count - 1`, `count` without subtraction (`rest`: entries outside the home chain) -/
theorem home_update {o : Ops K} (ho : HashOK o) {h h1 : HMap K V} (hw : WF o h) {hash : UInt64} {k : K}
    (hhome : Home h (bucketIdx hash h.B)) (hhash : o.eq k k = true → hash = o.hash h.hash0 k)
    {f : AList K V → AList K V} (hf : KeyLocal o.eq k f) {m : AList K V} (hm : (abs h).Perm m)
    (hs : Same h h1) {c' : Chain K V} {n : Nat}
    (hc : NewChainOK o h.hash0 (2 ^ h.B) (bucketIdx hash h.B) c')
    (hp : (chainAbs c').Perm (f (chainAbs (h.buckets.getD (bucketIdx hash h.B) []))))
    (hn : ∀ rest, h.count = rest + (chainAbs (h.buckets.getD (bucketIdx hash h.B) [])).length →
      n = rest + (f (chainAbs (h.buckets.getD (bucketIdx hash h.B) []))).length) :
    WF o { h1 with buckets := h1.buckets.setIfInBounds (bucketIdx hash h.B) c', count := n } ∧
      (abs { h1 with buckets := h1.buckets.setIfInBounds (bucketIdx hash h.B) c', count := n }).Perm (f m) := by
  have hb := hw.idx_lt hash
  obtain ⟨e, hR⟩ := home_split ho hw hhome hhash
  generalize bucketIdx hash h.B = b at *
  have e' : (abs { h1 with buckets := h1.buckets.setIfInBounds b c', count := n }).Perm (chainAbs c' ++ others h b) :=
    abs_home_set hb (by rw [hs.buckets]) hs.old
  have hperm : (abs { h1 with buckets := h1.buckets.setIfInBounds b c', count := n }).Perm (f m) :=
    ((e'.trans (hp.append_right _)).trans (hf.aside _ hR).symm).trans
      (hf.congr (e.symm.trans hm) (nodup_perm ho.eqok e hw.nodup))
  refine ⟨wf_set hw hhome hs hc ?_ (nodup_perm ho.eqok hperm.symm (hf.nodup (nodup_perm ho.eqok hm hw.nodup))), hperm⟩
  have l := e.length_eq
  have l' := e'.length_eq
  rw [List.length_append] at l l'
  rw [l', hp.length_eq, Nat.add_comm]
  exact hn _ (by rw [hw.count, l, Nat.add_comm])

/-- what one pass of mapassign establishes -/
def AssignPost (o : Ops K) (h : HMap K V) (m : AList K V) (k : K) (v : V) : PassRes K V → Prop
  | .done h' => WF o h' ∧ (abs h').Perm (insert o.eq o.needKeyUpdate k v m)
  | .again h' => h' = hashGrow h ∧ h.old = none

theorem assignCore_spec {o : Ops K} (ho : HashOK o) {h : HMap K V} (hw : WF o h) {hash : UInt64} {k : K} {v : V}
    (hhome : Home h (bucketIdx hash h.B)) (hhash : o.eq k k = true → hash = o.hash h.hash0 k)
    (hunh : o.unhashable k = false) {m : AList K V} (hm : (abs h).Perm m) :
    AssignPost o h m k v (assignCore o h hash k v) := by
  have hc := hw.home hash
  have hnew : KeyOK o h.hash0 (2 ^ h.B) (bucketIdx hash h.B) ({ top := tophash hash, key := k, val := v } : Cell K V) :=
    ⟨hunh, fun hr => by rw [← hhash hr]; exact ⟨rfl, rfl⟩⟩
  have upd := fun h1 {c' n} => home_update (h1 := h1) (c' := c') (n := n) ho hw hhome hhash
    (keyLocal_insert ho.eqok o.needKeyUpdate k v) hm
  unfold assignCore
  dsimp only
  generalize h.buckets.getD (bucketIdx hash h.B) [] = c at *
  rcases scan_cases ho hhash hc.rest hc.placed.tops with
    ⟨ha, -, -, hsc⟩ | ⟨l1, x, l2, rfl, hxl, hxk, ha, -, -, hsc⟩
  · obtain ⟨ins, hscan, hslot⟩ := hsc 0 none
    simp only [hscan, Option.none_or]
    split
    · rename_i hg
      refine ⟨rfl, ?_⟩
      cases hO : h.old with
      | none => rfl
      | some oa => simp [growing_of_old_some hO] at hg
    · -- the key is new: whichever cell takes it, the chain gains one entry and `count` goes up by one
      have add := fun h1 (hs : Same h h1) {c'} hc' (hp : (chainAbs c').Perm (chainAbs c ++ [(k, v)])) =>
        upd h1 (c' := c') (n := h1.count + 1) hs hc' (insert_absent ha ▸ hp)
          (fun rest e => by rw [insert_absent ha, List.length_append, hs.count, e]; rfl)
      cases ins with
      | some i =>
        obtain ⟨l1, x, l2, rfl, rfl, hxe, hfull⟩ := hslot
        simp only [Nat.zero_add, set_split]
        obtain ⟨gc, ga⟩ := hc.fill hfull hxe hnew (tophash_toNat_ge hash)
        exact add h (.refl h) gc ga
      | none =>
        obtain ⟨gc, ga⟩ := hc.grow hslot hnew (tophash_toNat_ge hash)
        exact add _ (same_incr h) gc ga
  · simp only [hsc, Nat.zero_add, modify_split]
    have hx' : ({ x with key := if o.needKeyUpdate then k else x.key, val := v } : Cell K V).live = true := hxl
    refine upd h (Same.refl h) (hc.replace (y := { x with key := if o.needKeyUpdate then k else x.key, val := v })
      (hc.marks x (by simp)) (restOK_replace hc.rest (RestOK.of_append hc.rest).1 id)
      (fun _ => (hc.key (by simp) hxl).update ho hxk hunh _ v)) ?_
      (fun rest e => ?_)
    · rw [chainAbs_append, chainAbs_append, chainAbs_cons_live hxl, chainAbs_cons_live hx', insert_split ha hxk]
    · rw [e, chainAbs_append, chainAbs_cons_live hxl, insert_split ha hxk]
      simp only [List.length_append, List.length_cons]

theorem deleteCore_spec {o : Ops K} (ho : HashOK o) {h : HMap K V} (hw : WF o h) {hash : UInt64} {k : K}
    (hhome : Home h (bucketIdx hash h.B)) (hhash : o.eq k k = true → hash = o.hash h.hash0 k)
    {m : AList K V} (hm : (abs h).Perm m) :
    WF o (deleteCore o h hash k) ∧ (abs (deleteCore o h hash k)).Perm (erase o.eq k m) ∧
      (deleteCore o h hash k).old = h.old ∧ (deleteCore o h hash k).gen = h.gen := by
  have hc := hw.home hash
  obtain ⟨eh, hR⟩ := home_split ho hw hhome hhash
  have upd := fun {c' n} => home_update (c' := c') (n := n) ho hw hhome hhash (keyLocal_erase ho.eqok k) hm
    (Same.refl h)
  unfold deleteCore
  dsimp only
  generalize h.buckets.getD (bucketIdx hash h.B) [] = c at *
  rcases scan_cases ho hhash hc.rest hc.placed.tops with
    ⟨ha, -, hsc, -⟩ | ⟨l1, x, l2, rfl, hxl, hxk, ha, -, hsc, -⟩
  · simp only [hsc]
    exact ⟨hw, by rw [erase_absent (absent_perm (eh.symm.trans hm) (ha.append hR))]; exact hm, trivial, trivial⟩
  · simp only [hsc, Nat.zero_add]
    have d := deleteAt_spec hc.rest
    obtain ⟨w1, p1⟩ := upd (n := h.count - 1)
      (.of_retop hc.marks (fun _ hy => hc.key hy) d (hc.len8.of_length (deleteAt_length _ _)))
      (by rw [d.abs, chainAbs_append, chainAbs_cons_live hxl, erase_split ha hxk])
      (fun rest e => by
        rw [e, chainAbs_append, chainAbs_cons_live hxl, erase_split ha hxk]
        simp only [List.length_append, List.length_cons]; exact Nat.sub_eq_of_eq_add rfl)
    split
    · rename_i hz
      exact ⟨wf_reseed (wf_same w1 (same_fastrand _)) ((same_fastrand _).count.trans (by simpa using hz)) _, p1, rfl, rfl⟩
    · exact ⟨w1, p1, rfl, rfl⟩

end LlgoVerif.HMap
