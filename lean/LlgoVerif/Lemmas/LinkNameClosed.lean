import LlgoVerif.Model.LinkName
/-!
# Lemmas for C14: the patch-prefix literal as a character list

`decide` does not get through `String.toList` of the 44-character literal in `patchPrefix`; a closed instance is evaluated
after the literal has been replaced by `patchChars`.
-/
namespace LlgoVerif.LinkName

def patchChars : Str :=
  ['g', 'i', 't', 'h', 'u', 'b', '.', 'c', 'o', 'm', '/', 'g', 'o', 'p', 'l', 'u', 's', '/', 'l', 'l', 'g', 'o', '/',
   'r', 'u', 'n', 't', 'i', 'm', 'e', '/', 'i', 'n', 't', 'e', 'r', 'n', 'a', 'l', '/', 'l', 'i', 'b', '/']

theorem patchPrefix_eq : patchPrefix = patchChars := String.toList_ofList

theorem pathValid_eq : pathValid = fun p => !p.isEmpty && p.all pathChar && !patchChars.isPrefixOf p := by
  funext p; rw [pathValid, patchPrefix_eq]

theorem pathOK_eq :
    pathOK = fun p => !p.isEmpty && p.all pathChar && !patchChars.isPrefixOf p && noDotInLastPathElem p := by
  funext p; rw [pathOK, pathValid_eq]

theorem pathOf_eq : pathOf = trimPrefix patchChars := by
  funext p; rw [pathOf, patchPrefix_eq]

end LlgoVerif.LinkName
