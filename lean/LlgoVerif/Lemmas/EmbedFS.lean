import LlgoVerif.Lemmas.EmbedTable
import LlgoVerif.Spec.Embed
/-! C16: `BuildFSEntries`: order, keys, ancestor directories. `Str` is a list of byte values; 47 = `/`. -/
namespace LlgoVerif.Embed
open LlgoVerif.Embed.Spec

/-- as a list, so that `entryLt` is core's `<` and `ListOrder.strictLinear.list` applies -/
def splitKey (a : Str) : List Str := [(embedSplit a).1, (embedSplit a).2]

theorem entryLt_eq (a b : Str) : entryLt a b = decide (splitKey a < splitKey b) := by
  simp only [entryLt, splitKey, strLt_eq, List.cons_lt_cons_iff, List.not_lt_nil, and_false, or_false]
  by_cases h : (embedSplit a).1 = (embedSplit b).1
  · simp [h, ListOrder.strictLinear.irrefl]
  · simp [h]

theorem buildFSEntries_perm (files : Seen) : (buildFSEntries files).Perm (files.foldl addEntry []) :=
  List.mergeSort_perm _ _

theorem keys_addEntry (m : Seen) (f : Str × Str) :
    (addEntry m f).map (·.1) = (f.1 :: parentDirs f.1).foldl insKey (m.map (·.1)) := by
  rw [addEntry, keys_foldl_mapSet, keys_mapSet]; rfl

theorem keys_foldl_addEntry (m files : Seen) :
    (files.foldl addEntry m).map (·.1) =
      (files.flatMap fun f => f.1 :: parentDirs f.1).foldl insKey (m.map (·.1)) := by
  induction files generalizing m with
  | nil => rfl
  | cons f rest ih => rw [List.foldl_cons, ih, keys_addEntry, List.flatMap_cons, List.foldl_append]

theorem keys_buildFSEntries (files : Seen) (x : Str) :
    x ∈ (buildFSEntries files).map (·.1) ↔ ∃ f ∈ files, x = f.1 ∨ x ∈ parentDirs f.1 := by
  rw [((buildFSEntries_perm files).map _).mem_iff, keys_foldl_addEntry, mem_foldl_insKey]
  simp

/-- `rw` with explicit facts: `simp [hc]` closes both cases too, but through `Classical.choice`, which the C16 theorems
    are stated to do without (design/C16.md). -/
theorem splitOn_eq : ∀ (sep : Nat) (s : Str), splitOn sep s = List.splitOn sep s
  | _, [] => rfl
  | sep, c :: cs => by
    rw [splitOn, splitOn_eq sep cs, List.splitOn_cons_eq_if_modifyHead]
    by_cases hc : c = sep
    · rw [if_pos hc, if_pos (beq_iff_eq.2 hc)]
    · rw [if_neg hc, if_neg (mt beq_iff_eq.1 hc)]
      cases h : List.splitOn sep cs with
      | nil => exact absurd h (List.splitOn_ne_nil _ _)
      | cons x xs => rfl

theorem joinSlash_eq_intercalate : ∀ cs : List Str, joinSlash cs = [47].intercalate cs
  | [] => rfl
  | [c] => by simp [joinSlash]
  | c :: d :: cs => by
    rw [joinSlash, joinSlash_eq_intercalate (d :: cs)]; simp

theorem splitOn_ne_nil (sep : Nat) (s : Str) : splitOn sep s ≠ [] := splitOn_eq sep s ▸ List.splitOn_ne_nil _ _

theorem not_mem_of_mem_splitOn (sep : Nat) (s : Str) : ∀ c ∈ splitOn sep s, sep ∉ c := by
  rw [splitOn_eq]
  induction s with
  | nil => intro c hc; rw [List.splitOn_nil, List.mem_singleton] at hc; rw [hc]; exact List.not_mem_nil
  | cons a rest ih =>
    rw [List.splitOn_cons_eq_if_modifyHead]
    split
    · exact List.forall_mem_cons.2 ⟨List.not_mem_nil, ih⟩
    · rename_i hne
      cases h : List.splitOn sep rest with
      | nil => exact absurd h (List.splitOn_ne_nil _ _)
      | cons x xs =>
        rw [h] at ih
        have ih' := List.forall_mem_cons.1 ih
        exact List.forall_mem_cons.2
          ⟨fun hm => (List.mem_cons.1 hm).elim (fun e => hne (beq_iff_eq.2 e.symm)) ih'.1, ih'.2⟩

theorem splitOn_joinSlash (cs : List Str) (hne : cs ≠ []) (h : ∀ c ∈ cs, 47 ∉ c) :
    splitOn 47 (joinSlash cs) = cs := by
  rw [splitOn_eq, joinSlash_eq_intercalate, List.splitOn_intercalate _ h hne]

theorem joinSlash_concat_nil (cs : List Str) (hne : cs ≠ []) : joinSlash (cs ++ [[]]) = joinSlash cs ++ [47] := by
  induction cs with
  | nil => exact absurd rfl hne
  | cons a rest ih =>
    cases rest with
    | nil => simp [joinSlash]
    | cons b rest' => simp only [List.cons_append, joinSlash] at ih ⊢; simp [ih]

theorem splitOn_joinSlash_slash (p : List Str) (hne : p ≠ []) (h : ∀ c ∈ p, 47 ∉ c) :
    splitOn 47 (joinSlash p ++ [47]) = p ++ [[]] := by
  -- not `List.splitOn_append_cons_self`: its `ReflBEq Nat` is found through `Std.LawfulBEqOrd`, which rests on
  -- `Classical.choice`, and `buildFSEntries_closed` would inherit it
  rw [splitOn_eq, joinSlash_eq_intercalate, List.splitOn_append_cons_of_beq _ _ (rfl : ((47 : Nat) == 47) = true),
    List.splitOn_intercalate _ h hne, List.splitOn_nil]

theorem mem_parentDirs (name x : Str) :
    x ∈ parentDirs name ↔
      ∃ k, 0 < k ∧ k < (splitOn 47 name).length ∧ x = joinSlash ((splitOn 47 name).take k) ++ [47] := by
  simp only [parentDirs, dirPrefixes, List.map_map, List.mem_map, List.mem_reverse, List.mem_range, Function.comp]
  constructor
  · rintro ⟨j, hj, rfl⟩; exact ⟨j + 1, by omega, by omega, rfl⟩
  · rintro ⟨k, h0, hk, rfl⟩; exact ⟨k - 1, by omega, by rw [Nat.sub_add_cancel h0]⟩

theorem parentDirs_trans {name x y : Str} (hx : x ∈ parentDirs name) (hy : y ∈ parentDirs x) :
    y ∈ parentDirs name := by
  obtain ⟨k, h0, hk, rfl⟩ := (mem_parentDirs name x).1 hx
  -- `x` is `p/` for a prefix `p` of `name`'s elements; these hold no slash, so `x` splits back into `p` and an empty element
  have hp : (splitOn 47 name).take k ≠ [] := fun h =>
    (List.take_eq_nil_iff.1 h).elim (Nat.ne_of_gt h0) (splitOn_ne_nil 47 name)
  rw [mem_parentDirs, splitOn_joinSlash_slash _ hp fun c hc =>
    not_mem_of_mem_splitOn 47 name c (List.mem_of_mem_take hc)] at hy
  obtain ⟨j, hj0, hj, rfl⟩ := hy
  simp only [List.length_append, List.length_take, List.length_singleton] at hj
  refine (mem_parentDirs name _).2 ⟨j, hj0, by omega, ?_⟩
  rw [List.take_append_of_le_length (by simp; omega), List.take_take, Nat.min_eq_left (by omega)]

theorem parentDirs_closed (files : Seen) {x y : Str} (hx : x ∈ (buildFSEntries files).map (·.1))
    (hy : y ∈ parentDirs x) : y ∈ (buildFSEntries files).map (·.1) := by
  obtain ⟨f, hf, rfl | hx⟩ := (keys_buildFSEntries files x).1 hx
  · exact (keys_buildFSEntries files y).2 ⟨f, hf, Or.inr hy⟩
  · exact (keys_buildFSEntries files y).2 ⟨f, hf, Or.inr (parentDirs_trans hx hy)⟩

end LlgoVerif.Embed
