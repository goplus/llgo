import LlgoVerif.Lemmas.GoType
namespace LlgoVerif.Types

theorem not_of_iff_bfalse {P : Prop} {b : Bool} (hb : b = false) (h : P ↔ b = true) : ¬ P :=
  fun p => by rw [hb] at h; cases h.1 p

/-- `struct{ A int "x:1" }` -/
def tagX1 : GoType := .struct (.cons ['A'] none false ['x', ':', '1'] (.basic .int) .nil)
/-- `struct{ A int "x:2" }` -/
def tagX2 : GoType := .struct (.cons ['A'] none false ['x', ':', '2'] (.basic .int) .nil)

theorem tagX_not_identical : identical tagX1 tagX2 = false := by
  simp [tagX1, tagX2, identical, identicalF, unalias]

theorem tagX_same_name {cfg : Cfg} (hc : Str → Str) (h : cfg.tags = false) : nameC cfg hc false tagX1 = nameC cfg hc false tagX2 := by
  simp only [tagX1, tagX2, nameC, fieldsC, tagLine, h, Bool.false_and, Bool.false_eq_true, if_false]; rfl

/-- `type T struct{…}` of package `p` (declaration 1) -/
def namedT : GoType := .named 1 (some ['p']) ['T'] .pkg .nil
/-- `struct{ AT }` with `type AT = T` -/
def embAT : GoType := .struct (.cons ['A', 'T'] none true [] (.alias ['A', 'T'] namedT) .nil)
/-- `struct{ T }` -/
def embT : GoType := .struct (.cons ['T'] none true [] namedT .nil)

theorem embAT_not_identical : identical embAT embT = false := by
  simp [embAT, embT, identical, identicalF, unalias]

theorem embAT_same_name {cfg : Cfg} (hc : Str → Str) (h : cfg.embNames = false) : nameC cfg hc false embAT = nameC cfg hc false embT := by
  simp only [embAT, embT, nameC, fieldsC, embMark, h, Bool.false_eq_true, if_false, if_true]; rfl

/-- Go's `token.IsExported` on ASCII names, for the examples -/
def exAscii (s : Str) : Bool := match s with | c :: _ => c.isUpper | [] => false

/-- with the literal `patchPrefix` rewritten to its characters first, `decide` does not evaluate the string -/
theorem pathOf_p : pathOf ['p'] = ['p'] := by
  have e : patchPrefix =
      ['g','i','t','h','u','b','.','c','o','m','/','g','o','p','l','u','s','/','l','l','g','o','/','r','u','n','t','i','m','e','/',
       'i','n','t','e','r','n','a','l','/','l','i','b','/'] := String.toList_ofList
  unfold pathOf; rw [e]; decide

theorem witnesses_wf : wfT .fixed exAscii tagX1 = true ∧ wfT .fixed exAscii tagX2 = true ∧
    wfT .fixed exAscii embAT = true ∧ wfT .fixed exAscii embT = true ∧
    Coherent (declKeys embAT ++ declKeys embT) := by
  simp only [embAT, embT, namedT, wfT, wfF, namedPkgOk, declKeys, declKeysF, declKeysL, keyOf, pathOf_p]
  decide

end LlgoVerif.Types
