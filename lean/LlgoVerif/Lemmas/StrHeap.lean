import LlgoVerif.Model.StrHeap
import LlgoVerif.Lemmas.Slice
/-!
Lemmas for the heap-aware string layer (`Model/StrHeap.lean`): conversions copy into a fresh block, slicing shares the
base's bytes, `CStrCopy/CStrDup/StringFromCStr` round trip.
-/
namespace LlgoVerif.Slice

structure SWF (m : Mem) (s : Str) : Prop where
  len_nonneg : 0 ≤ s.len
  len_lt : s.len < 2 ^ 63
  inb : s.data + s.len.toNat ≤ m.next

theorem strBytes_length (m : Mem) (s : Str) : (strBytes m s).length = s.len.toNat := by
  simp [strBytes, read_length]

theorem stringFrom_spec (m : Mem) (data : Nat) (n : Int) (hn : 0 ≤ n ∧ n < 2 ^ 63)
    (hsrc : data + n.toNat ≤ m.next) :
    ∃ m' s, StringFrom m data n = .ok (m', s) ∧ s.len = n ∧ strBytes m' s = m.read data n.toNat ∧
      (n ≠ 0 → s.data = m.next) ∧ (∀ a, a < m.next → m'.bytes a = m.bytes a) := by
  unfold StringFrom
  by_cases hz : n = 0
  · rw [if_pos hz, hz]
    exact ⟨m, _, rfl, rfl, rfl, fun h => absurd rfl h, fun _ _ => rfl⟩
  · rw [if_neg hz, uintptr_nonneg n (by omega)]
    simp only [allocU_fst]
    rw [memcpy_ok _ _ _ _ (not_overlaps_above (by omega))]
    exact ⟨_, _, rfl, rfl, read_memmove _ _ _ _, fun _ => rfl, fun a ha => by
      rw [memmove_bytes, if_neg (by omega), allocU_bytes]⟩

theorem stringToBytes_spec (m : Mem) (s : Str) (hs : SWF m s) (hmax : s.len ≤ 2 ^ 48) :
    ∃ m' d, StringToBytesH m s = .ok (m', d) ∧ d.len = s.len ∧ d.cap = s.len ∧ view m' d 1 = strBytes m s ∧
      (s.len ≠ 0 → d.data = m.next) ∧ (∀ a, a < m.next → m'.bytes a = m.bytes a) := by
  obtain ⟨h0, h1, h2⟩ := hs
  unfold StringToBytesH
  by_cases hz : s.len = 0
  · rw [if_pos hz]
    exact ⟨m, _, rfl, hz.symm, hz.symm, by unfold view strBytes; rw [hz]; rfl, fun h => absurd hz h, fun _ _ => rfl⟩
  · rw [if_neg hz, (makeSlice_cases m s.len s.len 1 h1 ⟨by omega, by omega⟩).1 ⟨h0, Int.le_refl _, by omega⟩]
    simp only [Int.mul_one]
    rw [uintptr_nonneg s.len (by omega), memcpy_ok _ _ _ _ (not_overlaps_above (by omega))]
    refine ⟨_, _, rfl, rfl, rfl, ?_, fun _ => rfl, fun a ha => ?_⟩
    · unfold view strBytes
      simp only [Int.mul_one]
      exact (read_memmove _ _ _ _).trans (read_memset_out _ _ _ _ _ _ (.inl h2))
    · rw [memmove_bytes, if_neg (by omega), allocZ_bytes, if_neg (by omega)]

/-- the window of `s[i:j]` is the part `i … j-1` of the window of `s`, in EVERY memory (same addresses) -/
theorem stringSliceH_ok (base : Str) (i j : Int) (h : 0 ≤ i ∧ i ≤ j ∧ j ≤ base.len) :
    ∃ r, StringSliceH base i j = .ok r ∧ r.len = j - i ∧ (i < base.len → r.data = base.data + i.toNat) ∧
      ∀ m, strBytes m r = ((strBytes m base).drop i.toNat).take (j - i).toNat := by
  unfold StringSliceH strBytes
  rw [if_neg (by omega)]
  by_cases hi : i < base.len
  · rw [if_pos hi]
    exact ⟨_, rfl, rfl, fun _ => advance_nonneg _ _ h.1, fun m => by
      rw [advance_nonneg _ _ h.1, read_drop_take _ _ _ _ _ (by omega)]⟩
  · rw [if_neg hi]
    refine ⟨_, rfl, by simp only; omega, fun hc => absurd hc hi, fun m => ?_⟩
    rw [show (j - i).toNat = 0 by omega, List.take_zero]; rfl

theorem stringSliceH_panic (base : Str) (i j : Int) (h : ¬ (0 ≤ i ∧ i ≤ j ∧ j ≤ base.len)) :
    StringSliceH base i j = .error .panic := by
  unfold StringSliceH
  rw [if_pos (by omega)]

theorem cstrCopy_spec (m : Mem) (dest : Nat) (s : Str) (h0 : 0 ≤ s.len) (h1 : s.len < 2 ^ 63)
    (hno : ¬ overlaps dest s.data s.len.toNat) :
    ∃ m', CStrCopy m dest s = .ok (m', dest) ∧
      m'.read dest (s.len.toNat + 1) = strBytes m s ++ [0] ∧
      (∀ x, ¬ (dest ≤ x ∧ x < dest + s.len.toNat + 1) → m'.bytes x = m.bytes x) ∧ m'.next = m.next := by
  unfold CStrCopy
  simp only
  rw [uintptr_nonneg s.len (by omega), memcpy_ok _ _ _ _ hno, advance_nonneg _ _ h0]
  refine ⟨_, rfl, ?_, fun x hx => ?_, rfl⟩
  · rw [read_add, read_blit_out _ _ _ _ _ (.inl (Nat.le_refl _)), read_memmove]
    congr 1
    exact read_blit _ _ [0]
  · rw [blit_bytes_out _ _ _ _ (by simp; omega), memmove_bytes, if_neg (by omega)]

theorem cstrDup_spec (m : Mem) (s : Str) (hs : SWF m s) :
    ∃ m', CStrDup m s = .ok (m', m.next) ∧
      m'.read m.next (s.len.toNat + 1) = strBytes m s ++ [0] ∧
      (∀ x, x < m.next → m'.bytes x = m.bytes x) ∧ m'.next = m.next + s.len.toNat + 2 := by
  obtain ⟨h0, h1, h2⟩ := hs
  unfold CStrDup
  simp only
  rw [uintptr_nonneg (s.len + 1) (by omega)]
  obtain ⟨m', heq, hrd, hfr, hnx⟩ := cstrCopy_spec (allocU m (s.len + 1).toNat).2 (allocU m (s.len + 1).toNat).1 s h0 h1
    (not_overlaps_above (by rw [allocU_fst]; omega))
  rw [allocU_fst] at heq hrd hfr
  refine ⟨m', heq, hrd, fun x hx => ?_, ?_⟩
  · rw [hfr x (by omega), allocU_bytes]
  · rw [hnx, allocU_next]; omega

theorem strlenFrom_eq (m : Mem) (p : Nat) : ∀ fuel k, strlenFrom m p fuel k =
    if 0 ∈ m.read (p + k) fuel then some (k + ((m.read (p + k) fuel).takeWhile (· != 0)).length) else none := by
  intro fuel
  induction fuel with
  | zero => intro k; rfl
  | succ f ih =>
    intro k
    rw [strlenFrom, read_succ, ih (k + 1), ← Nat.add_assoc]
    by_cases hb : m.bytes (p + k) = 0
    · simp [hb]
    · -- the lengths: `k + 1 + n = k + (n + 1)`
      simp [hb, Ne.symm hb, Nat.add_assoc, Nat.add_comm 1]

theorem strlen_eq (m : Mem) (p : Nat) : strlen m p =
    if 0 ∈ m.read p (m.next - p) then some ((m.read p (m.next - p)).takeWhile (· != 0)).length else none := by
  simpa [strlen] using strlenFrom_eq m p (m.next - p) 0

theorem takeWhile_append_stop {α} (p : α → Bool) (B R : List α) (a : α) (ha : p a = false) :
    (B ++ a :: R).takeWhile p = B.takeWhile p := by
  induction B with
  | nil => simp [ha]
  | cons b B ih => by_cases hb : p b <;> simp [hb, ih]

theorem takeWhile_take {α} (p : α → Bool) (B : List α) :
    (B.takeWhile p).length ≤ B.length ∧ B.takeWhile p = B.take (B.takeWhile p).length :=
  ⟨(List.takeWhile_prefix _).length_le, List.prefix_iff_eq_take.1 (List.takeWhile_prefix _)⟩

theorem takeWhile_eq_self (B : List Nat) : B.takeWhile (· != 0) = B ↔ ∀ x ∈ B, x ≠ 0 := by
  induction B with
  | nil => simp
  | cons b B ih => by_cases hb : b = 0 <;> simp [hb, ih]

theorem strlen_read (m : Mem) (p : Nat) (B : List Nat) (hrd : m.read p (B.length + 1) = B ++ [0])
    (hin : p + B.length < m.next) : strlen m p = some (B.takeWhile (· != 0)).length := by
  obtain ⟨K, hK⟩ : ∃ K, m.next - p = B.length + 1 + K := ⟨m.next - p - (B.length + 1), by omega⟩
  rw [strlen_eq, hK, read_add, hrd, List.append_assoc, List.singleton_append, takeWhile_append_stop _ _ _ _ (by decide), if_pos (by simp)]

theorem stringFromCStr_read (m : Mem) (p : Nat) (B : List Nat) (hp : p ≠ 0) (hB : B.length < 2 ^ 63)
    (hrd : m.read p (B.length + 1) = B ++ [0]) (hin : p + B.length < m.next) :
    ∃ m2 t, StringFromCStr m p = .ok (m2, t) ∧ strBytes m2 t = B.takeWhile (· != 0) ∧
      (t.len ≠ 0 → t.data = m.next) ∧ (∀ x, x < m.next → m2.bytes x = m.bytes x) := by
  have hlen := strlen_read m p B hrd hin
  obtain ⟨f1, f4⟩ := takeWhile_take (· != 0) B
  generalize (B.takeWhile (· != 0)).length = T at f1 f4 hlen
  unfold StringFromCStr
  rw [if_neg hp, hlen]
  simp only
  obtain ⟨m2, t, heq, hl, hbytes, hd, hfr2⟩ := stringFrom_spec m p (T : Int) ⟨by omega, by omega⟩ (by simp; omega)
  refine ⟨m2, t, heq, ?_, fun h => hd (hl ▸ h), hfr2⟩
  rw [hbytes, f4, Int.toNat_natCast, ← read_take m p (B.length + 1) T (by omega), hrd,
    List.take_append_of_le_length (by omega)]

end LlgoVerif.Slice
