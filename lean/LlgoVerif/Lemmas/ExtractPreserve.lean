import LlgoVerif.Lemmas.Extract
import LlgoVerif.Spec.Extract
/-! Lemmas for C20 (preservation): the extraction steps on the real destination follow the archived tree
    (`specStep`) through the embedding `k ↦ dest ++ k`, under the per-entry side conditions `entryOK`. -/
namespace LlgoVerif.Extract
open LlgoVerif.Path

def Rel (d : Key) (fs t : FS) : Prop := DestReady fs d ∧ TreeAt d fs t

theorem treeAt_prefixes (d : Key) : TreeAt d ((prefixesOf d).map fun k => (k, Node.dir)) [] := by
  intro k hk
  apply lookup_none_of_longer
  intro x hx
  obtain ⟨y, hy, rfl⟩ := List.mem_map.1 hx
  have := (mem_prefixesOf.1 hy).1.length_le
  have : 0 < k.length := List.length_pos_iff.2 hk
  simp only [List.length_append]
  omega

theorem Rel.insert {d : Key} {fs t : FS} (h : Rel d fs t) (k : Key) (hk : k ≠ []) (n : Node) :
    Rel d ((d ++ k, n) :: fs) ((k, n) :: t) := by
  refine ⟨?_, ?_⟩
  · intro pre hp hne
    have : pre ≠ d ++ k := fun e => hk (List.eq_nil_of_length_eq_zero (by
      have := hp.length_le; rw [e, List.length_append] at this; omega))
    rw [lookup_cons, if_neg this]
    exact h.1 pre hp hne
  · intro q hq
    rw [lookup_cons, lookup_cons]
    simp
    rw [h.2 q hq]

theorem mkdirFrom_rel (d : Key) (cs : List Comp) : ∀ (fs t : FS) (pre : Key) (t' : FS), Rel d fs t →
    mkdirFrom t pre cs = .ok t' → ∃ fs', mkdirFrom fs (d ++ pre) cs = .ok fs' ∧ Rel d fs' t' := by
  intro fs t pre t' hrel h
  fun_induction mkdirFrom t pre cs generalizing fs with
  | case1 t pre => cases h; exact ⟨fs, rfl, hrel⟩
  | case2 t pre c rest hdir ih =>
    rw [mkdirFrom, List.append_assoc, hrel.2 (pre ++ [c]) (by simp), hdir]
    exact ih fs hrel h
  | case3 => cases h
  | case4 t pre c rest hnone ih =>
    rw [mkdirFrom, List.append_assoc, hrel.2 (pre ++ [c]) (by simp), hnone]
    exact ih _ (hrel.insert (pre ++ [c]) (by simp) .dir) h

theorem mkdirFrom_walk (fs : FS) (cs : List Comp) : ∀ (a : List Comp) (pre : Key),
    (∀ r, r ≠ [] → r <+: a → lookup fs (pre ++ r) = some .dir) →
    mkdirFrom fs pre (a ++ cs) = mkdirFrom fs (pre ++ a) cs := by
  intro a
  induction a with
  | nil => intro pre _; simp
  | cons x xs ih =>
    intro pre h
    simp only [List.cons_append]
    rw [mkdirFrom, h [x] (by simp) (by simp)]
    simp only
    rw [ih (pre ++ [x])]
    · simp
    · intro r hr hp
      have := h (x :: r) (by simp) (by simpa using hp)
      simpa using this

theorem mkdirAll_rel (d k : Key) (fs t t' : FS) (hrel : Rel d fs t) (h : mkdirAll t k = .ok t') :
    ∃ fs', mkdirAll fs (d ++ k) = .ok fs' ∧ Rel d fs' t' := by
  unfold mkdirAll at h ⊢
  rw [mkdirFrom_walk fs k d []]
  · have := mkdirFrom_rel d k fs t [] t' hrel h
    simpa using this
  · intro r hr hp
    simpa using hrel.1 r hp hr

theorem isDir_rel (d k : Key) (fs t : FS) (hrel : Rel d fs t) : isDir fs (d ++ k) = isDir t k := by
  by_cases hk : k = []
  · subst hk
    simp [isDir]
    by_cases hd : d = []
    · simp [hd]
    · right; exact hrel.1 d (List.prefix_refl d) hd
  · have : d ++ k ≠ [] := by simp [hk]
    simp [isDir, hk, this, hrel.2 k hk]

/-- without `O_TRUNC` a file written over a longer one keeps the tail of the longer one: excluded for `data` at `k` -/
def NoStaleTail (t : FS) (k : Key) (data : Bytes) : Prop := (oldData t k).length ≤ data.length

theorem NoStaleTail.of_mkdir {t t1 : FS} {k' k : Key} {data : Bytes} (hm : mkdirAll t k' = .ok t1)
    (h : NoStaleTail t k data) : NoStaleTail t1 k data := by
  unfold NoStaleTail oldData at h ⊢
  rcases mkdirFrom_changes _ t [] t1 hm k with h1 | ⟨_, h1, _⟩
  · rw [h1]; exact h
  · rw [h1]; exact Nat.zero_le _

theorem openWrite_rel (d k : Key) (hk : k ≠ []) (tr : Bool) (data : Bytes) (fs t t' : FS) (hrel : Rel d fs t)
    (hstale : tr = true ∨ NoStaleTail t k data)
    (h : openWrite true t k data = .ok t') :
    ∃ fs', openWrite tr fs (d ++ k) data = .ok fs' ∧ Rel d fs' t' := by
  obtain ⟨_, hdir, hnd, rfl⟩ := openWrite_ok_iff.1 h
  have hold : oldData fs (d ++ k) = oldData t k := by rw [oldData, hrel.2 k hk]; rfl
  -- what was there is not longer than `data` unless the write truncates: both writes leave `data`
  have hc : (if tr = true then data else data ++ (oldData t k).drop data.length) = data := by
    rcases hstale with h1 | h1
    · rw [if_pos h1]
    · rw [List.drop_eq_nil_of_le h1, List.append_nil, ite_self]
  refine ⟨_, openWrite_ok_iff.2 ⟨by simp [hk], ?_, by rw [hrel.2 k hk]; exact hnd, rfl⟩, ?_⟩
  · rw [List.dropLast_append_of_ne_nil hk, isDir_rel d k.dropLast fs t hrel, hdir]
  · rw [hold, hc, if_pos rfl]; exact hrel.insert k hk _

theorem dirsFrom_mkdirFrom (t : FS) (cs : List Comp) : ∀ pre, dirsFrom t pre cs = true → mkdirFrom t pre cs = .ok t := by
  induction cs with
  | nil => intro pre _; rfl
  | cons c rest ih =>
    intro pre h
    simp only [dirsFrom, Bool.and_eq_true, beq_iff_eq] at h
    rw [mkdirFrom, h.1]
    exact ih _ h.2

/-- both switches on: the action `specStep` performs (`specStep_eq`, `tarAct_ideal`) -/
def Act.ideal : Act → Act
  | .write _ _ data => .write true true data
  | a => a

theorem specStep_eq (t : FS) (e : Entry) : specStep t e = perform t (relComps e.name) (tarAct Cfg.fixed e) := by
  unfold specStep tarAct
  cases e.kind <;> rfl

theorem tarAct_ideal (cfg : Cfg) (e : Entry) : (tarAct cfg e).ideal = tarAct Cfg.fixed e := by
  unfold tarAct
  cases e.kind <;> rfl

theorem parents_rel {d k : Key} {fs t t1 : FS} (mk : Bool) (hrel : Rel d fs t) (hm : mkdirAll t k = .ok t1)
    (hmk : mk = true ∨ dirsFrom t [] k = true) :
    ∃ fs1, (if mk then mkdirAll fs (d ++ k) else .ok fs) = .ok fs1 ∧ Rel d fs1 t1 := by
  cases mk with
  | true => exact mkdirAll_rel d k fs t t1 hrel hm
  | false =>
    rw [mkdirAll, dirsFrom_mkdirFrom t k [] (hmk.resolve_left Bool.false_ne_true)] at hm
    cases hm; exact ⟨fs, rfl, hrel⟩

theorem perform_rel {d k : Key} {fs t t' : FS} (a : Act) (hrel : Rel d fs t) (hs : perform t k a.ideal = .ok t')
    (hw : ∀ mk tr data, a = .write mk tr data → k ≠ [] ∧ (mk = true ∨ dirsFrom t [] k.dropLast = true) ∧
      (tr = true ∨ NoStaleTail t k data)) :
    ∃ fs', perform fs (d ++ k) a = .ok fs' ∧ Rel d fs' t' := by
  cases a with
  | skip => cases hs; exact ⟨fs, rfl, hrel⟩
  | mkdir => exact mkdirAll_rel d k fs t t' hrel hs
  | write mk tr data =>
    obtain ⟨hk, hmk, hstale⟩ := hw mk tr data rfl
    simp only [perform, Act.ideal, if_true] at hs ⊢
    rw [List.dropLast_append_of_ne_nil hk]
    split at hs
    · cases hs
    · next t1 hm =>
      obtain ⟨fs1, hm1, hrel1⟩ := parents_rel mk hrel hm hmk
      rw [hm1]
      exact openWrite_rel _ _ hk tr data fs1 t1 t' hrel1 (hstale.imp_right (NoStaleTail.of_mkdir hm)) hs

theorem tarStep_rel (cfg : Cfg) (dest : Str) (habs : dest.head? = some '/') (fs t t' : FS) (e : Entry)
    (hd : comps (clean dest) ≠ []) (hrel : Rel (comps (clean dest)) fs t)
    (hok : entryOK cfg .tgz t e = true) (hs : specStep t e = .ok t') :
    ∃ fs', tarStep cfg dest fs e = .ok fs' ∧ Rel (comps (clean dest)) fs' t' := by
  simp only [entryOK, Bool.and_eq_true, Bool.or_eq_true, decide_eq_true_eq, bne_iff_ne, ne_eq] at hok
  obtain ⟨⟨hloc, hname⟩, hroot, hstale⟩ := hok
  rw [tarStep_eq cfg dest habs, if_pos (guard_pass dest e.name cfg.tarAcceptRoot habs hloc hd hroot),
    comps_join_local dest e.name habs hloc]
  rw [specStep_eq, ← tarAct_ideal cfg] at hs
  refine perform_rel (tarAct cfg e) hrel hs fun mk tr data ha => ?_
  unfold tarAct at ha
  -- only `.reg` gives a `.write`; below, the Boolean `match` of `entryOK` becomes `NoStaleTail`
  cases hkind : e.kind <;> rw [hkind] at ha <;> cases ha
  simp only [hkind, not_true, false_or] at hname hstale
  refine ⟨hname, .inl rfl, hstale.imp_right fun h => ?_⟩
  unfold NoStaleTail oldData
  split <;> simp_all

theorem zipStep_rel (cfg : Cfg) (dest : Str) (habs : dest.head? = some '/') (fs t t' : FS) (e : Entry)
    (hd : comps (clean dest) ≠ []) (hrel : Rel (comps (clean dest)) fs t)
    (hok : entryOK cfg .zip t e = true) (hs : specStep t e = .ok t') :
    ∃ fs', zipStep cfg dest fs e = .ok fs' ∧ Rel (comps (clean dest)) fs' t' := by
  simp only [entryOK, Bool.and_eq_true, Bool.or_eq_true, decide_eq_true_eq, bne_iff_ne, ne_eq,
    beq_iff_eq, Bool.not_eq_true'] at hok
  obtain ⟨⟨hloc, hname⟩, ⟨⟨hkinds, hslash⟩, hroot⟩, hpar⟩ := hok
  -- the guard is off, or it passes
  have hguard : (cfg.zipGuard && !guardOK cfg.zipAcceptRoot dest (join dest e.name)) = false := by
    by_cases hzg : cfg.zipGuard = false
    · rw [hzg]; rfl
    · rw [guard_pass dest e.name cfg.zipAcceptRoot habs hloc hd (hroot.imp_left (·.resolve_right hzg))]
      exact Bool.and_false _
  rw [zipStep_eq cfg dest habs, hguard, if_neg Bool.false_ne_true, comps_join_local dest e.name habs hloc]
  rw [specStep_eq] at hs
  unfold zipAct
  unfold tarAct at hs
  rcases hkinds with hkind | hkind
  · rw [if_pos (by simp [zipIsDir, hkind])]
    rw [hkind] at hs
    exact perform_rel .mkdir hrel hs (fun _ _ _ h => by cases h)
  · have hns : ¬ e.name.getLast? = some '/' := hslash.resolve_left (· hkind)
    rw [if_neg (by simp [zipIsDir, hkind, hns]), show zipData e = e.data by simp [zipData, hkind]]
    rw [hkind] at hs
    refine perform_rel (.write cfg.zipMkParents true e.data) hrel hs fun mk tr data ha => ?_
    cases ha
    exact ⟨hname.resolve_left (· hkind), hpar.imp_left (·.resolve_left (· hkind)), .inl rfl⟩

theorem run_rel (cfg : Cfg) (fmt : Format) (dest : Str) (habs : dest.head? = some '/') (hd : comps (clean dest) ≠ []) :
    ∀ (ar : List Entry) (fs t : FS), Rel (comps (clean dest)) fs t → runOK cfg fmt t ar = true →
    (extract cfg fmt dest fs ar).2 = none ∧ (runSteps specStep t ar).2 = none ∧
    Rel (comps (clean dest)) (extract cfg fmt dest fs ar).1 (runSteps specStep t ar).1 := by
  intro ar fs t hrel hok
  fun_induction runSteps specStep t ar generalizing fs with
  | case1 t => exact ⟨rfl, rfl, hrel⟩
  | case2 t e es t' hs ih =>
    simp only [runOK, hs, Bool.and_eq_true] at hok
    obtain ⟨fs', hst, hrel'⟩ : ∃ fs', step cfg fmt dest fs e = .ok fs' ∧ Rel (comps (clean dest)) fs' t' := by
      cases fmt with
      | tgz => exact tarStep_rel cfg dest habs fs t t' e hd hrel hok.1 hs
      | zip => exact zipStep_rel cfg dest habs fs t t' e hd hrel hok.1 hs
    simpa only [extract, runSteps, hst] using ih fs' hrel' hok.2
  | case3 t e es err hs => simp only [runOK, hs, Bool.and_false] at hok; cases hok

end LlgoVerif.Extract
