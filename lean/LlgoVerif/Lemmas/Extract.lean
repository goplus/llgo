import LlgoVerif.Lemmas.Path
import LlgoVerif.Model.Extract
/-! Lemmas for C20 (confinement): `Frame d fs fs'` = nothing outside `Under d` changed. Both loop bodies are one operation
    `perform fs (comps (join dest name)) act` (`tarStep_eq`, `zipStep_eq`: `rfl` up to `comps_dirOf_join`), so the frame
    is proved once, in `perform_frame`. -/
namespace LlgoVerif.Extract
open LlgoVerif.Path

/-- `q` lies strictly below `d` -/
def Under (d q : Key) : Prop := d <+: q ∧ q ≠ d

/-- the destination and all its ancestors exist as directories -/
def DestReady (fs : FS) (d : Key) : Prop := ∀ pre, pre <+: d → pre ≠ [] → lookup fs pre = some .dir

def Frame (d : Key) (fs fs' : FS) : Prop := ∀ q, ¬ Under d q → lookup fs' q = lookup fs q

theorem Frame.refl (d : Key) (fs : FS) : Frame d fs fs := fun _ _ => rfl

theorem Frame.trans {d : Key} {a b c : FS} (h1 : Frame d a b) (h2 : Frame d b c) : Frame d a c :=
  fun q hq => (h2 q hq).trans (h1 q hq)

theorem DestReady.of_frame {d : Key} {fs fs' : FS} (h : DestReady fs d) (hf : Frame d fs fs') : DestReady fs' d := by
  intro pre hp hne
  rw [hf pre]
  · exact h pre hp hne
  · intro ⟨h1, h2⟩
    exact h2 (hp.eq_of_length (Nat.le_antisymm hp.length_le h1.length_le))

theorem lookup_cons (k : Key) (n : Node) (fs : FS) (q : Key) :
    lookup ((k, n) :: fs) q = if q = k then some n else lookup fs q := rfl

theorem mkdirFrom_changes (cs : List Comp) : ∀ (fs : FS) (pre : Key) (fs' : FS), mkdirFrom fs pre cs = .ok fs' →
    ∀ q, lookup fs' q = lookup fs q ∨
      (lookup fs q = none ∧ lookup fs' q = some .dir ∧ ∃ r, r ≠ [] ∧ r <+: cs ∧ q = pre ++ r) := by
  intro fs pre fs' h q
  fun_induction mkdirFrom fs pre cs with
  | case1 fs pre => cases h; exact .inl rfl
  | case2 fs pre c rest hdir ih =>
    rcases ih h with h1 | ⟨h1, h2, r, hr, hr2, hq⟩
    · exact .inl h1
    · exact .inr ⟨h1, h2, c :: r, by simp, by simpa using hr2, by simp [hq]⟩
  | case3 => cases h
  | case4 fs pre c rest hnone ih =>
    rcases ih h with h1 | ⟨h1, h2, r, hr, hr2, hq⟩
    · by_cases hqk : q = pre ++ [c]
      · subst hqk
        refine .inr ⟨hnone, ?_, [c], by simp, by simp, rfl⟩
        rw [h1, lookup_cons]; simp
      · left; rw [h1, lookup_cons]; simp [hqk]
    · rw [lookup_cons] at h1
      split at h1
      · cases h1
      · exact .inr ⟨h1, h2, c :: r, by simp, by simpa using hr2, by simp [hq]⟩

/-- `hk`: a created directory is a prefix of `k`; not below `d` it is a prefix of `d`, which exists already -/
theorem mkdirAll_frame {d k : Key} {fs fs' : FS} (hr : DestReady fs d) (hk : k <+: d ∨ d <+: k)
    (h : mkdirAll fs k = .ok fs') : Frame d fs fs' := by
  intro q hq
  rcases mkdirFrom_changes k fs [] fs' h q with h1 | ⟨h1, _, r, hr1, hr2, hq2⟩
  · exact h1
  · exfalso
    simp at hq2; subst hq2
    have hqd : q <+: d := by
      rcases hk with hk | hk
      · exact hr2.trans hk
      · rcases List.prefix_or_prefix_of_prefix hr2 hk with h | h
        · exact h
        · by_cases e : q = d
          · rw [e]; exact List.prefix_refl d
          · exact absurd ⟨h, e⟩ hq
    rw [hr q hqd hr1] at h1
    cases h1

def oldData (fs : FS) (k : Key) : Bytes :=
  match lookup fs k with
  | some (.file old) => old
  | _ => []

theorem openWrite_ok_iff {tr : Bool} {fs fs' : FS} {k : Key} {data : Bytes} :
    openWrite tr fs k data = .ok fs' ↔ k ≠ [] ∧ isDir fs k.dropLast = true ∧ lookup fs k ≠ some .dir ∧
      (k, .file (if tr then data else data ++ (oldData fs k).drop data.length)) :: fs = fs' := by
  unfold openWrite oldData
  by_cases hk : k = []
  · rw [if_pos hk]; exact ⟨nofun, fun h => absurd hk h.1⟩
  rw [if_neg hk]
  cases isDir fs k.dropLast with
  | false => rw [Bool.not_false, if_pos rfl]; split <;> exact ⟨nofun, fun h => nomatch h.2.1⟩
  | true =>
    simp only [Bool.not_true, Bool.false_eq_true, if_false, ne_eq, hk, not_false_eq_true, true_and]
    cases lookup fs k with
    | none => cases tr <;> simp
    | some n => cases n <;> simp
theorem openWrite_frame {d k : Key} {tr : Bool} {fs fs' : FS} {data : Bytes} (hr : DestReady fs d)
    (hk : d <+: k) (h : openWrite tr fs k data = .ok fs') : Frame d fs fs' := by
  obtain ⟨hk0, _, hnd, rfl⟩ := openWrite_ok_iff.1 h
  intro q hq
  rw [lookup_cons, if_neg]
  rintro rfl
  exact hq ⟨hk, fun e => hnd (e ▸ hr d (List.prefix_refl d) (e ▸ hk0))⟩

/-- what an extract step does at the target key; the variants differ only in the two switches of `write` -/
inductive Act where
  | skip
  | mkdir
  | write (mkParents trunc : Bool) (data : Bytes)

def perform (fs : FS) (k : Key) : Act → Except Err FS
  | .skip => .ok fs
  | .mkdir => mkdirAll fs k
  | .write mk tr data =>
    match (if mk then mkdirAll fs k.dropLast else .ok fs) with
    | .error err => .error err
    | .ok fs1 => openWrite tr fs1 k data

def tarAct (cfg : Cfg) (e : Entry) : Act :=
  match e.kind with
  | .dir => .mkdir
  | .reg => .write true cfg.tarTrunc e.data
  | _ => .skip

def zipAct (cfg : Cfg) (e : Entry) : Act :=
  if zipIsDir e then .mkdir else .write cfg.zipMkParents true (zipData e)

theorem tarStep_eq (cfg : Cfg) (dest : Str) (habs : dest.head? = some '/') (fs : FS) (e : Entry) :
    tarStep cfg dest fs e =
      if guardOK cfg.tarAcceptRoot dest (join dest e.name) then perform fs (comps (join dest e.name)) (tarAct cfg e)
      else .error .illegalPath := by
  have hp := comps_dirOf_join dest e.name habs
  unfold tarStep tarAct
  dsimp only
  generalize join dest e.name = T at hp ⊢
  cases guardOK cfg.tarAcceptRoot dest T
  · rfl
  · rw [hp]; cases e.kind <;> rfl

theorem zipStep_eq (cfg : Cfg) (dest : Str) (habs : dest.head? = some '/') (fs : FS) (e : Entry) :
    zipStep cfg dest fs e =
      if cfg.zipGuard && !guardOK cfg.zipAcceptRoot dest (join dest e.name) then .error .illegalPath
      else perform fs (comps (join dest e.name)) (zipAct cfg e) := by
  have hp := comps_dirOf_join dest e.name habs
  unfold zipStep zipAct
  dsimp only
  generalize join dest e.name = T at hp ⊢
  rw [hp]
  cases (cfg.zipGuard && !guardOK cfg.zipAcceptRoot dest T)
  · cases zipIsDir e <;> rfl
  · rfl

theorem dropLast_prefix_or {d k : Key} (h : d <+: k) : k.dropLast <+: d ∨ d <+: k.dropLast := by
  obtain ⟨t, rfl⟩ := h
  by_cases ht : t = []
  · subst ht; rw [List.append_nil]; exact .inl (List.dropLast_prefix d)
  · rw [List.dropLast_append_of_ne_nil ht]; exact .inr (List.prefix_append _ _)

theorem parents_frame {d k : Key} {fs fs1 : FS} (mk : Bool) (hr : DestReady fs d) (hk : d <+: k)
    (hm : (if mk then mkdirAll fs k.dropLast else .ok fs) = .ok fs1) : Frame d fs fs1 := by
  cases mk with
  | true => rw [if_pos rfl] at hm; exact mkdirAll_frame hr (dropLast_prefix_or hk) hm
  | false => rw [if_neg Bool.false_ne_true] at hm; cases hm; exact Frame.refl _ _

theorem perform_frame {d k : Key} {fs fs' : FS} (a : Act) (hr : DestReady fs d) (hk : d <+: k)
    (h : perform fs k a = .ok fs') : Frame d fs fs' := by
  cases a with
  | skip => cases h; exact Frame.refl _ _
  | mkdir => exact mkdirAll_frame hr (.inr hk) h
  | write mk tr data =>
    simp only [perform] at h
    split at h
    · cases h
    · next fs1 hm =>
      have f1 := parents_frame mk hr hk hm
      exact f1.trans (openWrite_frame (hr.of_frame f1) hk h)

theorem step_ok (cfg : Cfg) (fmt : Format) (dest : Str) (habs : dest.head? = some '/') (fs fs' : FS) (e : Entry)
    (h : step cfg fmt dest fs e = .ok fs') :
    (∃ a, perform fs (comps (join dest e.name)) a = .ok fs') ∧
    (fmt = .tgz ∨ cfg.zipGuard = true → guardOK true dest (join dest e.name) = true) := by
  cases fmt with
  | tgz =>
    rw [step, tarStep_eq cfg dest habs] at h
    split at h
    · next hg => exact ⟨⟨_, h⟩, fun _ => guardOK_mono hg⟩
    · cases h
  | zip =>
    rw [step, zipStep_eq cfg dest habs] at h
    split at h
    · cases h
    · next hg =>
      refine ⟨⟨_, h⟩, fun hG => guardOK_mono (acc := cfg.zipAcceptRoot) ?_⟩
      simpa [hG.resolve_left Format.noConfusion] using hg

theorem step_frame (cfg : Cfg) (fmt : Format) (dest : Str) (habs : dest.head? = some '/') (fs fs' : FS) (e : Entry)
    (hg : guardOK true dest (join dest e.name) = true) (hr : DestReady fs (comps (clean dest)))
    (h : step cfg fmt dest fs e = .ok fs') : Frame (comps (clean dest)) fs fs' := by
  obtain ⟨⟨a, ha⟩, _⟩ := step_ok cfg fmt dest habs fs fs' e h
  exact perform_frame a hr (guard_prefix habs hg) ha

theorem guarded_step_frame (cfg : Cfg) (fmt : Format) (hG : fmt = .tgz ∨ cfg.zipGuard = true) (dest : Str)
    (habs : dest.head? = some '/') (fs fs' : FS) (e : Entry) (hr : DestReady fs (comps (clean dest)))
    (h : step cfg fmt dest fs e = .ok fs') : Frame (comps (clean dest)) fs fs' :=
  step_frame cfg fmt dest habs fs fs' e ((step_ok cfg fmt dest habs fs fs' e h).2 hG) hr h

theorem runSteps_append (stp : FS → Entry → Except Err FS) (pre rest : List Entry) :
    ∀ fs, (runSteps stp fs pre).2 = none → runSteps stp fs (pre ++ rest) = runSteps stp (runSteps stp fs pre).1 rest := by
  intro fs h
  fun_induction runSteps stp fs pre with
  | case1 fs => rfl
  | case2 fs e es fs1 hs ih => rw [List.cons_append, runSteps, hs]; exact ih h
  | case3 => cases h

theorem runSteps_frame (d : Key) (stp : FS → Entry → Except Err FS) :
    ∀ (ar : List Entry), (∀ fs fs' e, e ∈ ar → DestReady fs d → stp fs e = .ok fs' → Frame d fs fs') →
    ∀ (fs : FS), DestReady fs d → Frame d fs (runSteps stp fs ar).1 := by
  intro ar hstep fs hr
  fun_induction runSteps stp fs ar with
  | case1 fs => exact Frame.refl _ _
  | case2 fs e es fs' hs ih =>
    have f1 := hstep fs fs' e (List.mem_cons_self ..) hr hs
    exact f1.trans (ih (fun a b e' he' => hstep a b e' (List.mem_cons_of_mem _ he')) (hr.of_frame f1))
  | case3 => exact Frame.refl _ _

theorem extract_frame (cfg : Cfg) (fmt : Format) (dest : Str) (habs : dest.head? = some '/') (fs : FS)
    (hr : DestReady fs (comps (clean dest))) (ar : List Entry)
    (h : (fmt = .tgz ∨ cfg.zipGuard = true) ∨ ∀ e ∈ ar, guardOK true dest (join dest e.name) = true) :
    Frame (comps (clean dest)) fs (extract cfg fmt dest fs ar).1 :=
  runSteps_frame _ _ ar (fun fs fs' e he hr hs => step_frame cfg fmt dest habs fs fs' e
    (h.elim (step_ok cfg fmt dest habs fs fs' e hs).2 (· e he)) hr hs) fs hr

/-- the non-empty prefixes of a key -/
def prefixesOf : Key → List Key
  | [] => []
  | c :: cs => [c] :: (prefixesOf cs).map (c :: ·)

theorem mem_prefixesOf {d pre : Key} : pre ∈ prefixesOf d ↔ pre <+: d ∧ pre ≠ [] := by
  induction d generalizing pre with
  | nil => simp [prefixesOf]
  | cons c cs ih =>
    cases pre with
    | nil => simp [prefixesOf]
    | cons x xs =>
      simp only [prefixesOf, List.mem_cons, List.mem_map, ih, List.cons_prefix_cons, List.cons.injEq]
      constructor
      · rintro (⟨rfl, rfl⟩ | ⟨a, ⟨ha, _⟩, rfl, rfl⟩)
        · exact ⟨⟨rfl, List.nil_prefix⟩, nofun⟩
        · exact ⟨⟨rfl, ha⟩, nofun⟩
      · rintro ⟨⟨rfl, h⟩, _⟩
        by_cases hx : xs = []
        · exact .inl ⟨rfl, hx⟩
        · exact .inr ⟨xs, ⟨h, hx⟩, rfl, rfl⟩

theorem lookup_none_of_longer (fs : FS) (q : Key) (h : ∀ x ∈ fs, x.1.length < q.length) : lookup fs q = none := by
  induction fs with
  | nil => rfl
  | cons a as ih =>
    obtain ⟨ak, an⟩ := a
    have : q ≠ ak := by rintro rfl; exact Nat.lt_irrefl _ (h _ (List.mem_cons_self ..))
    rw [lookup_cons, if_neg this]
    exact ih (fun x hx => h x (List.mem_cons_of_mem _ hx))

theorem destReady_prefixes (d : Key) : DestReady ((prefixesOf d).map fun k => (k, Node.dir)) d := by
  intro pre hp hne
  have hmem := mem_prefixesOf.2 ⟨hp, hne⟩
  generalize prefixesOf d = l at hmem
  induction l with
  | nil => cases hmem
  | cons k ks ih =>
    rw [List.map_cons, lookup_cons]
    split
    · rfl
    · next hk => exact ih ((List.mem_cons.1 hmem).resolve_left hk)

def destReadyB (fs : FS) (d : Key) : Bool :=
  (prefixesOf d).all fun pre => lookup fs pre == some .dir

theorem destReady_of_B (fs : FS) (d : Key) (h : destReadyB fs d = true) : DestReady fs d := by
  intro pre hp hne
  unfold destReadyB at h
  rw [List.all_eq_true] at h
  simpa using h pre (mem_prefixesOf.2 ⟨hp, hne⟩)

end LlgoVerif.Extract
