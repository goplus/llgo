import LlgoVerif.Model.HMap
import LlgoVerif.Spec.AssocList
/-!
# Lemmas for C06: chains of cells against the association-list specification

`chainAbs` reads a list of cells as an association list (the filled cells, in order).
-/
namespace LlgoVerif.HMap
open LlgoVerif.AssocList

variable {K V : Type}

/-- a filled cell (`tophash >= minTopHash`); the invariants compare `toNat` with numerals, for `omega`
    (`isEmptyTop_iff`, `evacuatedChain_cons` lead there from the model's constants) -/
def Cell.live (c : Cell K V) : Bool := decide (5 ≤ c.top.toNat)

theorem live_iff {c : Cell K V} : c.live = true ↔ 5 ≤ c.top.toNat := by simp [Cell.live]

def kv (c : Cell K V) : K × V := (c.key, c.val)

def chainAbs (c : List (Cell K V)) : AList K V := (c.filter Cell.live).map kv

@[simp] theorem chainAbs_nil : chainAbs ([] : List (Cell K V)) = [] := rfl

theorem chainAbs_append (a b : List (Cell K V)) : chainAbs (a ++ b) = chainAbs a ++ chainAbs b := by
  simp [chainAbs]

theorem chainAbs_cons_live {x : Cell K V} {c : List (Cell K V)} (h : x.live = true) :
    chainAbs (x :: c) = (x.key, x.val) :: chainAbs c := by
  simp [chainAbs, h, kv]

theorem chainAbs_cons_dead {x : Cell K V} {c : List (Cell K V)} (h : x.live = false) :
    chainAbs (x :: c) = chainAbs c := by
  simp [chainAbs, h]

theorem chainAbs_eq_nil_iff {c : List (Cell K V)} : chainAbs c = [] ↔ ∀ x ∈ c, x.live = false := by
  rw [chainAbs, List.map_eq_nil_iff, List.filter_eq_nil_iff]
  exact forall₂_congr fun _ _ => by rw [Bool.not_eq_true]

theorem mem_chainAbs {c : List (Cell K V)} {p : K × V} (h : p ∈ chainAbs c) :
    ∃ x ∈ c, x.live = true ∧ p = (x.key, x.val) := by
  simp only [chainAbs, List.mem_map, List.mem_filter] at h
  obtain ⟨x, ⟨hx, hl⟩, rfl⟩ := h
  exact ⟨x, hx, hl, rfl⟩

theorem mem_chainAbs_of_mem {c : List (Cell K V)} {x : Cell K V} (hx : x ∈ c) (hl : x.live = true) :
    (x.key, x.val) ∈ chainAbs c :=
  List.mem_map.2 ⟨x, List.mem_filter.2 ⟨hx, hl⟩, rfl⟩

/-! ## tophash marks -/

theorem tophash_toNat_ge (h : UInt64) : 5 ≤ (tophash h).toNat := by
  unfold tophash minTopHash
  generalize (h >>> 56).toUInt8 = t
  have h5 : (5 : UInt8).toNat = 5 := rfl
  simp only
  split
  · rename_i hlt
    rw [UInt8.lt_iff_toNat_lt] at hlt
    rw [UInt8.toNat_add]
    omega
  · rename_i hlt
    rw [UInt8.lt_iff_toNat_lt] at hlt
    omega

theorem live_of_top_eq {x : Cell K V} {h : UInt64} (e : x.top = tophash h) : x.live = true :=
  live_iff.2 (e ▸ tophash_toNat_ge h)

theorem dead_of_lt5 {x : Cell K V} (h : x.top.toNat < 5) : x.live = false :=
  Bool.eq_false_iff.2 fun hl => absurd (live_iff.1 hl) (by omega)

theorem dead_of_emptyRest {x : Cell K V} (e : x.top = emptyRest) : x.live = false :=
  dead_of_lt5 (by rw [e]; decide)

theorem isEmptyTop_iff {t : UInt8} : isEmptyTop t = true ↔ t.toNat ≤ 1 := by
  simp only [isEmptyTop, emptyOne, decide_eq_true_eq, UInt8.le_iff_toNat_le]
  exact Iff.rfl

theorem isEmptyTop_false_iff {t : UInt8} : isEmptyTop t = false ↔ 2 ≤ t.toNat := by
  rw [← Bool.not_eq_true, isEmptyTop_iff]; omega

theorem dead_of_isEmpty {x : Cell K V} (e : isEmptyTop x.top = true) : x.live = false :=
  dead_of_lt5 (by have := isEmptyTop_iff.1 e; omega)

theorem live_of_not_empty {x : Cell K V} (hm : x.top.toNat ≤ 1 ∨ 5 ≤ x.top.toNat) (he : isEmptyTop x.top = false) :
    x.live = true := by
  have := isEmptyTop_false_iff.1 he
  exact live_iff.2 (by omega)

theorem ne_emptyRest_of_not_empty {x : Cell K V} (h : isEmptyTop x.top = false) : x.top ≠ emptyRest := by
  intro e
  rw [e] at h
  cases h

theorem not_empty_of_ge5 {t : UInt8} (h : 5 ≤ t.toNat) : isEmptyTop t = false :=
  isEmptyTop_false_iff.2 (by omega)

/-! ## invariants of one chain -/

/-- emptyRest discipline: no filled cell behind an `emptyRest` cell -/
def RestOK : List (Cell K V) → Prop
  | [] => True
  | c :: cs => (c.top = emptyRest → ∀ x ∈ cs, x.live = false) ∧ RestOK cs

def TopsOK (o : Ops K) (seed : UInt32) (c : List (Cell K V)) : Prop :=
  ∀ x ∈ c, x.live = true → o.eq x.key x.key = true → x.top = tophash (o.hash seed x.key)

/-- what the runtime assumes about hasher and `==` -/
structure HashOK (o : Ops K) : Prop where
  eqok : EqOK o.eq
  hash_eq : ∀ s a b, o.eq a b = true → o.hash s a = o.hash s b

theorem TopsOK.tail {o : Ops K} {s : UInt32} {x : Cell K V} {c : List (Cell K V)} (h : TopsOK o s (x :: c)) :
    TopsOK o s c := fun y hy => h y (by simp [hy])

theorem ne_of_top_ne {o : Ops K} (ho : HashOK o) {s : UInt32} {x : Cell K V} {k : K} {top : UInt8}
    (htk : o.eq k k = true → top = tophash (o.hash s k))
    (ht : x.live = true → o.eq x.key x.key = true → x.top = tophash (o.hash s x.key))
    (hl : x.live = true) (hne : x.top ≠ top) : o.eq k x.key = false := by
  cases hk : o.eq k x.key with
  | false => rfl
  | true =>
    exfalso
    apply hne
    rw [ht hl (ho.eqok.refl_right hk), htk (ho.eqok.refl_left hk), ho.hash_eq s k x.key hk]

/-- a chain consists of whole buckets -/
def Len8 (c : List (Cell K V)) : Prop := c ≠ [] ∧ c.length % 8 = 0

theorem Len8.of_length {c c' : List (Cell K V)} (h : Len8 c) (e : c'.length = c.length) : Len8 c' :=
  ⟨fun e' => h.1 (List.eq_nil_of_length_eq_zero (by rw [← e, e']; rfl)), e ▸ h.2⟩

theorem Len8.one_le {c : List (Cell K V)} (h : Len8 c) : 1 ≤ c.length / 8 := by
  have : c.length ≠ 0 := fun e => h.1 (List.eq_nil_of_length_eq_zero e)
  have := h.2
  omega

/-- no evacuation marks in a chain of the current table -/
def NoMarks (c : List (Cell K V)) : Prop := ∀ x ∈ c, x.top.toNat ≤ 1 ∨ 5 ≤ x.top.toNat

theorem evacuatedChain_cons {x : Cell K V} {r : List (Cell K V)} :
    evacuatedChain (x :: r) = true ↔ 2 ≤ x.top.toNat ∧ x.top.toNat ≤ 4 := by
  simp only [evacuatedChain, emptyOne, minTopHash, Bool.and_eq_true, decide_eq_true_eq, UInt8.lt_iff_toNat_lt, gt_iff_lt]
  have h1 : (1 : UInt8).toNat = 1 := rfl
  have h5 : (5 : UInt8).toNat = 5 := rfl
  omega

theorem evacuatedChain_of_marks {c : List (Cell K V)} (hne : c ≠ []) (hm : ∀ m ∈ c, 2 ≤ m.top.toNat ∧ m.top.toNat ≤ 4) :
    evacuatedChain c = true := by
  cases c with
  | nil => exact absurd rfl hne
  | cons x r => exact evacuatedChain_cons.2 (hm x (by simp))

theorem not_evacuated_of_noMarks {c : List (Cell K V)} (hn : NoMarks c) : evacuatedChain c = false := by
  cases c with
  | nil => rfl
  | cons x r =>
    refine Bool.eq_false_iff.2 fun e => ?_
    have := evacuatedChain_cons.1 e
    have := hn x (by simp)
    omega

theorem restOK_iff {c : List (Cell K V)} : RestOK c ↔ c.Pairwise fun x y => x.top = emptyRest → y.live = false := by
  induction c with
  | nil => exact iff_of_true trivial .nil
  | cons x r ih =>
    rw [RestOK, ih, List.pairwise_cons]
    exact and_congr_left' ⟨fun h y hy e => h e y hy, fun h e y hy => h y hy e⟩

theorem RestOK.of_append {l1 l2 : List (Cell K V)} (h : RestOK (l1 ++ l2)) : RestOK l2 :=
  restOK_iff.2 (List.pairwise_append.1 (restOK_iff.1 h)).2.1

theorem restOK_append_of_ne_emptyRest {l1 l2 : List (Cell K V)} (h1 : ∀ y ∈ l1, y.top ≠ emptyRest) :
    RestOK (l1 ++ l2) ↔ RestOK l2 := by
  rw [restOK_iff, restOK_iff, List.pairwise_append]
  exact ⟨fun h => h.2.1, fun h => ⟨List.pairwise_of_forall_mem_list fun a ha _ _ e => absurd e (h1 a ha), h,
    fun a ha _ _ e => absurd e (h1 a ha)⟩⟩

theorem chainAbs_replicate_dead (n : Nat) (f : Cell K V) (hf : f.live = false) : chainAbs (List.replicate n f) = [] :=
  chainAbs_eq_nil_iff.2 (fun y hy => by rw [List.eq_of_mem_replicate hy]; exact hf)

theorem restOK_replicate_dead (n : Nat) (f : Cell K V) (hf : f.live = false) : RestOK (List.replicate n f) :=
  restOK_iff.2 (List.pairwise_replicate.2 (.inr fun _ => hf))

theorem absent_chainAbs_cons {eq : K → K → Bool} {k : K} {x : Cell K V} {c : List (Cell K V)}
    (hx : x.live = true → eq k x.key = false) (hc : Absent eq k (chainAbs c)) : Absent eq k (chainAbs (x :: c)) := by
  cases hl : x.live with
  | false => rw [chainAbs_cons_dead hl]; exact hc
  | true =>
    rw [chainAbs_cons_live hl]
    intro p hp
    rcases List.mem_cons.1 hp with rfl | hp
    · exact hx hl
    · exact hc p hp

/-! ## the bucket scans -/

/-- the free slot mapassign remembers -/
def SlotSpec (c : List (Cell K V)) (i0 : Nat) : Option Nat → Prop
  | none => ∀ x ∈ c, isEmptyTop x.top = false
  | some i => ∃ l1 x l2, c = l1 ++ x :: l2 ∧ i = i0 + l1.length ∧ isEmptyTop x.top = true ∧
      ∀ y ∈ l1, isEmptyTop y.top = false

theorem SlotSpec.head {x : Cell K V} {c : List (Cell K V)} (i0 : Nat) (he : isEmptyTop x.top = true) :
    SlotSpec (x :: c) i0 (some i0) := ⟨[], x, c, rfl, rfl, he, nofun⟩

theorem SlotSpec.cons {x : Cell K V} {c : List (Cell K V)} {i0 : Nat} {r : Option Nat} (he : isEmptyTop x.top = false)
    (h : SlotSpec c (i0 + 1) r) : SlotSpec (x :: c) i0 r := by
  cases r with
  | none => exact fun y hy => (List.mem_cons.1 hy).elim (fun e => e ▸ he) (h y)
  | some i =>
    obtain ⟨l1, y, l2, rfl, hi, hy, hall⟩ := h
    exact ⟨x :: l1, y, l2, rfl, by rw [hi, List.length_cons]; omega, hy,
      fun z hz => (List.mem_cons.1 hz).elim (fun e => e ▸ he) (hall z)⟩

/-- the bucket loops of mapaccess, mapassign and mapdelete are one scan -/
abbrev ScanCases (eq : K → K → Bool) (top : UInt8) (k : K) (c : List (Cell K V)) : Prop :=
  (Absent eq k (chainAbs c) ∧ lookupChain eq top k c = none ∧ (∀ i0, scanDelete eq top k c i0 = none) ∧
    ∀ i0 ins, ∃ r, scanAssign eq top k c i0 ins = .notFound (ins.or r) ∧ SlotSpec c i0 r) ∨
  ∃ l1 x l2, c = l1 ++ x :: l2 ∧ x.live = true ∧ eq k x.key = true ∧ Absent eq k (chainAbs l1) ∧
    lookupChain eq top k c = some x ∧ (∀ i0, scanDelete eq top k c i0 = some (i0 + l1.length)) ∧
    ∀ i0 ins, scanAssign eq top k c i0 ins = .found (i0 + l1.length)

theorem scan_cases {o : Ops K} (ho : HashOK o) {s : UInt32} {k : K} {hash : UInt64}
    (hp : o.eq k k = true → hash = o.hash s k) {c : List (Cell K V)} (hr : RestOK c) (ht : TopsOK o s c) :
    ScanCases o.eq (tophash hash) k c := by
  generalize htop5 : tophash hash = top
  have h5 : 5 ≤ top.toNat := htop5 ▸ tophash_toNat_ge hash
  have hown : o.eq k k = true → top = tophash (o.hash s k) := fun hr => by rw [← htop5, hp hr]
  induction c with
  | nil =>
    exact .inl ⟨nofun, rfl, fun _ => rfl, fun _ ins => ⟨none, by cases ins <;> rfl, nofun⟩⟩
  | cons x r ih =>
    have ih := ih hr.2 ht.tail
    have step (hk : x.live = true → o.eq k x.key = false)
        (e1 : lookupChain o.eq top k (x :: r) = lookupChain o.eq top k r)
        (e2 : ∀ i0, scanDelete o.eq top k (x :: r) i0 = scanDelete o.eq top k r (i0 + 1))
        (e3 : ∀ i0 ins, scanAssign o.eq top k (x :: r) i0 ins =
          scanAssign o.eq top k r (i0 + 1) (if isEmptyTop x.top then ins.or (some i0) else ins)) :
        ScanCases o.eq top k (x :: r) := by
      rcases ih with ⟨ha, f1, f2, f3⟩ | ⟨l1, y, l2, rfl, hyl, hyk, ha, f1, f2, f3⟩
      · refine .inl ⟨absent_chainAbs_cons hk ha, e1.trans f1, fun i0 => (e2 i0).trans (f2 _), fun i0 ins => ?_⟩
        obtain ⟨r', f, hs⟩ := f3 (i0 + 1) (if isEmptyTop x.top then ins.or (some i0) else ins)
        rw [e3, f]
        cases he : isEmptyTop x.top with
        | false => exact ⟨r', rfl, hs.cons he⟩
        | true => exact ⟨some i0, by cases ins <;> rfl, .head i0 he⟩
      · exact .inr ⟨x :: l1, y, l2, rfl, hyl, hyk, absent_chainAbs_cons hk ha, e1.trans f1,
          fun i0 => by rw [e2, f2, List.length_cons, Nat.add_right_comm, Nat.add_assoc],
          fun i0 ins => by rw [e3, f3, List.length_cons, Nat.add_right_comm, Nat.add_assoc]⟩
    by_cases htop : x.top = top
    · have hl : x.live = true := live_iff.2 (htop ▸ h5)
      cases hk : o.eq k x.key with
      | true =>
        exact .inr ⟨[], x, r, rfl, hl, hk, nofun, by simp [lookupChain, htop, hk],
          fun i0 => by simp [scanDelete, htop, hk], fun i0 ins => by simp [scanAssign, htop, hk]⟩
      | false =>
        exact step (fun _ => hk) (by simp [lookupChain, htop, hk]) (fun i0 => by simp [scanDelete, htop, hk])
          (fun i0 ins => by simp [scanAssign, htop, hk, not_empty_of_ge5 h5])
    · have hne : (x.top != top) = true := by simpa using htop
      by_cases h0 : x.top = emptyRest
      · have hdead : chainAbs (x :: r) = [] := chainAbs_eq_nil_iff.2 (fun y hy =>
          (List.mem_cons.1 hy).elim (fun e => e ▸ dead_of_emptyRest h0) (hr.1 h0 y))
        have he : isEmptyTop x.top = true := by rw [h0]; rfl
        have h0' : (x.top == emptyRest) = true := by simpa using h0
        refine .inl ⟨hdead ▸ nofun, by simp only [lookupChain, hne, h0', ↓reduceIte],
          fun i0 => by simp only [scanDelete, hne, h0', ↓reduceIte], fun i0 ins => ⟨some i0, ?_, .head i0 he⟩⟩
        cases ins <;> simp [scanAssign, hne, h0', he]
      · have h0' : (x.top == emptyRest) = false := by simpa using h0
        refine step (fun hl => ne_of_top_ne ho hown (ht x (by simp)) hl htop)
          (by simp only [lookupChain, hne, h0', ↓reduceIte, Bool.false_eq_true])
          (fun i0 => by simp only [scanDelete, hne, h0', ↓reduceIte, Bool.false_eq_true]) (fun i0 ins => ?_)
        cases ins <;> cases he : isEmptyTop x.top <;> simp [scanAssign, hne, h0', he]

theorem lookupChain_spec {o : Ops K} (ho : HashOK o) {s : UInt32} {k : K} {hash : UInt64}
    (hp : o.eq k k = true → hash = o.hash s k) {c : List (Cell K V)} (hr : RestOK c) (ht : TopsOK o s c) :
    (lookupChain o.eq (tophash hash) k c).map (·.val) = lookup o.eq k (chainAbs c) := by
  rcases scan_cases ho hp hr ht with ⟨ha, e, -, -⟩ | ⟨l1, x, l2, rfl, hl, hk, ha, e, -, -⟩
  · rw [e, lookup_absent ha]; rfl
  · rw [e, chainAbs_append, chainAbs_cons_live hl, lookup_split ha hk]; rfl

/-! ## mapdelete on a chain -/

theorem getElem?_setTop (c : List (Cell K V)) (i j : Nat) (t : UInt8) :
    (setTop c i t)[j]? = if i = j then (c[j]?).map (fun x => { x with top := t }) else c[j]? := by
  unfold setTop
  rw [List.getElem?_modify]
  split
  · simp
  · cases c[j]? <;> simp

theorem modify_split (l1 : List (Cell K V)) (x : Cell K V) (l2 : List (Cell K V)) (f : Cell K V → Cell K V) :
    (l1 ++ x :: l2).modify l1.length f = l1 ++ f x :: l2 := by
  induction l1 with
  | nil => simp
  | cons a r ih => simp [ih]

theorem set_split (l1 : List (Cell K V)) (x y : Cell K V) (l2 : List (Cell K V)) :
    (l1 ++ x :: l2).set l1.length y = l1 ++ y :: l2 := by
  rw [List.set_append_right _ _ (Nat.le_refl _), Nat.sub_self]; rfl

theorem setTop_split (l1 : List (Cell K V)) (x : Cell K V) (l2 : List (Cell K V)) (t : UInt8) :
    setTop (l1 ++ x :: l2) l1.length t = l1 ++ { x with top := t } :: l2 := modify_split ..

theorem setTop_length (c : List (Cell K V)) (i : Nat) (t : UInt8) : (setTop c i t).length = c.length := by
  simp [setTop]

theorem forall_mem_replace {p : Cell K V → Prop} {l1 l2 : List (Cell K V)} {x y : Cell K V}
    (h : ∀ z ∈ l1 ++ x :: l2, p z) (hy : p y) : ∀ z ∈ l1 ++ y :: l2, p z := by
  intro z hz
  rcases List.mem_append.1 hz with hz | hz
  · exact h z (List.mem_append_left _ hz)
  · rcases List.mem_cons.1 hz with rfl | hz
    · exact hy
    · exact h z (List.mem_append_right _ (List.mem_cons_of_mem _ hz))

theorem restOK_replace {l1 l2 : List (Cell K V)} {x x' : Cell K V} (h : RestOK (l1 ++ x :: l2))
    (h0 : x'.top = emptyRest → ∀ y ∈ l2, y.live = false) (hl : x.live = false → x'.live = false) :
    RestOK (l1 ++ x' :: l2) := by
  rw [restOK_iff, List.pairwise_append, List.pairwise_cons] at h ⊢
  exact ⟨h.1, ⟨fun y hy e => h0 e y hy, h.2.1.2⟩, fun a ha =>
    forall_mem_replace (l1 := []) (p := fun b => a.top = emptyRest → b.live = false) (h.2.2 a ha)
      fun e => hl (h.2.2 a ha x (List.mem_cons_self ..) e)⟩

/-- `c'` stands for `A` and fills no cell that `c` lacks, so per-cell facts of `c` carry over (`NewChainOK.of_retop`);
    lengths are not compared -/
structure Retop (c : List (Cell K V)) (A : AList K V) (c' : List (Cell K V)) : Prop where
  rest : RestOK c'
  abs : chainAbs c' = A
  sub : ∀ y ∈ c', y.live = true → y ∈ c
  marks : NoMarks c → NoMarks c'

theorem Retop.trans {a b c : List (Cell K V)} {A : AList K V} (p : Retop a A b) (q : Retop b (chainAbs b) c) :
    Retop a A c :=
  ⟨q.rest, q.abs.trans p.abs, fun y hy hl => p.sub y (q.sub y hy hl) hl, fun hn => q.marks (p.marks hn)⟩

theorem retop_replace {l1 l2 : List (Cell K V)} {x : Cell K V} {t : UInt8} (hr : RestOK (l1 ++ x :: l2))
    (ht : t.toNat ≤ 1) (h0 : t = emptyRest → ∀ y ∈ l2, y.live = false) :
    Retop (l1 ++ x :: l2) (chainAbs l1 ++ chainAbs l2) (l1 ++ { x with top := t } :: l2) := by
  have hx' : ({ x with top := t } : Cell K V).live = false := dead_of_lt5 (show t.toNat < 5 by omega)
  exact ⟨restOK_replace hr h0 fun _ => hx', by rw [chainAbs_append, chainAbs_cons_dead hx'],
    forall_mem_replace (p := fun y => y.live = true → y ∈ l1 ++ x :: l2) (fun _ hy _ => hy)
      (fun hl => by rw [hx'] at hl; cases hl),
    fun hn => forall_mem_replace hn (.inl ht)⟩

theorem retop_setTop {c : List (Cell K V)} {i : Nat} {t : UInt8} (hr : RestOK c) (ht : t.toNat ≤ 1) (hi : i < c.length)
    (hd : ∀ n y, i ≤ n → c[n]? = some y → y.live = false) : Retop c (chainAbs c) (setTop c i t) := by
  obtain ⟨l1, x, l2, rfl, rfl⟩ : ∃ l1 x l2, c = l1 ++ x :: l2 ∧ i = l1.length :=
    ⟨c.take i, c[i], c.drop (i + 1), by rw [← List.drop_eq_getElem_cons hi, List.take_append_drop],
      by rw [List.length_take, Nat.min_eq_left (Nat.le_of_lt hi)]⟩
  have hx : x.live = false := hd l1.length x (Nat.le_refl _) (by simp)
  rw [setTop_split, chainAbs_append, chainAbs_cons_dead hx]
  refine retop_replace hr ht fun _ y hy => ?_
  obtain ⟨n, hn⟩ := List.getElem?_of_mem hy
  refine hd (l1.length + 1 + n) y (by omega) ?_
  rw [List.getElem?_append_right (by omega), show l1.length + 1 + n - l1.length = n + 1 by omega]
  exact hn

/-- the emptyRest back-propagation loop, started at a cell from which on nothing is filled -/
theorem backProp_spec {c : List (Cell K V)} {j : Nat} (hr : RestOK c) (hj : j < c.length)
    (hd : ∀ n y, j ≤ n → c[n]? = some y → y.live = false) : Retop c (chainAbs c) (backProp c j) := by
  have h0 : (emptyRest : UInt8).toNat ≤ 1 := by decide
  fun_induction backProp c j with
  | case1 c => exact retop_setTop hr h0 hj hd
  | case2 c j c' hne => exact retop_setTop hr h0 hj hd
  | case3 c j c' hne ih =>
    have s1 : Retop c (chainAbs c) c' := retop_setTop hr h0 hj hd
    have h1 : topAt c' j = some emptyOne := by simpa using hne
    refine s1.trans (ih s1.rest (by rw [setTop_length]; omega) fun n y hn hy => ?_)
    by_cases hnj : n = j
    · subst hnj
      simp only [topAt, hy, Option.map_some, Option.some.injEq] at h1
      exact dead_of_lt5 (by rw [h1]; decide)
    · rw [getElem?_setTop] at hy
      split at hy
      · obtain ⟨z, -, rfl⟩ := Option.map_eq_some_iff.1 hy
        exact dead_of_emptyRest rfl
      · exact hd n y (by omega) hy

theorem backProp_length (c : List (Cell K V)) (j : Nat) : (backProp c j).length = c.length := by
  fun_induction backProp c j with
  | case1 | case2 => exact setTop_length ..
  | case3 c j c' _ ih => exact ih.trans (setTop_length ..)

theorem deleteAt_length (c : List (Cell K V)) (i : Nat) : (deleteAt c i).length = c.length := by
  fun_cases deleteAt c i with
  | case1 => exact setTop_length ..
  | case2 | case3 => exact (backProp_length ..).trans (setTop_length ..)

theorem deleteAt_spec {l1 l2 : List (Cell K V)} {x : Cell K V} (hr : RestOK (l1 ++ x :: l2)) :
    Retop (l1 ++ x :: l2) (chainAbs l1 ++ chainAbs l2) (deleteAt (l1 ++ x :: l2) l1.length) := by
  have hx' : ({ x with top := emptyOne } : Cell K V).live = false := dead_of_lt5 (show emptyOne.toNat < 5 by decide)
  have s0 : Retop (l1 ++ x :: l2) (chainAbs l1 ++ chainAbs l2) (l1 ++ { x with top := emptyOne } :: l2) :=
    retop_replace hr (show emptyOne.toNat ≤ 1 by decide) (fun e => by cases e)
  -- the back-propagation runs when nothing filled follows the deleted cell
  have key : (∀ y ∈ l2, y.live = false) → Retop (l1 ++ x :: l2) (chainAbs l1 ++ chainAbs l2)
      (backProp (l1 ++ { x with top := emptyOne } :: l2) l1.length) := fun hd2 =>
    s0.trans (backProp_spec s0.rest (by simp) fun n y hn hy => by
      rw [List.getElem?_append_right hn] at hy
      exact (List.mem_cons.1 (List.mem_of_getElem? hy)).elim (fun e => e ▸ hx') (hd2 y))
  have ht : topAt (l1 ++ { x with top := emptyOne } :: l2) (l1.length + 1) = l2.head?.map (·.top) := by
    rw [topAt, List.getElem?_append_right (by omega), Nat.add_sub_cancel_left, List.getElem?_cons_succ, List.head?_eq_getElem?]
  rw [deleteAt, setTop_split, ht]
  cases l2 with
  | nil => exact key nofun
  | cons z l2' =>
    simp only [List.head?_cons, Option.map_some]
    split
    · exact s0
    · rename_i hz
      have hz : z.top = emptyRest := by simpa using hz
      have hr2 : RestOK (z :: l2') := RestOK.of_append (l1 := l1 ++ [x]) (by simpa using hr)
      exact key fun y hy => (List.mem_cons.1 hy).elim (fun e => e ▸ dead_of_emptyRest hz) (hr2.1 hz y)

end LlgoVerif.HMap
