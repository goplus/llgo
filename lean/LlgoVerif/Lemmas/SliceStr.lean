import LlgoVerif.Lemmas.SliceUtf8
import LlgoVerif.Lemmas.ListOrder
namespace LlgoVerif.Slice
open LlgoVerif.Utf8

theorem iterNext_none (s : List Nat) (pos : Nat) (h : s.length ≤ pos) : StringIterNext s pos = none := by
  unfold StringIterNext; rw [if_pos h]

theorem iterNext_some (s : List Nat) (pos : Nat) (h : pos < s.length) :
    StringIterNext s pos = some (pos, (nextRune (s.drop pos)).1, pos + (nextRune (s.drop pos)).2) := by
  unfold StringIterNext
  rw [if_neg (by omega)]
  have hd : s.drop pos = s[pos] :: s.drop (pos + 1) := List.drop_eq_getElem_cons h
  have hg : s.getD pos 0 = s[pos] := by simp [List.getD, h]
  simp only [hg]
  rw [hd, nextRune_cons]
  split <;> rfl

theorem iterFrom_enumerates (s : List Nat) : ∀ fuel pos, s.length - pos ≤ fuel →
    Enumerates pos (s.drop pos) (iterFrom s fuel pos) := by
  intro fuel
  induction fuel with
  | zero =>
    intro pos h
    rw [List.drop_eq_nil_of_le (by omega)]
    exact Enumerates.nil pos
  | succ fuel ih =>
    intro pos h
    by_cases hp : s.length ≤ pos
    · rw [List.drop_eq_nil_of_le hp]
      simp only [iterFrom, iterNext_none s pos hp]
      exact Enumerates.nil pos
    · have hp' : pos < s.length := by omega
      simp only [iterFrom, iterNext_some s pos hp']
      apply Enumerates.cons
      · exact fun hc => hp (List.drop_eq_nil_iff.1 hc)
      · rw [List.drop_drop]
        have := next_width_pos (s.drop pos)
        exact ih _ (by omega)

/-- first conjunct of `iter_spec` (`Props/C05.lean`), stated here for C01's `StrRange.lean`; `Enumerates.spec` gives the rest -/
theorem iter_spec' (s : List Nat) : Enumerates 0 s (iterAll s) := by
  have := iterFrom_enumerates s s.length 0 (by omega)
  simpa [iterAll] using this

theorem Enumerates.unique {off : Nat} {s : List Nat} {l l' : List (Nat × Nat)}
    (h : Enumerates off s l) (h' : Enumerates off s l') : l = l' := by
  induction h generalizing l' with
  | nil off => cases h' with
    | nil => rfl
    | cons _ _ _ hne _ => exact absurd rfl hne
  | cons off s l hne _ ih =>
    cases h' with
    | nil => exact absurd rfl hne
    | cons _ _ l2 _ h2 => rw [ih h2]

theorem enumerates_runes {off : Nat} {s : List Nat} {l : List (Nat × Nat)} (h : Enumerates off s l) :
    ∀ fuel, s.length ≤ fuel → l.map (·.2) = toRunesAux fuel s := by
  induction h with
  | nil off => intro fuel _; cases fuel <;> rfl
  | cons off s l hne _ ih =>
    intro fuel hf
    have := next_width_pos s
    rw [toRunesAux_step hne hf, List.map_cons, ih (fuel - 1) (by simp only [List.length_drop]; omega)]

/-- what `iter_spec` says of the runtime iterator and C01's `range_string_spec` of the reference evaluator holds of whatever
    enumerates `s` -/
theorem Enumerates.spec {s : List Nat} {l : List (Nat × Nat)} (h : Enumerates 0 s l) :
    Enumerates 0 s l ∧ (∀ l', Enumerates 0 s l' → l' = l) ∧ l.map (·.2) = toRunes s :=
  ⟨h, fun _ h' => h'.unique h, enumerates_runes h s.length (Nat.le_refl _)⟩

theorem less_nil_nil : StringLess [] [] = false := by simp [StringLess, lessLoop]
theorem less_nil_cons (b : Nat) (y : List Nat) : StringLess [] (b :: y) = true := by simp [StringLess, lessLoop]
theorem less_cons_nil (a : Nat) (x : List Nat) : StringLess (a :: x) [] = false := by simp [StringLess, lessLoop]
theorem less_cons_cons (a : Nat) (x : List Nat) (b : Nat) (y : List Nat) :
    StringLess (a :: x) (b :: y) = if a < b then true else if b < a then false else StringLess x y := by
  simp only [StringLess, List.zip_cons_cons, lessLoop, List.length_cons, gt_iff_lt]
  by_cases hab : a < b
  · simp [hab]
  · by_cases hba : b < a
    · simp [hab, hba]
    · simp [hab, hba]

theorem less_iff_lt (x y : List Nat) : StringLess x y = true ↔ x < y := by
  rw [ListOrder.eq_decide_lt less_nil_nil less_nil_cons less_cons_nil less_cons_cons, decide_eq_true_eq]

theorem eqLoop_zip : ∀ (x y : List Nat), x.length = y.length → (eqLoop (x.zip y) = true ↔ x = y)
  | [], [], _ => by simp [eqLoop]
  | [], _ :: _, h => by simp at h
  | _ :: _, [], h => by simp at h
  | a :: x, b :: y, h => by
    simp only [List.zip_cons_cons, eqLoop, List.cons.injEq]
    have ih := eqLoop_zip x y (by simpa using h)
    by_cases hab : a = b
    · simp [hab, ih]
    · simp [hab]

theorem u32_of_nonneg (r : Int) (h0 : 0 ≤ r) (h1 : r < 2 ^ 32) : u32 r = r.toNat := by unfold u32; omega
theorem u32_natCast (r : Nat) (h : r < 2 ^ 32) : u32 (r : Int) = r :=
  u32_of_nonneg r (Int.natCast_nonneg r) (Int.ofNat_lt.2 h)

theorem stringFromRune_eq (r : Int) (h : -2 ^ 31 ≤ r ∧ r < 2 ^ 31) :
    StringFromRune r = if 0 ≤ r ∧ validScalar r.toNat then encodeRune r.toNat else [0xEF, 0xBF, 0xBD] := by
  unfold StringFromRune
  by_cases h0 : 0 ≤ r
  · rw [u32_of_nonneg r h0 (by omega)]
    by_cases hv : validScalar r.toNat
    · rw [if_pos ⟨h0, hv⟩]
    · rw [if_neg (by simp [hv])]
      rw [validScalar_iff] at hv
      exact encodeErr _ (by omega)
  · rw [if_neg (by omega)]
    apply encodeErr
    left; unfold u32; omega

theorem stringFromRune_runeError : StringFromRune runeError = [0xEF, 0xBF, 0xBD] := by decide

theorem stringFromInt64_eq (r : Int) :
    StringFromInt64 r = if 0 ≤ r ∧ validScalar r.toNat then encodeRune r.toNat else [0xEF, 0xBF, 0xBD] := by
  unfold StringFromInt64
  have hm : ((maxRune : Nat) : Int) = 1114111 := rfl
  by_cases hr : r < 0 ∨ r > maxRune
  · rw [if_pos hr, stringFromRune_runeError, if_neg]
    rw [validScalar_iff]; omega
  · rw [if_neg hr, stringFromRune_eq r (by omega)]

theorem stringFromUint64_eq (r : Nat) :
    StringFromUint64 r = if validScalar r then encodeRune r else [0xEF, 0xBF, 0xBD] := by
  have h : StringFromUint64 r = StringFromInt64 r := by
    unfold StringFromUint64 StringFromInt64
    by_cases hr : r > maxRune
    · rw [if_pos hr, if_pos (.inr (by omega))]
    · rw [if_neg hr, if_neg (by omega)]
  rw [h, stringFromInt64_eq]
  simp

end LlgoVerif.Slice
