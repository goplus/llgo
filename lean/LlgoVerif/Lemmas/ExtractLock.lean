import LlgoVerif.Model.ExtractLock
/-! Lemmas for C20 (lock protocol): `step` case by case (`Move`), the inductive invariant of the failure-free
    system (`Inv`), the part that survives failures (`GInv`), schedules as reachability witnesses. -/
namespace LlgoVerif.ExtractLock

/-- the inode of the descriptor a process uses for locking -/
def fd : PC → Option Nat
  | .flock i | .stat2 i | .mkTmp i | .write i _ | .renTmp i | .renDst i | .unlock i _ => some i
  | _ => none

/-- past the critical section -/
def late : PC → Bool
  | .unlock _ _ | .unlink _ | .done _ => true
  | _ => false

/-- a process that reports failure -/
def failed : PC → Bool
  | .unlock _ false | .unlink false | .done false => true
  | _ => false

/-- the extraction was started (`mkTmp` executed) and not yet published -/
def began : PC → Bool
  | .write _ _ | .renTmp _ | .renDst _ => true
  | _ => false

/-- what the shared directories must hold while `p` is at `c` -/
def contentOK (K : Nat) (s : State) (p : Nat) : PC → Prop
  | .mkTmp _ => s.ext = none
  | .write _ n => n ≤ K ∧ s.tmp = some (List.replicate (K - n) p) ∧ s.ext = none
  | .renTmp _ => s.tmp = some (List.replicate K p) ∧ s.ext = none
  | .renDst _ => s.ext = some (List.replicate K p) ∧ s.tmp = none
  | _ => True

/-- what the invariant says about one process `q` at `c` -/
structure Local (K : Nat) (s : State) (q : Nat) (c : PC) : Prop where
  lock_holder : ∀ i, holds c i = true → s.locks i = some q
  -- the heart of mutual exclusion: while `dst` is absent every descriptor used for locking is the inode the path names
  early_fd : s.dst = none → ∀ i, fd c = some i → s.lockFile = some i
  early_pc : s.dst = none → late c = false
  no_failure : failed c = false
  dst_quiet : ∀ t, s.dst = some t → extracting c = false
  content : contentOK K s q c
  started_one : began c = true → s.started = 1

/-- invariant of the failure-free system -/
structure Inv (K : Nat) (s : State) : Prop where
  loc : ∀ q, Local K s q (s.pc q)
  lockfile_open : ∀ i, s.lockFile = some i → ∃ p, hasOpened (s.pc p) = true
  dst_complete : ∀ t, s.dst = some t → ∃ w, t = List.replicate K w
  idle_clean : (∀ p, extracting (s.pc p) = false) → s.tmp = none ∧ s.ext = none
  started_dst : ∀ t, s.dst = some t → s.started = 1
  started_zero : s.dst = none → (∀ p, began (s.pc p) = false) → s.started = 0

theorem extracting_fd {c : PC} (h : extracting c = true) : ∃ i, fd c = some i ∧ holds c i = true := by
  cases c <;> cases h <;> exact ⟨_, rfl, beq_self_eq_true _⟩

theorem Inv.dst_none_of_extracting {K : Nat} {s : State} (inv : Inv K s) {p : Nat}
    (hp : extracting (s.pc p) = true) : s.dst = none := by
  cases h : s.dst with
  | none => rfl
  | some t => have := (inv.loc p).dst_quiet t h; rw [hp] at this; cases this

theorem idle_outside {c : PC} (h : idle c = true) : extracting c = false ∧ hasOpened c = false := by
  cases c <;> cases h <;> exact ⟨rfl, rfl⟩

theorem began_extracting {c : PC} (h : began c = true) : extracting c = true := by
  cases c <;> cases h <;> rfl

theorem not_began_of_not_extracting {c : PC} (h : extracting c = false) : began c = false := by
  cases hb : began c with
  | false => rfl
  | true => rw [began_extracting hb] at h; cases h

/-- mutual exclusion: while `dst` is absent, whoever holds the lock on its descriptor is the only process that can be
    inside the extraction -/
theorem Inv.holder_alone (inv : Inv K s) (hd : s.dst = none) (h1 : fd (s.pc p) = some i) (h2 : holds (s.pc p) i = true) :
    ∀ q, q ≠ p → extracting (s.pc q) = false := by
  refine fun q hq => Bool.eq_false_iff.2 fun h => hq ?_
  obtain ⟨j, hj1, hj2⟩ := extracting_fd h
  -- both descriptors are the inode the path names (`early_fd`), and the lock on it has one holder
  cases Option.some.inj (((inv.loc q).early_fd hd j hj1).symm.trans ((inv.loc p).early_fd hd i h1))
  exact Option.some.inj (((inv.loc q).lock_holder i hj2).symm.trans ((inv.loc p).lock_holder i h2))

theorem Inv.alone (inv : Inv K s) (hp : extracting (s.pc p) = true) :
    s.dst = none ∧ ∀ q, q ≠ p → extracting (s.pc q) = false := by
  obtain ⟨i, h1, h2⟩ := extracting_fd hp
  exact ⟨inv.dst_none_of_extracting hp, inv.holder_alone (inv.dst_none_of_extracting hp) h1 h2⟩

theorem Inv.unique {K : Nat} {s : State} (inv : Inv K s) {p q : Nat}
    (hp : extracting (s.pc p) = true) (hq : extracting (s.pc q) = true) : p = q :=
  Decidable.byContradiction fun h => by have := (inv.alone hq).2 p h; rw [hp] at this; cases this

@[simp] theorem setPc_pc_self {s : State} {p : Nat} (c : PC) : (setPc s p c).pc p = c := by simp [setPc]
theorem setPc_pc_ne {s : State} {p : Nat} (c : PC) {q : Nat} (h : q ≠ p) : (setPc s p c).pc q = s.pc q := by
  simp [setPc, h]

inductive Move (K : Nat) (s : State) (p : Nat) : Bool → State → PC → Prop
  | stat1 {f} : s.pc p = .stat1 → Move K s p f s (if s.dst.isSome then .done true else .openLock)
  | openOld {f i} : s.pc p = .openLock → s.lockFile = some i → Move K s p f s (.flock i)
  | openNew {f} : s.pc p = .openLock → s.lockFile = none →
      Move K s p f { s with lockFile := some s.nextIno, nextIno := s.nextIno + 1 } (.flock s.nextIno)
  | flock {f i} : s.pc p = .flock i → s.locks i = none → Move K s p f (setLock s i (some p)) (.stat2 i)
  | stat2 {f i} : s.pc p = .stat2 i → Move K s p f s (if s.dst.isSome then .unlock i true else .mkTmp i)
  | mkTmp {f i} : s.pc p = .mkTmp i → Move K s p f { s with tmp := some [], started := s.started + 1 } (.write i K)
  | written {f i} : s.pc p = .write i 0 → Move K s p f s (.renTmp i)
  | writeFail {i n} : s.pc p = .write i (n + 1) → Move K s p true { s with tmp := none } (.unlock i false)
  | write {i n t} : s.pc p = .write i (n + 1) → s.tmp = some t →
      Move K s p false { s with tmp := some (t ++ [p]) } (.write i n)
  | writeGone {i n} : s.pc p = .write i (n + 1) → s.tmp = none → Move K s p false s (.unlock i false)
  | renTmp {f i t} : s.pc p = .renTmp i → s.tmp = some t → s.ext = none →
      Move K s p f { s with tmp := none, ext := some t } (.renDst i)
  | renTmpFail {f i} : s.pc p = .renTmp i → (∀ t, s.tmp = some t → s.ext ≠ none) →
      Move K s p f { s with tmp := none } (.unlock i false)
  | renDst {f i t} : s.pc p = .renDst i → s.ext = some t → s.dst = none →
      Move K s p f { s with ext := none, dst := some t } (.unlock i true)
  | renDstFail {f i} : s.pc p = .renDst i → (∀ t, s.ext = some t → s.dst ≠ none) →
      Move K s p f { s with ext := none } (.unlock i false)
  | unlock {f i ok} : s.pc p = .unlock i ok → Move K s p f (setLock s i none) (.unlink ok)
  | unlink {f ok} : s.pc p = .unlink ok → Move K s p f { s with lockFile := none } (.done ok)

theorem step_move {K : Nat} {s s' : State} {p : Nat} {f : Bool} (h : step K s p f = some s') :
    ∃ s1 c, Move K s p f s1 c ∧ s' = setPc s1 p c := by
  revert h
  fun_cases step K s p f <;> intro h <;> cases h
  next hpc => exact ⟨_, _, .stat1 hpc, rfl⟩
  next hpc i hl => exact ⟨_, _, .openOld hpc hl, rfl⟩
  next hpc hl => exact ⟨_, _, .openNew hpc hl, rfl⟩
  next i hpc hfree => exact ⟨_, _, .flock hpc hfree, rfl⟩
  next i hpc => exact ⟨_, _, .stat2 hpc, rfl⟩
  next i hpc => exact ⟨_, _, .mkTmp hpc, rfl⟩
  next i hpc => exact ⟨_, _, .written hpc, rfl⟩
  next i n hpc hf => subst hf; exact ⟨_, _, .writeFail hpc, rfl⟩
  next i n hpc hf t ht => rw [Bool.not_eq_true] at hf; subst hf; exact ⟨_, _, .write hpc ht, rfl⟩
  next i n hpc hf ht => rw [Bool.not_eq_true] at hf; subst hf; exact ⟨_, _, .writeGone hpc ht, rfl⟩
  next i hpc t he ht => exact ⟨_, _, .renTmp hpc ht he, rfl⟩
  next i hpc hno => exact ⟨_, _, .renTmpFail hpc hno, rfl⟩
  next i hpc t hd he => exact ⟨_, _, .renDst hpc he hd, rfl⟩
  next i hpc hno => exact ⟨_, _, .renDstFail hpc hno, rfl⟩
  next i ok hpc => exact ⟨_, _, .unlock hpc, rfl⟩
  next ok hpc => exact ⟨_, _, .unlink hpc, rfl⟩

section
variable {K : Nat} {s s1 : State} {p : Nat} {f : Bool} {c : PC}

theorem Move.pc_eq (m : Move K s p f s1 c) : s1.pc = s.pc := by cases m <;> rfl

theorem Move.locks (m : Move K s p f s1 c) :
    (s1.locks = s.locks ∧ ∀ j, holds c j = holds (s.pc p) j) ∨
    (∃ i, s.pc p = .flock i ∧ c = .stat2 i ∧ s.locks i = none ∧ s1.locks = (setLock s i (some p)).locks) ∨
    (∃ i ok, s.pc p = .unlock i ok ∧ c = .unlink ok ∧ s1.locks = (setLock s i none).locks) := by
  cases m
  case flock i hpc hfree => exact .inr (.inl ⟨i, hpc, rfl, hfree, rfl⟩)
  case unlock i ok hpc => exact .inr (.inr ⟨i, ok, hpc, rfl, rfl⟩)
  -- the other moves: source and target point carry the same inode, or both lie outside `holds`
  all_goals
    refine .inl ⟨rfl, fun j => ?_⟩
    simp only [*]
    try split
    all_goals rfl

theorem Move.lockFile (m : Move K s p f s1 c) :
    s1.lockFile = none ∨ hasOpened c = true ∨ (s1.lockFile = s.lockFile ∧ hasOpened (s.pc p) = false) := by
  cases m
  case stat1 hpc => exact .inr (.inr ⟨rfl, by rw [hpc]; rfl⟩)
  case unlink => exact .inl rfl
  case stat2 => right; left; split <;> rfl
  all_goals exact .inr (.inl rfl)

end

/-! ### what survives failures: the `flock` itself is exclusive per inode, the lock file is cleaned up -/

structure GInv (s : State) : Prop where
  holder : ∀ i q, s.locks i = some q ↔ holds (s.pc q) i = true
  lockfile_open : ∀ i, s.lockFile = some i → ∃ p, hasOpened (s.pc p) = true

theorem ginv_init : GInv init := by
  constructor <;> simp [init, holds]

/-- `p` moves to `c` and takes or drops the lock on `i0` alone, which was free or its own -/
theorem holder_setLock {s : State} {p i0 : Nat} {c : PC} {v : Option Nat}
    (g : ∀ i q, s.locks i = some q ↔ holds (s.pc q) i = true)
    (hc : ∀ i, i ≠ i0 → holds c i = holds (s.pc p) i) (hv : v = if holds c i0 then some p else none)
    (hown : ∀ q, s.locks i0 = some q → q = p) (i q : Nat) :
    (setLock s i0 v).locks i = some q ↔ holds (if q = p then c else s.pc q) i = true := by
  show (if i = i0 then v else s.locks i) = some q ↔ _
  by_cases hi : i = i0 <;> by_cases e : q = p <;> simp only [hi, e, if_true, if_false]
  · rw [hv]; cases holds c i0 <;> simp
  · rw [← g, hv]
    have := mt (hown q) e
    cases holds c i0 <;> simp [this, Ne.symm e]
  · rw [hc i hi]; exact g i p
  · exact g i q

theorem ginv_move {K : Nat} {s s1 : State} {p : Nat} {f : Bool} {c : PC} (g : GInv s) (m : Move K s p f s1 c) :
    GInv (setPc s1 p c) := by
  refine ⟨fun i q => ?_, fun i hi => ?_⟩
  · show s1.locks i = some q ↔ holds (if q = p then c else s1.pc q) i = true
    rw [m.pc_eq]
    rcases m.locks with ⟨hl, hh⟩ | ⟨i0, hpc, rfl, hfree, hl⟩ | ⟨i0, ok, hpc, rfl, hl⟩ <;> rw [hl]
    · by_cases e : q = p
      · rw [e, if_pos rfl, hh]; exact g.holder i p
      · rw [if_neg e]; exact g.holder i q
    · exact holder_setLock g.holder (fun j hj => by rw [hpc]; simp [holds, Ne.symm hj]) (by simp [holds])
        (fun q hq => by rw [hfree] at hq; cases hq) i q
    · have own := (g.holder i0 p).2 (by rw [hpc]; simp [holds])
      exact holder_setLock g.holder (fun j hj => by rw [hpc]; simp [holds, Ne.symm hj]) (by simp [holds])
        (fun q hq => by rw [own] at hq; cases hq; rfl) i q
  · replace hi : s1.lockFile = some i := hi
    rcases m.lockFile with ho | ho | ⟨ho1, ho2⟩
    · rw [ho] at hi; cases hi
    · exact ⟨p, by rw [setPc_pc_self]; exact ho⟩
    · obtain ⟨q, hq⟩ := g.lockfile_open i (by rw [← ho1]; exact hi)
      exact ⟨q, by rw [setPc_pc_ne _ (by rintro rfl; rw [ho2] at hq; cases hq), m.pc_eq]; exact hq⟩

theorem ginv_reach {K : Nat} {b : Bool} {s : State} (h : Reach K b s) : GInv s := by
  induction h with
  | init => exact ginv_init
  | step p fail _ _ hs ih =>
    obtain ⟨s1, c, m, rfl⟩ := step_move hs
    exact ginv_move ih m

theorem reach_of_run {K : Nat} : ∀ (sched : List (Nat × Bool)) (s s' : State), Reach K true s →
    runSched K s sched = some s' → Reach K true s' := by
  intro sched s s' hr h
  fun_induction runSched K s sched with
  | case1 s => cases h; exact hr
  | case2 s p f rest s1 hs ih => exact ih (Reach.step p f hr (fun _ => rfl) hs) h
  | case3 => cases h

/-- `State` holds functions, so `runSched … = some s` cannot be decided: the run is compared through an observation
    with decidable equality -/
theorem reach_of_run_obs {K : Nat} {α : Type} (obs : State → α) (sched : List (Nat × Bool)) (a : α)
    (h : (runSched K init sched).map obs = some a) : ∃ s, Reach K true s ∧ obs s = a := by
  cases hs : runSched K init sched with
  | none => rw [hs] at h; cases h
  | some s => rw [hs] at h; exact ⟨s, reach_of_run _ _ _ Reach.init hs, Option.some.inj h⟩

/-- every program counter except a blocked `flock` and `done` can always move -/
theorem step_enabled {K : Nat} {s : State} {p : Nat} (f : Bool)
    (h1 : ∀ ok, s.pc p ≠ .done ok) (h2 : ∀ i, s.pc p = .flock i → s.locks i = none) :
    ∃ s', step K s p f = some s' := by
  fun_cases step K s p f
  case case5 i hpc hl => exact absurd (h2 i hpc) hl
  case case18 ok hpc => exact absurd hpc (h1 ok)
  all_goals exact ⟨_, rfl⟩

/-- `p` moves unless it is blocked in `flock`; then the holder (`GInv.holder`) is neither `done` nor blocked and moves -/
theorem progress {K : Nat} {b : Bool} {s : State} (hr : Reach K b s) (p : Nat) (hp : ∀ ok, s.pc p ≠ .done ok) :
    ∃ q s', (∀ ok, s.pc q ≠ .done ok) ∧ step K s q false = some s' := by
  by_cases hfl : ∃ i, s.pc p = .flock i ∧ s.locks i ≠ none
  · obtain ⟨i, hpi, hli⟩ := hfl
    obtain ⟨q, hq⟩ := Option.ne_none_iff_exists'.1 hli
    have hh := ((ginv_reach hr).holder i q).1 hq
    have hq1 : ∀ ok, s.pc q ≠ .done ok := by
      intro ok e; rw [e] at hh; cases hh
    have hq2 : ∀ j, s.pc q = .flock j → s.locks j = none := by
      intro j e; rw [e] at hh; cases hh
    obtain ⟨s', hs'⟩ := step_enabled (K := K) false hq1 hq2
    exact ⟨q, s', hq1, hs'⟩
  · have h2 : ∀ i, s.pc p = .flock i → s.locks i = none := by
      intro i e
      cases hl : s.locks i with
      | none => rfl
      | some q => exact absurd ⟨i, e, by rw [hl]; simp⟩ hfl
    obtain ⟨s', hs'⟩ := step_enabled (K := K) false hp h2
    exact ⟨p, s', hp, hs'⟩

theorem contentOK_congr {K : Nat} {s s' : State} {q : Nat} {c : PC} (h4 : s'.ext = s.ext) (h5 : s'.tmp = s.tmp)
    (h : contentOK K s q c) : contentOK K s' q c := by
  revert h; cases c <;> simp [contentOK, h4, h5]

theorem contentOK_idle {K : Nat} {s : State} {q : Nat} {c : PC} (hc : extracting c = false) :
    contentOK K s q c := by
  cases c <;> cases hc <;> trivial

/-- a non-extracting process has no obligations about the directories -/
theorem Local.of_idle {K : Nat} {s : State} {q : Nat} {c : PC} (hc : extracting c = false)
    (lock_holder : ∀ i, holds c i = true → s.locks i = some q)
    (early_fd : s.dst = none → ∀ i, fd c = some i → s.lockFile = some i) (early_pc : s.dst = none → late c = false)
    (no_failure : failed c = false) : Local K s q c :=
  ⟨lock_holder, early_fd, early_pc, no_failure, fun _ _ => hc, contentOK_idle hc,
    fun hb => by rw [not_began_of_not_extracting hc] at hb; cases hb⟩

/-- what another process's step must respect for `q`'s clause to survive: `q`'s locks stay; the lock file changes only while
    nobody relies on it (unchanged; created by `openNew`; unlinked once `dst` exists); `dst` does not disappear; the directories
    are left alone while `q` extracts -/
theorem Local.frame {K : Nat} {s s' : State} {q : Nat} {c : PC} (h : Local K s q c)
    (hl : ∀ i, holds c i = true → s'.locks i = some q)
    (hlf : s'.lockFile = s.lockFile ∨ s.lockFile = none ∨ s.dst ≠ none) (hdst : s'.dst = none → s.dst = none)
    (hdirs : extracting c = true → s'.dst = s.dst ∧ s'.ext = s.ext ∧ s'.tmp = s.tmp ∧ s'.started = s.started) :
    Local K s' q c := by
  have hfd : s'.dst = none → ∀ i, fd c = some i → s'.lockFile = some i := fun hd i hi => by
    have := h.early_fd (hdst hd) i hi
    rcases hlf with e | e | e
    · rw [e]; exact this
    · rw [e] at this; cases this
    · exact absurd (hdst hd) e
  cases he : extracting c with
  | false => exact .of_idle he hl hfd (fun hd => h.early_pc (hdst hd)) h.no_failure
  | true =>
    obtain ⟨h3, h4, h5, h6⟩ := hdirs he
    exact ⟨hl, hfd, fun hd => h.early_pc (hdst hd), h.no_failure, fun t ht => h.dst_quiet t (h3 ▸ ht),
      contentOK_congr h4 h5 h.content, fun hb => h6 ▸ h.started_one hb⟩

theorem forall_pc {s : State} {p : Nat} (f : PC → Bool) (hp : f (s.pc p) = false)
    (ho : ∀ q, q ≠ p → f (s.pc q) = false) (q : Nat) : f (s.pc q) = false := by
  by_cases h : q = p
  · rw [h]; exact hp
  · exact ho q h

theorem extracting_mid {c : PC} (h : extracting c = true) : late c = false ∧ failed c = false := by
  cases c <;> cases h <;> exact ⟨rfl, rfl⟩

section preserve
variable {K : Nat} {s s' : State} {p : Nat} {c0 c : PC}

/-- the template of every move: the others' clauses by `Local.frame`, the lock clauses from `GInv`; `p`'s own clause and
    the global ones are the caller's -/
theorem Inv.of_ginv_at (inv : Inv K s) (g : GInv s') (hpc' : s'.pc p = c) (hoth : ∀ q, q ≠ p → s'.pc q = s.pc q)
    (hlf : s'.lockFile = s.lockFile ∨ s.lockFile = none ∨ s.dst ≠ none) (hdst : s'.dst = none → s.dst = none)
    (hdirs : ∀ q, q ≠ p → extracting (s.pc q) = true →
      s'.dst = s.dst ∧ s'.ext = s.ext ∧ s'.tmp = s.tmp ∧ s'.started = s.started)
    (locp : (∀ i, holds c i = true → s'.locks i = some p) → Local K s' p c)
    (dst_complete : ∀ t, s'.dst = some t → ∃ w, t = List.replicate K w)
    (idle_clean : (∀ p, extracting (s'.pc p) = false) → s'.tmp = none ∧ s'.ext = none)
    (started_dst : ∀ t, s'.dst = some t → s'.started = 1)
    (started_zero : s'.dst = none → (∀ p, began (s'.pc p) = false) → s'.started = 0) : Inv K s' := by
  refine ⟨fun q => ?_, g.lockfile_open, dst_complete, idle_clean, started_dst, started_zero⟩
  have hl : ∀ i, holds (s'.pc q) i = true → s'.locks i = some q := fun i => (g.holder i q).2
  by_cases hq : q = p
  · rw [hq, hpc'] at hl ⊢; exact locp hl
  · rw [hoth q hq] at hl ⊢; exact (inv.loc q).frame hl hlf hdst (hdirs q hq)

theorem Inv.quiet (inv : Inv K s) (g' : GInv s') (hpc : s.pc p = c0) (hpc' : s'.pc p = c)
    (hoth : ∀ q, q ≠ p → s'.pc q = s.pc q)
    (hdirs : s'.dst = s.dst ∧ s'.ext = s.ext ∧ s'.tmp = s.tmp ∧ s'.started = s.started)
    (hout : extracting c0 = false ∧ extracting c = false)
    (hlf : s'.lockFile = s.lockFile ∨ s.lockFile = none ∨ s.dst ≠ none)
    (hfd : s.dst = none → ∀ i, fd c = some i → s'.lockFile = some i)
    (hlate : s.dst = none → late c = false) (hfail : failed c = false) : Inv K s' := by
  obtain ⟨h3, h4, h5, h6⟩ := hdirs
  obtain ⟨he0, he⟩ := hout
  have before : ∀ (f : PC → Bool), f c0 = false → (∀ q, f (s'.pc q) = false) → ∀ q, f (s.pc q) = false :=
    fun f h0 h => forall_pc f (hpc ▸ h0) fun q hq => hoth q hq ▸ h q
  refine inv.of_ginv_at g' hpc' hoth hlf (h3 ▸ ·) (fun _ _ _ => ⟨h3, h4, h5, h6⟩)
    (fun hl => .of_idle he hl (fun hd => hfd (h3 ▸ hd)) (fun hd => hlate (h3 ▸ hd)) hfail) ?_ ?_ ?_ ?_
  · intro t ht; exact inv.dst_complete t (h3 ▸ ht)
  · intro h
    rw [h4, h5]; exact inv.idle_clean (before extracting he0 h)
  · intro t ht; rw [h6]; exact inv.started_dst t (h3 ▸ ht)
  · intro hd h
    rw [h6]; exact inv.started_zero (h3 ▸ hd) (before began (not_began_of_not_extracting he0) h)

/-- `p` holds the lock the path names (`halone`: so nobody else is extracting) and moves to a point of the extraction -/
theorem Inv.during (inv : Inv K s) (g' : GInv s') (hpc : s.pc p = c0) (hpc' : s'.pc p = c)
    (hoth : ∀ q, q ≠ p → s'.pc q = s.pc q)
    (halone : s.dst = none ∧ ∀ q, q ≠ p → extracting (s.pc q) = false)
    (hsame : s'.lockFile = s.lockFile ∧ s'.dst = s.dst)
    (hin : extracting c = true ∧ fd c = fd c0)
    (hcont : contentOK K s' p c) (hst : s'.started = if began c then 1 else 0) : Inv K s' := by
  obtain ⟨hd, hidle⟩ := halone
  obtain ⟨h2, h3⟩ := hsame
  obtain ⟨he, hfd⟩ := hin
  have hp := inv.loc p
  rw [hpc] at hp
  have hd' : s'.dst = none := h3 ▸ hd
  refine inv.of_ginv_at g' hpc' hoth (.inl h2) (h3 ▸ ·) (fun q hq h => by rw [hidle q hq] at h; cases h)
    (fun hl => ?_) ?_ ?_ ?_ ?_
  · exact ⟨hl, fun _ i hi => h2 ▸ hp.early_fd hd i (hfd ▸ hi), fun _ => (extracting_mid he).1, (extracting_mid he).2,
      fun t ht => (by rw [hd'] at ht; cases ht), hcont, fun hb => by rw [hst, if_pos hb]⟩
  · intro t ht; rw [hd'] at ht; cases ht
  · intro h; have := h p; rw [hpc', he] at this; cases this
  · intro t ht; rw [hd'] at ht; cases ht
  · intro _ h; have := h p; rw [hpc'] at this; rw [hst, this]; rfl

theorem inv_move {s1 : State} (inv : Inv K s) (g : GInv s) (m : Move K s p false s1 c) :
    Inv K (setPc s1 p c) := by
  have g' := ginv_move g m
  have hoth : ∀ q, q ≠ p → (setPc s1 p c).pc q = s.pc q := fun q hq => by rw [setPc_pc_ne _ hq, m.pc_eq]
  have hp := inv.loc p
  cases m with
  | stat1 hpc =>
    refine inv.quiet g' hpc (setPc_pc_self _) hoth ⟨rfl, rfl, rfl, rfl⟩ ⟨rfl, ?_⟩ (.inl rfl) ?_ ?_ ?_
    · split <;> rfl
    · intro _ i h; split at h <;> cases h
    · intro hd; rw [hd]; rfl
    · split <;> rfl
  | openOld hpc hl =>
    exact inv.quiet g' hpc (setPc_pc_self _) hoth ⟨rfl, rfl, rfl, rfl⟩ ⟨rfl, rfl⟩ (.inl rfl)
      (fun _ j h => by cases h; exact hl) (fun _ => rfl) rfl
  | openNew hpc hl =>
    exact inv.quiet g' hpc (setPc_pc_self _) hoth ⟨rfl, rfl, rfl, rfl⟩ ⟨rfl, rfl⟩ (.inr (.inl hl))
      (fun _ j h => by cases h; rfl) (fun _ => rfl) rfl
  | flock hpc hfree =>
    rw [hpc] at hp
    exact inv.quiet g' hpc (setPc_pc_self _) hoth ⟨rfl, rfl, rfl, rfl⟩ ⟨rfl, rfl⟩ (.inl rfl) hp.early_fd (fun _ => rfl) rfl
  | @stat2 _ i hpc =>
    rw [hpc] at hp
    cases hd : s.dst with
    | some t =>
      simp only [hd, Option.isSome_some, if_true] at g' hoth ⊢
      exact inv.quiet g' hpc (setPc_pc_self _) hoth ⟨rfl, rfl, rfl, rfl⟩ ⟨rfl, rfl⟩ (.inl rfl)
        (fun h => by rw [hd] at h; cases h) (fun h => by rw [hd] at h; cases h) rfl
    | none =>
      simp only [hd, Option.isSome_none, Bool.false_eq_true, if_false] at g' hoth ⊢
      -- `p` holds the lock the path names: nobody is extracting, the temporary directories are gone
      have hidle := inv.holder_alone hd (p := p) (by rw [hpc]; rfl) (by rw [hpc]; simp [holds])
      have hnone := forall_pc extracting (by rw [hpc]; rfl) hidle
      exact inv.during g' hpc (setPc_pc_self _) hoth ⟨hd, hidle⟩ ⟨rfl, rfl⟩ ⟨rfl, rfl⟩
        (inv.idle_clean hnone).2 (inv.started_zero hd fun q => not_began_of_not_extracting (hnone q))
  | mkTmp hpc =>
    rw [hpc] at hp
    have hal := inv.alone (p := p) (by rw [hpc]; rfl)
    have hst : s.started = 0 := inv.started_zero hal.1
      (forall_pc began (by rw [hpc]; rfl) fun q hq => not_began_of_not_extracting (hal.2 q hq))
    exact inv.during g' hpc (setPc_pc_self _) hoth hal ⟨rfl, rfl⟩ ⟨rfl, rfl⟩
      ⟨Nat.le_refl K, by simp [setPc], hp.content⟩ (by simp [setPc, hst, began])
  | written hpc =>
    rw [hpc] at hp
    exact inv.during g' hpc (setPc_pc_self _) hoth (inv.alone (by rw [hpc]; rfl)) ⟨rfl, rfl⟩ ⟨rfl, rfl⟩
      ⟨hp.content.2.1, hp.content.2.2⟩ (hp.started_one rfl)
  | @write _ n t hpc ht =>
    rw [hpc] at hp
    obtain ⟨hn, htmp, hext⟩ := hp.content
    rw [ht] at htmp; cases htmp
    refine inv.during g' hpc (setPc_pc_self _) hoth (inv.alone (by rw [hpc]; rfl)) ⟨rfl, rfl⟩ ⟨rfl, rfl⟩
      ⟨by omega, ?_, hext⟩ (hp.started_one rfl)
    have : K - n = (K - (n + 1)) + 1 := by omega
    simp only [setPc, this, List.replicate_succ']
  | writeGone hpc ht => rw [hpc] at hp; rw [hp.content.2.1] at ht; cases ht
  | renTmp hpc ht he =>
    rw [hpc] at hp
    rw [hp.content.1] at ht; cases ht
    exact inv.during g' hpc (setPc_pc_self _) hoth (inv.alone (by rw [hpc]; rfl)) ⟨rfl, rfl⟩ ⟨rfl, rfl⟩ ⟨rfl, rfl⟩
      (hp.started_one rfl)
  | renTmpFail hpc hno => rw [hpc] at hp; exact absurd hp.content.2 (hno _ hp.content.1)
  | renDstFail hpc hno =>
    rw [hpc] at hp
    exact absurd (inv.dst_none_of_extracting (by rw [hpc]; rfl)) (hno _ hp.content.1)
  | renDst hpc he hd =>
    rw [hpc] at hp
    have hidle := (inv.alone (p := p) (by rw [hpc]; rfl)).2
    obtain ⟨hext, htmp⟩ := hp.content
    rw [he] at hext; cases hext
    refine inv.of_ginv_at g' (setPc_pc_self _) hoth (.inl rfl) (fun h => by cases h)
      (fun q hq h => by rw [hidle q hq] at h; cases h)
      (fun hl => .of_idle rfl hl (fun h => by cases h) (fun h => by cases h) rfl) ?_ ?_ ?_ ?_
    · intro t h; cases h; exact ⟨p, rfl⟩
    · intro _; exact ⟨htmp, rfl⟩
    · intro _ _; exact hp.started_one rfl
    · intro h; cases h
  | @unlock _ i ok hpc =>
    rw [hpc] at hp
    exact inv.quiet g' hpc (setPc_pc_self _) hoth ⟨rfl, rfl, rfl, rfl⟩ ⟨rfl, rfl⟩ (.inl rfl) (fun _ j h => by cases h)
      (fun hd => by cases hp.early_pc hd) (by have := hp.no_failure; cases ok; exact this; rfl)
  | @unlink _ ok hpc =>
    rw [hpc] at hp
    exact inv.quiet g' hpc (setPc_pc_self _) hoth ⟨rfl, rfl, rfl, rfl⟩ ⟨rfl, rfl⟩
      (.inr (.inr (fun hd => by cases hp.early_pc hd))) (fun _ j h => by cases h)
      (fun hd => by cases hp.early_pc hd) (by have := hp.no_failure; cases ok; exact this; rfl)

end preserve

theorem inv_init (K : Nat) : Inv K init where
  loc _ :=
    { lock_holder := fun _ h => by cases h
      early_fd := fun _ _ h => by cases h
      early_pc := fun _ => rfl
      no_failure := rfl
      dst_quiet := fun _ h => by cases h
      content := trivial
      started_one := fun h => by cases h }
  lockfile_open _ h := by cases h
  dst_complete _ h := by cases h
  idle_clean _ := ⟨rfl, rfl⟩
  started_dst _ h := by cases h
  started_zero _ _ := rfl

theorem inv_reach {K : Nat} {s : State} (h : Reach K false s) : Inv K s := by
  induction h with
  | init => exact inv_init K
  | step p fail hr hf hs ih =>
    cases fail with
    | false =>
      obtain ⟨s1, c, m, rfl⟩ := step_move hs
      exact inv_move ih (ginv_reach hr) m
    | true => exact absurd (hf rfl) (by decide)

end LlgoVerif.ExtractLock
