import LlgoVerif.Lemmas.GoType
/-!
`structHash` / `interfaceHash` write the package once, as the symbol prefix: the lines determine the lists up to packages
(`identicalFN`, `identicalMN`), the prefix and uniformity determine the packages (`identicalF_iff`, `identicalM_iff`).
-/
namespace LlgoVerif.Types

def identicalFN : FList → FList → Bool
  | .nil, .nil => true
  | .cons n _ e g t r, .cons n' _ e' g' t' r' =>
    n == n' && e == e' && g == g' && identical t t' && identicalFN r r'
  | _, _ => false

def identicalMN : MList → MList → Bool
  | .nil, .nil => true
  | .cons n _ s r, .cons n' _ s' r' => n == n' && identical s s' && identicalMN r r'
  | _, _ => false

theorem identicalL_length : ∀ (a b : TList), identicalL a b = true → a.length = b.length
  | .nil, .nil, _ => rfl
  | .nil, .cons _ _, h => by simp [identicalL] at h
  | .cons _ _, .nil, h => by simp [identicalL] at h
  | .cons _ r, .cons _ r', h => by
    simp only [identicalL, Bool.and_eq_true] at h
    simp [TList.length, identicalL_length r r' h.2]

theorem pkg_eq_of_uniform {q : Str} {p p' : Option Str} {b : Bool}
    (u1 : (match p with | none => true | some a => a == q) = true)
    (u2 : (match p' with | none => true | some a => a == q) = true)
    (e1 : (p.isNone == b) = true) (e2 : (p'.isNone == b) = true) : p = p' := by
  have e : p.isNone = p'.isNone := (eq_of_beq e1).trans (eq_of_beq e2).symm
  cases p with
  | none =>
    cases p' with
    | none => rfl
    | some _ => cases e
  | some a =>
    cases p' with
    | none => cases e
    | some a' => rw [eq_of_beq u1, eq_of_beq u2]

theorem identicalF_parts : ∀ (a b : FList), identicalF a b = true →
    firstPkgF a = firstPkgF b ∧ a.length = b.length ∧ identicalFN a b = true
  | .nil, .nil, _ => ⟨rfl, rfl, rfl⟩
  | .nil, .cons _ _ _ _ _ _, h => by simp [identicalF] at h
  | .cons _ _ _ _ _ _, .nil, h => by simp [identicalF] at h
  | .cons n p e g t r, .cons n' p' e' g' t' r', h => by
    simp only [identicalF, Bool.and_eq_true, beq_iff_eq] at h
    obtain ⟨⟨⟨⟨⟨rfl, rfl⟩, rfl⟩, rfl⟩, ht⟩, hr⟩ := h
    obtain ⟨i1, i2, i3⟩ := identicalF_parts r r' hr
    simp [firstPkgF, FList.length, identicalFN, i1, i2, i3, ht]

theorem identicalF_of_uniform {cfg : Cfg} {ex : Str → Bool} (q : Str) : ∀ (a b : FList), wfF cfg ex a = true → wfF cfg ex b = true →
    uniformF q a = true → uniformF q b = true → identicalFN a b = true → identicalF a b = true
  | .nil, .nil, _, _, _, _, _ => by simp [identicalF]
  | .nil, .cons _ _ _ _ _ _, _, _, _, _, h => by simp [identicalFN] at h
  | .cons _ _ _ _ _ _, .nil, _, _, _, _, h => by simp [identicalFN] at h
  | .cons n p e g t r, .cons n' p' e' g' t' r', w1, w2, u1, u2, h => by
    obtain ⟨_, _, x1, _, _, r1⟩ := wfF_cons w1
    obtain ⟨_, _, x2, _, _, r2⟩ := wfF_cons w2
    simp only [uniformF, Bool.and_eq_true] at u1 u2
    simp only [identicalFN, Bool.and_eq_true, beq_iff_eq] at h
    obtain ⟨⟨⟨⟨rfl, rfl⟩, rfl⟩, ht⟩, hr⟩ := h
    simp [identicalF, pkg_eq_of_uniform u1.1 u2.1 x1 x2, ht, identicalF_of_uniform q r r' r1 r2 u1.2 u2.2 hr]

/-- the count is implied by `identicalFN`; it is there because the hashed text begins with it -/
theorem identicalF_iff {cfg : Cfg} {ex : Str → Bool} {a b : FList} (w1 : wfF cfg ex a = true) (w2 : wfF cfg ex b = true)
    (u1 : uniformF (firstPkgF a) a = true) (u2 : uniformF (firstPkgF b) b = true) :
    identicalF a b = true ↔ firstPkgF a = firstPkgF b ∧ a.length = b.length ∧ identicalFN a b = true :=
  ⟨identicalF_parts a b, fun ⟨hp, _, hn⟩ => identicalF_of_uniform _ a b w1 w2 (hp ▸ u1) u2 hn⟩

theorem identicalM_parts : ∀ (a b : MList), identicalM a b = true →
    firstPkgM a = firstPkgM b ∧ a.length = b.length ∧ identicalMN a b = true
  | .nil, .nil, _ => ⟨rfl, rfl, rfl⟩
  | .nil, .cons _ _ _ _, h => by simp [identicalM] at h
  | .cons _ _ _ _, .nil, h => by simp [identicalM] at h
  | .cons n p s r, .cons n' p' s' r', h => by
    simp only [identicalM, Bool.and_eq_true, beq_iff_eq] at h
    obtain ⟨⟨⟨rfl, rfl⟩, hs⟩, hr⟩ := h
    obtain ⟨i1, i2, i3⟩ := identicalM_parts r r' hr
    simp [firstPkgM, MList.length, identicalMN, i1, i2, i3, hs]

theorem identicalM_of_uniform {cfg : Cfg} {ex : Str → Bool} (q : Str) : ∀ (a b : MList), wfM cfg ex a = true → wfM cfg ex b = true →
    uniformM q a = true → uniformM q b = true → identicalMN a b = true → identicalM a b = true
  | .nil, .nil, _, _, _, _, _ => by simp [identicalM]
  | .nil, .cons _ _ _ _, _, _, _, _, h => by simp [identicalMN] at h
  | .cons _ _ _ _, .nil, _, _, _, _, h => by simp [identicalMN] at h
  | .cons n p s r, .cons n' p' s' r', w1, w2, u1, u2, h => by
    obtain ⟨_, _, x1, _, r1⟩ := wfM_cons w1
    obtain ⟨_, _, x2, _, r2⟩ := wfM_cons w2
    simp only [uniformM, Bool.and_eq_true] at u1 u2
    simp only [identicalMN, Bool.and_eq_true, beq_iff_eq] at h
    obtain ⟨⟨rfl, hs⟩, hr⟩ := h
    simp [identicalM, pkg_eq_of_uniform u1.1 u2.1 x1 x2, hs, identicalM_of_uniform q r r' r1 r2 u1.2 u2.2 hr]

theorem identicalM_iff {cfg : Cfg} {ex : Str → Bool} {a b : MList} (w1 : wfM cfg ex a = true) (w2 : wfM cfg ex b = true)
    (u1 : uniformM (firstPkgM a) a = true) (u2 : uniformM (firstPkgM b) b = true) :
    identicalM a b = true ↔ firstPkgM a = firstPkgM b ∧ a.length = b.length ∧ identicalMN a b = true :=
  ⟨identicalM_parts a b, fun ⟨hp, _, hn⟩ => identicalM_of_uniform _ a b w1 w2 (hp ▸ u1) u2 hn⟩

end LlgoVerif.Types
