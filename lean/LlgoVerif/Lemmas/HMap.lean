import LlgoVerif.Lemmas.HMapUpdate
import LlgoVerif.Lemmas.HMapGrow
import LlgoVerif.Lemmas.HMapWalk
/-!
# Lemmas for C06: the operations of map.go against the association list, histories, range loops
-/
namespace LlgoVerif.HMap
open LlgoVerif.AssocList

variable {K V : Type}

variable [Inhabited K] [Inhabited V]

/-- a key type whose hasher cannot panic has no unhashable keys (only interface-holding key types do); needed
    because on an empty map of such a type the hasher is not run at all -/
def PanicOK (o : Ops K) : Prop := o.hashMightPanic = false → ∀ k, o.unhashable k = false

theorem assignLoop_spec {o : Ops K} (ho : HashOK o) {hash : UInt64} {k : K} {v : V} {m : AList K V}
    (hunh : o.unhashable k = false) : ∀ (fuel : Nat) (h : HMap K V), WF o h → (abs h).Perm m →
    (o.eq k k = true → hash = o.hash h.hash0 k) →
    (∀ h', assignLoop o hash k v fuel h = .ok h' →
      WF o h' ∧ (abs h').Perm (insert o.eq o.needKeyUpdate k v m)) ∧
    (∀ e, assignLoop o hash k v fuel h = .error e → e = .loop) := by
  intro fuel
  induction fuel with
  | zero => exact fun h _ _ _ => of_error1 rfl
  | succ fuel ih =>
    intro h hw hm hhash
    obtain ⟨h3, e3, w3, hhome3, hhash3, hm3, -⟩ := grow_first ho hw hhash hm
    have hpass : assignPass o h hash k v = .ok (assignCore o h3 hash k v) := by rw [assignPass, e3]; rfl
    have hpost := assignCore_spec ho w3 (v := v) hhome3 hhash3 hunh hm3
    simp only [assignLoop, hpass, bind, Except.bind]
    generalize assignCore o h3 hash k v = res at hpost
    cases res with
    | done h4 => exact of_ok1 hpost
    | again h4 =>
      obtain ⟨rfl, hold3⟩ := hpost
      obtain ⟨gw, gabs⟩ := hashGrow_spec w3 hold3
      exact ih _ gw (gabs ▸ hm3) hhash3

theorem mapassign_spec {o : Ops K} (ho : HashOK o) {h : HMap K V} (hi : Inv o h) {m : AList K V}
    (hm : (abs h).Perm m) (k : K) (v : V) :
    (∀ h', mapassign o h k v = .ok h' →
      WF o h' ∧ (abs h').Perm (insert o.eq o.needKeyUpdate k v m) ∧ o.unhashable k = false) ∧
    (∀ e, mapassign o h k v = .error e → (e = .unhashable ∧ o.unhashable k = true) ∨ e = .loop) := by
  unfold mapassign
  rcases hashKey_cases o h.hash0 k h with ⟨hu, e⟩ | ⟨hu, hash, h1, hk, hs, hrefl⟩
  · simp only [e, bind, Except.bind]
    exact of_error1 (.inl ⟨rfl, hu⟩)
  · simp only [hk, bind, Except.bind]
    obtain ⟨h2, e2, hw2, habs2, h02⟩ := alloc_spec (inv_same hi hs)
    rw [e2]
    obtain ⟨l1, l2⟩ := assignLoop_spec ho (hash := hash) (v := v) (m := m) hu 8 h2 hw2
      (by rw [habs2, abs_same hs]; exact hm)
      (fun hr => by rw [h02, hs.hash0]; exact (hrefl hr).1)
    exact ⟨fun h' e => ⟨(l1 h' e).1, (l1 h' e).2, hu⟩, fun e he => Or.inr (l2 e he)⟩

theorem deletePass_spec {o : Ops K} (ho : HashOK o) {h : HMap K V} (hw : WF o h) {hash : UInt64} {k : K}
    (hhash : o.eq k k = true → hash = o.hash h.hash0 k) {m : AList K V} (hm : (abs h).Perm m) :
    ∃ h', deletePass o h hash k = .ok h' ∧ WF o h' ∧ (abs h').Perm (erase o.eq k m) ∧
      (h.old = none → h'.old = none ∧ h'.gen = h.gen) := by
  obtain ⟨h3, e3, w3, hhome3, hhash3, hm3, hsame3⟩ := grow_first ho hw hhash hm
  obtain ⟨dw, dabs, dold, dgen⟩ := deleteCore_spec ho w3 hhome3 hhash3 hm3
  refine ⟨_, by rw [deletePass, e3]; rfl, dw, dabs, fun e0 => ?_⟩
  rw [hsame3 e0] at dold dgen ⊢
  exact ⟨dold.trans e0, dgen⟩

/-- `WF` is kept and a table that is not growing keeps its bucket array: for `runDelLoop_yields_live` -/
theorem mapdelete_spec {o : Ops K} (ho : HashOK o) {h : HMap K V} (hi : Inv o h) {m : AList K V}
    (hm : (abs h).Perm m) (k : K) :
    (∀ h', mapdelete o h k = .ok h' → Inv o h' ∧ (abs h').Perm (erase o.eq k m) ∧ (WF o h → WF o h') ∧
      (h.old = none → h'.old = none ∧ h'.gen = h.gen) ∧ (PanicOK o → o.unhashable k = false)) ∧
    (∀ e, mapdelete o h k = .error e → e = .unhashable ∧ o.unhashable k = true) := by
  -- on an empty map only the hasher may run: nothing that `abs` and `WF` read changes
  have hz : (h.count == 0) = true → ∀ h1, Same h h1 → (PanicOK o → o.unhashable k = false) →
      Inv o h1 ∧ (abs h1).Perm (erase o.eq k m) ∧ (WF o h → WF o h1) ∧
      (h.old = none → h1.old = none ∧ h1.gen = h.gen) ∧ (PanicOK o → o.unhashable k = false) := fun hc h1 hs hu =>
    have ha := abs_nil_of_count hi (by simpa using hc)
    have hm0 : m = [] := (ha ▸ hm).symm.eq_nil
    ⟨inv_same hi hs, by rw [abs_same hs, ha, hm0]; exact .refl _, fun hw => wf_same hw hs,
      fun e => ⟨hs.old.trans e, hs.gen⟩, hu⟩
  fun_cases mapdelete o h k with
  | case1 hc _ =>
    rcases hashKey_cases o 0 k h with ⟨hu, e⟩ | ⟨hu, hash, h1, e, hs, -⟩
    · simp only [e, bind, Except.bind]; exact of_error1 ⟨rfl, hu⟩
    · simp only [e, bind, Except.bind, pure, Except.pure]; exact of_ok1 (hz hc h1 hs fun _ => hu)
  | case2 hc hmp => exact of_ok1 (hz hc h (Same.refl h) fun hp => hp (by simpa using hmp) k)
  | case3 hc =>
    have hw := hi.wf_of_count_ne (by simpa using hc)
    rcases hashKey_cases o h.hash0 k h with ⟨hu, e⟩ | ⟨hu, hash, h1, e, hs, hrefl⟩
    · simp only [e, bind, Except.bind]; exact of_error1 ⟨rfl, hu⟩
    · obtain ⟨h', e', dw, dabs, dg⟩ := deletePass_spec ho (wf_same hw hs) (hash := hash) (k := k)
        (fun hr => by rw [hs.hash0]; exact (hrefl hr).1) (abs_same hs ▸ hm)
      simp only [e, bind, Except.bind, e']
      exact of_ok1 ⟨.inl dw, dabs, fun _ => dw,
        fun e0 => ⟨(dg (hs.old.trans e0)).1, (dg (hs.old.trans e0)).2.trans hs.gen⟩, fun _ => hu⟩

theorem access_home {o : Ops K} (ho : HashOK o) {h : HMap K V} (hw : WF o h) {hash : UInt64} {k : K}
    (hhash : o.eq k k = true → hash = o.hash h.hash0 k) (hhome : Home h (bucketIdx hash h.B))
    {m : AList K V} (hm : (abs h).Perm m) :
    (lookupChain o.eq (tophash hash) k (h.buckets.getD (bucketIdx hash h.B) [])).map (·.val) =
      lookup o.eq k m := by
  obtain ⟨e, hR⟩ := home_split ho hw hhome hhash
  rw [← lookup_perm ho.eqok hm hw.nodup, lookup_perm ho.eqok e hw.nodup, lookup_append_right hR,
    lookupChain_spec ho hhash (hw.home hash).rest (hw.home hash).placed.tops]

theorem access_spec {o : Ops K} (ho : HashOK o) {h : HMap K V} (hw : WF o h) {hash : UInt64} {k : K}
    (hhash : o.eq k k = true → hash = o.hash h.hash0 k) {m : AList K V} (hm : (abs h).Perm m) :
    (lookupChain o.eq (tophash hash) k (accessChain h hash)).map (·.val) = lookup o.eq k m := by
  fun_cases accessChain h hash with
  | case1 hold => exact access_home ho hw hhash (evacAt_none hold _) hm
  | case2 oa hold oldb hev =>
    have hO := hw.oldOK hold
    have hj : hash.toNat % h.noldbuckets < oa.size := by rw [hO.size]; exact Nat.mod_lt _ (nold_pos h)
    have hb : oldb = oa[hash.toNat % h.noldbuckets] := (Array.getElem_eq_getD (h := hj) []).symm
    have hev : evacuatedChain oa[hash.toNat % h.noldbuckets] = false := by rw [← hb]; simpa using hev
    have hsrc := (hO.chain hj).src hev
    rw [hb, ← lookup_perm ho.eqok hm hw.nodup, lookup_perm ho.eqok (abs_home_old hold hj) hw.nodup,
      lookup_append_right (absent_others_old ho hw hold hj hev (fun hr => by rw [← hhash hr])),
      lookupChain_spec ho hhash hsrc.rest hsrc.placed.tops]
  | case3 oa hold oldb hev =>
    refine access_home ho hw hhash ((evacAt_some hold).2 ?_) hm
    have hev : evacuatedChain oldb = true := by simpa using hev
    rw [bucketIdx, mod_nold hw hold]; exact hev

theorem mapaccess_spec {o : Ops K} (ho : HashOK o) {h : HMap K V} (hi : Inv o h) {m : AList K V}
    (hm : (abs h).Perm m) (k : K) :
    (∀ r h', mapaccess o h k = .ok (r, h') →
      r.map (·.val) = lookup o.eq k m ∧ Same h h' ∧ (PanicOK o → o.unhashable k = false)) ∧
    (∀ e, mapaccess o h k = .error e → e = .unhashable ∧ o.unhashable k = true) := by
  have hz : (h.count == 0) = true → (none : Option (Cell K V)).map (·.val) = lookup o.eq k m := fun hc => by
    have hm0 : m = [] := (abs_nil_of_count hi (by simpa using hc) ▸ hm).symm.eq_nil
    rw [hm0]; rfl
  fun_cases mapaccess o h k with
  | case1 hc _ =>
    rcases hashKey_cases o 0 k h with ⟨hu, e⟩ | ⟨hu, hash, h1, e, hs, -⟩
    · simp only [e, bind, Except.bind]; exact of_error ⟨rfl, hu⟩
    · simp only [e, bind, Except.bind, pure, Except.pure]; exact of_ok ⟨hz hc, hs, fun _ => hu⟩
  | case2 hc hmp => exact of_ok ⟨hz hc, Same.refl h, fun hp => hp (by simpa using hmp) k⟩
  | case3 hc =>
    have hw := hi.wf_of_count_ne (by simpa using hc)
    rcases hashKey_cases o h.hash0 k h with ⟨hu, e⟩ | ⟨hu, hash, h1, e, hs, hrefl⟩
    · simp only [e, bind, Except.bind]; exact of_error ⟨rfl, hu⟩
    · simp only [e, bind, Except.bind, pure, Except.pure]
      exact of_ok ⟨access_spec ho (wf_same hw hs) (fun hr => by rw [hs.hash0]; exact (hrefl hr).1) (abs_same hs ▸ hm),
        hs, fun _ => hu⟩

theorem makemap_spec (o : Ops K) (hint : Nat) (r : Rand) :
    Inv o (makemap hint r : HMap K V) ∧ abs (makemap hint r : HMap K V) = [] := by
  have key : Inv o (makemap hint r : HMap K V) := by
    unfold makemap
    simp only
    by_cases hB : pickB hint 64 0 = 0
    · right
      simp only [hB]
      exact ⟨rfl, rfl, rfl, rfl, rfl⟩
    · exact .inl (freshArray_wf o (by simp [hB]) rfl rfl rfl)
  refine ⟨key, abs_nil_of_count key ?_⟩
  unfold makemap; rfl

theorem mapclear_spec {o : Ops K} {h : HMap K V} (hi : Inv o h) :
    Inv o (mapclear h) ∧ abs (mapclear h) = [] := by
  have key : ∀ {x : HMap K V}, WF o x → x.count = 0 → Inv o x ∧ abs x = [] :=
    fun w c => ⟨.inl w, abs_nil_of_count (.inl w) c⟩
  fun_cases mapclear h with
  | case1 hc => exact ⟨hi, abs_nil_of_count hi (by simpa using hc)⟩
  | case2 hc dead s h' hf =>
    have hs : Same h h' := by have := same_fastrand h; rwa [hf] at this
    refine key (freshArray_wf o ?_ rfl rfl rfl) rfl
    show Array.replicate h'.buckets.size _ = freshArray K V h'.B
    rw [hs.buckets, (hi.wf_of_count_ne (by simpa using hc)).size, hs.B]; rfl

/-! ## histories -/

inductive Op (K V : Type) where
  | assign (k : K) (v : V)
  | access (k : K)
  | delete (k : K)
  | clear
  | len

inductive Obs (V : Type) where
  | done
  | val (v : Option V)      -- `none`: zero value, ok = false
  | len (n : Nat)
  | panic                   -- "hash of unhashable type"

/-- one operation on the table; a panic leaves the table as it was -/
def stepModel (o : Ops K) (h : HMap K V) : Op K V → Except Err (Obs V × HMap K V)
  | .assign k v =>
    match mapassign o h k v with
    | .ok h' => .ok (.done, h')
    | .error .unhashable => .ok (.panic, h)
    | .error e => .error e
  | .access k =>
    match mapaccess o h k with
    | .ok (r, h') => .ok (.val (r.map (·.val)), h')
    | .error .unhashable => .ok (.panic, h)
    | .error e => .error e
  | .delete k =>
    match mapdelete o h k with
    | .ok h' => .ok (.done, h')
    | .error .unhashable => .ok (.panic, h)
    | .error e => .error e
  | .clear => .ok (.done, mapclear h)
  | .len => .ok (.len h.count, h)

def runModel (o : Ops K) : HMap K V → List (Op K V) → Except Err (List (Obs V) × HMap K V)
  | h, [] => .ok ([], h)
  | h, op :: ops =>
    match stepModel o h op with
    | .error e => .error e
    | .ok (ob, h') =>
      match runModel o h' ops with
      | .error e => .error e
      | .ok (obs, h'') => .ok (ob :: obs, h'')

def stepSpec (o : Ops K) (m : AList K V) : Op K V → Obs V × AList K V
  | .assign k v => if o.unhashable k then (.panic, m) else (.done, insert o.eq o.needKeyUpdate k v m)
  | .access k => if o.unhashable k then (.panic, m) else (.val (lookup o.eq k m), m)
  | .delete k => if o.unhashable k then (.panic, m) else (.done, erase o.eq k m)
  | .clear => (.done, [])
  | .len => (.len (len m), m)

def runSpec (o : Ops K) : AList K V → List (Op K V) → List (Obs V) × AList K V
  | m, [] => ([], m)
  | m, op :: ops =>
    let (ob, m') := stepSpec o m op
    let (obs, m'') := runSpec o m' ops
    (ob :: obs, m'')

/-! ## range loops -/

/-- a step of a running `for k, v := range m` loop: the body mutates the map, or the loop asks for the next entry -/
inductive LoopStep (K V : Type) where
  | mutate (op : Op K V)
  | next

/-- what a loop run records: every yield with the table at that moment, every table a mutation produced -/
inductive LoopEv (K V : Type) where
  | yield (kv : K × V) (h : HMap K V)
  | table (h : HMap K V)

def LoopEv.tbl : LoopEv K V → HMap K V
  | .yield _ h => h
  | .table h => h

/-- run the steps of a range loop; `true` = the loop has ended (`MapIterNext` returned `ok = false`) -/
def runLoopFrom (o : Ops K) : HMap K V → Iter K V → List (LoopStep K V) → Except Err (List (LoopEv K V) × Bool)
  | _, _, [] => .ok ([], false)
  | h, it, .mutate op :: rest =>
    match stepModel o h op with
    | .error e => .error e
    | .ok (_, h') =>
      match runLoopFrom o h' it rest with
      | .error e => .error e
      | .ok (tr, ended) => .ok (.table h' :: tr, ended)
  | h, it, .next :: rest =>
    match mapIterNext o (.ref h) it with
    | .error e => .error e
    | .ok (none, _) => .ok ([], true)
    | .ok (some kv, it') =>
      match runLoopFrom o h it' rest with
      | .error e => .error e
      | .ok (tr, ended) => .ok (.yield kv h :: tr, ended)

/-- `for k, v := range m { … }`: `NewMapIter`, the first `MapIterNext`, then the steps -/
def runLoop (o : Ops K) (h : HMap K V) (steps : List (LoopStep K V)) : Except Err (List (LoopEv K V) × Bool) :=
  match newMapIter o (.ref h) with
  | .error e => .error e
  | .ok (it, .ref h') =>
    match runLoopFrom o h' it (.next :: steps) with
    | .error e => .error e
    | .ok (tr, ended) => .ok (.table h' :: tr, ended)
  | .ok (_, .nil _) => .ok ([], true)

/-- "no deleted entry": whatever a range loop yields is an entry of the map at that moment -/
def YieldsLive (o : Ops K) (V : Type) [Inhabited V] : Prop :=
  ∀ (h : HMap K V) (steps : List (LoopStep K V)) (tr : List (LoopEv K V)) (ended : Bool), Inv o h →
    runLoop o h steps = .ok (tr, ended) → ∀ kv hy, LoopEv.yield kv hy ∈ tr → kv ∈ abs hy

/-- "no entry twice": two yields of equal keys are separated by a moment at which the key was not in the map -/
def NoTwice (o : Ops K) (V : Type) [Inhabited V] : Prop :=
  ∀ (h : HMap K V) (steps : List (LoopStep K V)) (tr : List (LoopEv K V)) (ended : Bool), Inv o h →
    runLoop o h steps = .ok (tr, ended) →
    ∀ (i j : Nat) (k1 k2 : K) (v1 v2 : V) (h1 h2 : HMap K V), i < j →
      tr[i]? = some (.yield (k1, v1) h1) → tr[j]? = some (.yield (k2, v2) h2) → o.eq k1 k2 = true →
      ∃ l hl, i < l ∧ l < j ∧ tr[l]? = some (.table hl) ∧ lookup o.eq k1 (abs hl) = none

/-- "every entry present for the whole loop is yielded": when the loop has ended, a key that was in the map at
    every recorded moment has been yielded -/
def YieldsAll (o : Ops K) (V : Type) [Inhabited V] : Prop :=
  ∀ (h : HMap K V) (steps : List (LoopStep K V)) (tr : List (LoopEv K V)), Inv o h →
    runLoop o h steps = .ok (tr, true) →
    ∀ k : K, (∀ ev ∈ tr, lookup o.eq k (abs ev.tbl) ≠ none) →
      ∃ k' v' hy, LoopEv.yield (k', v') hy ∈ tr ∧ o.eq k k' = true

/-- a range loop with deletions between the iteration steps (`none` = `mapiternext`, `some k` = `delete(m, k)`);
    every yield is recorded with the table at that moment -/
def runDelLoop (o : Ops K) : HMap K V → Iter K V → List (Option K) → Except Err (List ((K × V) × HMap K V))
  | _, _, [] => .ok []
  | h, it, some k :: rest =>
    match mapdelete o h k with
    | .error e => .error e
    | .ok h' => runDelLoop o h' it rest
  | h, it, none :: rest =>
    match mapiternext o h it with
    | .error e => .error e
    | .ok it' =>
      match it'.key, it'.elem with
      | some k, some v =>
        match runDelLoop o h it' rest with
        | .error e => .error e
        | .ok ys => .ok (((k, v), h) :: ys)
      | _, _ => .ok []

theorem runDelLoop_yields_live {o : Ops K} (ho : HashOK o) : ∀ (steps : List (Option K)) (h : HMap K V) (it : Iter K V)
    (ys : List ((K × V) × HMap K V)), WF o h → h.old = none → IterCur h it →
    runDelLoop o h it steps = .ok ys → ∀ y ∈ ys, y.1 ∈ abs y.2 := by
  intro steps h it
  fun_induction runDelLoop o h it steps with
  -- nothing yielded: no step left or no next entry; then the three ways to fail
  | case1 | case7 => intro ys _ _ _ e _ hy; cases e; cases hy
  | case2 | case4 | case5 => intro ys _ _ _ e; cases e
  | case3 h it k rest h' hd ih =>
    intro ys hw hold hic e
    -- `mapdelete` keeps the bucket array, so the iterator still walks the current one
    obtain ⟨-, -, w, g, -⟩ := (mapdelete_spec ho (.inl hw) (.refl _) k).1 h' hd
    obtain ⟨hold', hg'⟩ := g hold
    exact ih ys (w hw) hold' ⟨hic.gen.trans hg'.symm, hic.cb, fun br e => (hic.bptr br e).trans hg'.symm⟩ e
  | case6 h it rest it' hn k v hv hk ys' hr ih =>
    intro ys hw hold hic e y hy
    cases e
    obtain ⟨hic', hlive⟩ := mapiternext_yields_live hw hold hic hn
    rcases List.mem_cons.1 hy with rfl | hy
    · exact hlive k v hk hv
    · exact ih ys' hw hold hic' hr y hy

theorem mapiterinit_stable {o : Ops K} {h h' : HMap K V} {it : Iter K V} (hw : WF o h) (hold : h.old = none)
    (hc : h.count ≠ 0) (e : mapiterinit o h = .ok (it, h')) :
    Same h h' ∧ IterCur h' it ∧ ∀ k v, it.key = some k → it.elem = some v → (k, v) ∈ abs h' := by
  obtain ⟨h2, s, f, hs2, -, -, e2⟩ := mapiterinit_eq o hc
  rw [e2] at e
  cases hn : mapiternext o h2 { active := true, B := h2.B, gen := h2.gen, startBucket := s, offset := f, bucket := s } with
  | error er => simp [hn, bind, Except.bind] at e
  | ok it' =>
    simp only [hn, bind, Except.bind, pure, Except.pure, Except.ok.injEq, Prod.mk.injEq] at e
    obtain ⟨rfl, rfl⟩ := e
    exact ⟨hs2, mapiternext_yields_live (wf_same hw hs2) (hs2.old.trans hold) ⟨rfl, rfl, fun _ e => by cases e⟩ hn⟩

end LlgoVerif.HMap
