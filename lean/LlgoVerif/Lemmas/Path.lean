import LlgoVerif.Model.Path
/-! Lemmas for C20 about `filepath.Clean`, `Join` and `Dir`: what `Clean` returns, and what the prefix guard of the
    extractors says about the elements of the target. -/
namespace LlgoVerif.Path

/-- an ordinary path element -/
def Normal (c : Comp) : Prop := c ≠ [] ∧ c ≠ dot ∧ c ≠ dotdot ∧ '/' ∉ c

instance (c : Comp) : Decidable (Normal c) := by unfold Normal; exact inferInstance

theorem split_eq_splitOn : ∀ s : Str, split s = s.splitOn '/'
  | [] => rfl
  | c :: cs => by
    rw [split, split_eq_splitOn cs, List.splitOn_cons_eq_if_modifyHead]
    by_cases hc : c = '/'
    · simp [hc]
    · cases h : cs.splitOn '/' with
      | nil => exact absurd h (List.splitOn_ne_nil _ _)
      | cons x xs => simp [hc]

theorem joinSlash_eq_intercalate : ∀ cs : List Comp, joinSlash cs = ['/'].intercalate cs
  | [] => rfl
  | [c] => by simp [joinSlash]
  | c :: d :: cs => by
    have := joinSlash_eq_intercalate (d :: cs)
    simp [joinSlash, this]

theorem split_ne_nil (s : Str) : split s ≠ [] := split_eq_splitOn s ▸ List.splitOn_ne_nil _ _

theorem split_cons_slash (s : Str) : split ('/' :: s) = [] :: split s := rfl

theorem split_append_slash (a b : Str) : split (a ++ '/' :: b) = split a ++ split b := by
  simp only [split_eq_splitOn, List.splitOn_append_cons_self]

theorem split_noslash (c : Comp) (h : '/' ∉ c) : split c = [c] := by
  rw [split_eq_splitOn, List.splitOn_eq_singleton h]

theorem split_noslash_mem (s : Str) : ∀ c ∈ split s, '/' ∉ c := by
  fun_induction split s with
  | case1 => simp
  | case2 cs ih => exact List.forall_mem_cons.2 ⟨List.not_mem_nil, ih⟩
  | case3 c cs hc h t hs ih =>
    obtain ⟨ih1, ih2⟩ := List.forall_mem_cons.1 (hs ▸ ih)
    exact List.forall_mem_cons.2 ⟨fun hm => (List.mem_cons.1 hm).elim (fun e => hc e.symm) ih1, ih2⟩
  | case4 c cs hc hs ih => exact absurd hs (split_ne_nil cs)

theorem joinSlash_cons_cons (c d : Comp) (cs : List Comp) :
    joinSlash (c :: d :: cs) = c ++ '/' :: joinSlash (d :: cs) := rfl

theorem split_joinSlash (cs : List Comp) (hne : cs ≠ []) (h : ∀ c ∈ cs, '/' ∉ c) :
    split (joinSlash cs) = cs := by
  rw [split_eq_splitOn, joinSlash_eq_intercalate, List.splitOn_intercalate _ h hne]

theorem joinSlash_append (a b : List Comp) (ha : a ≠ []) (hb : b ≠ []) :
    joinSlash (a ++ b) = joinSlash a ++ '/' :: joinSlash b := by
  induction a with
  | nil => exact absurd rfl ha
  | cons x xs ih =>
    cases xs with
    | nil =>
      cases b with
      | nil => exact absurd rfl hb
      | cons y ys => simp [joinSlash]
    | cons z zs =>
      have := ih (by simp)
      simp only [List.cons_append] at this ⊢
      rw [joinSlash_cons_cons, this, joinSlash_cons_cons]
      simp

theorem Normal.ne_nil {c : Comp} (h : Normal c) : c ≠ [] := h.1
theorem normal_ne_dotdot {c : Comp} (h : Normal c) : c ≠ dotdot := h.2.2.1
theorem Normal.noslash {c : Comp} (h : Normal c) : '/' ∉ c := h.2.2.2

theorem cleanStep_skip (r : Bool) (st : List Comp) {c : Comp} (h : c = [] ∨ c = dot) : cleanStep r st c = st := by
  rcases h with rfl | rfl <;> rfl

theorem cleanStep_pop (r : Bool) {top : Comp} (rest : List Comp) (h : top ≠ dotdot) :
    cleanStep r (top :: rest) dotdot = rest := by
  have : cleanStep r (top :: rest) dotdot = if top = dotdot then (if r then top :: rest else dotdot :: top :: rest) else rest :=
    rfl
  rw [this, if_neg h]

theorem cleanStep_climb (r : Bool) {st : List Comp} (h : st = [] ∨ ∃ rest, st = dotdot :: rest) :
    cleanStep r st dotdot = if r then st else dotdot :: st := by
  rcases h with rfl | ⟨rest, rfl⟩ <;> cases r <;> rfl

theorem cleanStep_dots (j : Nat) : cleanStep false (List.replicate j dotdot) dotdot = List.replicate (j + 1) dotdot :=
  cleanStep_climb false (by cases j <;> simp [List.replicate_succ])

theorem cleanStep_push (r : Bool) (st : List Comp) {c : Comp} (h1 : c ≠ []) (h2 : c ≠ dot) (h3 : c ≠ dotdot) :
    cleanStep r st c = c :: st := by
  simp [cleanStep, h1, h2, h3]

theorem cleanStep_normal (r : Bool) (st : List Comp) (c : Comp) (h : Normal c) : cleanStep r st c = c :: st :=
  cleanStep_push r st h.1 h.2.1 h.2.2.1

theorem cleanStep_cases (r : Bool) (st : List Comp) (c : Comp) :
    cleanStep r st c = st ∧ (c = [] ∨ c = dot) ∨
    (∃ top rest, top ≠ dotdot ∧ st = top :: rest ∧ cleanStep r st c = rest) ∧ c = dotdot ∨
    (cleanStep r st c = if r then st else dotdot :: st) ∧ (st = [] ∨ ∃ rest, st = dotdot :: rest) ∧ c = dotdot ∨
    cleanStep r st c = c :: st ∧ c ≠ [] ∧ c ≠ dot ∧ c ≠ dotdot := by
  by_cases h1 : c = []
  · exact .inl ⟨cleanStep_skip r st (.inl h1), .inl h1⟩
  by_cases h2 : c = dot
  · exact .inl ⟨cleanStep_skip r st (.inr h2), .inr h2⟩
  by_cases h3 : c = dotdot
  · subst h3
    cases st with
    | nil => exact .inr (.inr (.inl ⟨cleanStep_climb r (.inl rfl), .inl rfl, rfl⟩))
    | cons top rest =>
      by_cases ht : top = dotdot
      · subst ht; exact .inr (.inr (.inl ⟨cleanStep_climb r (.inr ⟨rest, rfl⟩), .inr ⟨rest, rfl⟩, rfl⟩))
      · exact .inr (.inl ⟨⟨top, rest, ht, rfl, cleanStep_pop r rest ht⟩, rfl⟩)
  · exact .inr (.inr (.inr ⟨cleanStep_push r st h1 h2 h3, h1, h2, h3⟩))

theorem foldl_cleanStep_normals (r : Bool) (cs : List Comp) (h : ∀ c ∈ cs, Normal c) :
    ∀ st, cs.foldl (cleanStep r) st = cs.reverse ++ st := by
  induction cs with
  | nil => simp
  | cons c rest ih =>
    intro st
    simp [cleanStep_normal r st c (h c (by simp)), ih (fun x hx => h x (by simp [hx]))]

/-- the stack of `Clean`: ordinary elements on top of a run of `..`, which a rooted path does not have -/
def StackShape (r : Bool) (st : List Comp) : Prop :=
  ∃ k ns, st = ns ++ List.replicate k dotdot ∧ (∀ c ∈ ns, Normal c) ∧ (r = true → k = 0)

theorem cleanStep_shape (r : Bool) (st : List Comp) (c : Comp) (hc : '/' ∉ c) (hst : StackShape r st) :
    StackShape r (cleanStep r st c) := by
  obtain ⟨k, ns, rfl, hns, hk⟩ := hst
  by_cases hskip : c = [] ∨ c = dot
  · rw [cleanStep_skip r _ hskip]; exact ⟨k, ns, rfl, hns, hk⟩
  by_cases hdd : c = dotdot
  · subst hdd
    cases ns with
    | nil =>
      -- nothing to pop: a rooted stack stays empty, an unrooted run of `..` grows
      cases r with
      | true => rw [hk rfl]; exact ⟨0, [], rfl, nofun, fun _ => rfl⟩
      | false => rw [List.nil_append, cleanStep_dots]; exact ⟨k + 1, [], rfl, nofun, nofun⟩
    | cons n ns =>
      rw [List.cons_append, cleanStep_pop r _ (normal_ne_dotdot (hns n (List.mem_cons_self ..)))]
      exact ⟨k, ns, rfl, fun x hx => hns x (List.mem_cons_of_mem _ hx), hk⟩
  · rw [cleanStep_push r _ (fun h => hskip (.inl h)) (fun h => hskip (.inr h)) hdd]
    exact ⟨k, c :: ns, rfl, List.forall_mem_cons.2 ⟨⟨fun h => hskip (.inl h), fun h => hskip (.inr h), hdd, hc⟩, hns⟩, hk⟩

theorem cleanComps_shape (r : Bool) (s : Str) : ∃ k ns, cleanComps r (split s) = List.replicate k dotdot ++ ns ∧
    (∀ c ∈ ns, Normal c) ∧ (r = true → k = 0) := by
  obtain ⟨k, ns, hst, hns, hk⟩ := List.foldlRecOn (motive := StackShape r) (split s) (cleanStep r) (b := [])
    ⟨0, [], rfl, nofun, fun _ => rfl⟩ fun st hst c hc => cleanStep_shape r st c (split_noslash_mem s c hc) hst
  exact ⟨k, ns.reverse, by rw [cleanComps, hst]; simp, by simpa using hns, hk⟩

theorem cleanComps_rooted_normal (s : Str) : ∀ x ∈ cleanComps true (split s), Normal x := by
  obtain ⟨k, ns, h, hns, hk⟩ := cleanComps_shape true s
  rw [h, hk rfl]; exact hns

theorem clean_rooted (r : Str) : clean ('/' :: r) = '/' :: joinSlash (cleanComps true (split ('/' :: r))) := by
  simp [clean]

theorem normal_nonempty_filter (cs : List Comp) (h : ∀ c ∈ cs, Normal c) : cs.filter (· ≠ []) = cs := by
  simp
  intro a ha
  exact (h a ha).ne_nil

theorem comps_rooted_join (cs : List Comp) (h : ∀ c ∈ cs, Normal c) : comps ('/' :: joinSlash cs) = cs := by
  unfold comps
  rw [split_cons_slash]
  by_cases hne : cs = []
  · subst hne; simp [joinSlash, split]
  · rw [split_joinSlash cs hne (fun c hc => (h c hc).noslash), List.filter_cons_of_neg (by simp)]
    exact normal_nonempty_filter cs h

/-- the trailing `/` is what excludes a sibling whose name extends the destination's (`dest`, `destx`);
    `ds ≠ []` because `//` is no prefix of a cleaned path -/
theorem prefix_slash_comps (ds ts : List Comp) (hd : ∀ c ∈ ds, Normal c) (ht : ∀ c ∈ ts, Normal c)
    (h : hasPrefix ('/' :: joinSlash ts) (('/' :: joinSlash ds) ++ ['/']) = true) :
    ds ≠ [] ∧ ∃ rest, rest ≠ [] ∧ ts = ds ++ rest := by
  unfold hasPrefix at h
  rw [List.isPrefixOf_iff_prefix] at h
  obtain ⟨r, hr⟩ := h
  replace hr : joinSlash ds ++ '/' :: r = joinSlash ts := by simpa using hr
  have hts : ts ≠ [] := by
    intro e; subst e; simp [joinSlash] at hr
  have hsp : split (joinSlash ts) = ts := split_joinSlash ts hts (fun c hc => (ht c hc).noslash)
  rw [← hr, split_append_slash] at hsp
  have hds : ds ≠ [] := by
    rintro rfl
    simp [joinSlash, split] at hsp
    have : ([] : Comp) ∈ ts := by rw [← hsp]; simp
    exact absurd rfl (ht [] this).ne_nil
  rw [split_joinSlash ds hds (fun c hc => (hd c hc).noslash)] at hsp
  exact ⟨hds, split r, split_ne_nil r, hsp.symm⟩

theorem join_abs (d0 name : Str) :
    join ('/' :: d0) name = '/' :: joinSlash (cleanComps true (split ('/' :: d0 ++ '/' :: name))) := by
  simp [join, clean]

theorem comps_clean_abs (r : Str) : comps (clean ('/' :: r)) = cleanComps true (split ('/' :: r)) := by
  rw [clean_rooted, comps_rooted_join _ (cleanComps_rooted_normal _)]

theorem comps_join_abs (d0 name : Str) :
    comps (join ('/' :: d0) name) = cleanComps true (split ('/' :: d0 ++ '/' :: name)) := by
  rw [join_abs, comps_rooted_join _ (cleanComps_rooted_normal _)]

theorem normal_comps_join (dest name : Str) (habs : dest.head? = some '/') : ∀ c ∈ comps (join dest name), Normal c := by
  obtain ⟨d0, rfl⟩ := List.head?_eq_some_iff.1 habs
  rw [comps_join_abs]
  exact cleanComps_rooted_normal _

theorem guardOK_iff (dest name : Str) (acc : Bool) (habs : dest.head? = some '/') :
    guardOK acc dest (join dest name) = true ↔
      (acc = true ∧ join dest name = clean dest) ∨
      (comps (clean dest) ≠ [] ∧ ∃ rest, rest ≠ [] ∧ comps (join dest name) = comps (clean dest) ++ rest) := by
  obtain ⟨d0, rfl⟩ := List.head?_eq_some_iff.1 habs
  rw [comps_join_abs, comps_clean_abs]
  unfold guardOK
  simp only [Bool.or_eq_true, Bool.and_eq_true, beq_iff_eq]
  refine or_congr Iff.rfl ⟨fun h => ?_, fun ⟨hd, rest, hr, h⟩ => ?_⟩
  · rw [join_abs, clean_rooted] at h
    exact prefix_slash_comps _ _ (cleanComps_rooted_normal _) (cleanComps_rooted_normal _) h
  · rw [join_abs, clean_rooted, h, joinSlash_append _ _ hd hr]
    simp [hasPrefix]

theorem guardOK_mono {acc : Bool} {dest target : Str} (h : guardOK acc dest target = true) :
    guardOK true dest target = true := by
  simp only [guardOK, Bool.or_eq_true, Bool.and_eq_true, Bool.true_and] at h ⊢
  exact h.imp And.right id

theorem guard_prefix {acc : Bool} {dest name : Str} (habs : dest.head? = some '/')
    (h : guardOK acc dest (join dest name) = true) : comps (clean dest) <+: comps (join dest name) := by
  rcases (guardOK_iff dest name acc habs).1 h with ⟨_, heq⟩ | ⟨_, rest, _, h1⟩
  · rw [heq]; exact List.prefix_refl _
  · rw [h1]; exact List.prefix_append _ _

/-! ### shape of a cleaned path, idempotence -/

inductive CleanShape : Str → Prop where
  | dot : CleanShape ['.']
  | rooted (cs : List Comp) : (∀ c ∈ cs, Normal c) → CleanShape ('/' :: joinSlash cs)
  | rel (k : Nat) (cs : List Comp) : (∀ c ∈ cs, Normal c) → List.replicate k dotdot ++ cs ≠ [] →
      CleanShape (joinSlash (List.replicate k dotdot ++ cs))

theorem clean_shape (p : Str) : CleanShape (clean p) := by
  cases p with
  | nil => exact .dot
  | cons c r =>
    by_cases hc : c = '/'
    · subst hc
      rw [clean_rooted]
      exact .rooted _ (cleanComps_rooted_normal _)
    · simp only [clean, hc, if_false]
      split
      · exact .dot
      · rename_i hne
        obtain ⟨k, ns, h, hns, _⟩ := cleanComps_shape false (c :: r)
        rw [h] at hne ⊢
        exact .rel k ns hns hne

theorem foldl_dotdots (k : Nat) : ∀ j, (List.replicate k dotdot).foldl (cleanStep false) (List.replicate j dotdot)
    = List.replicate (k + j) dotdot := by
  induction k with
  | zero => simp
  | succ k ih =>
    intro j
    rw [List.replicate_succ, List.foldl_cons, cleanStep_dots, ih]
    congr 1; omega

theorem cleanComps_rel (k : Nat) (cs : List Comp) (h : ∀ c ∈ cs, Normal c) :
    cleanComps false (List.replicate k dotdot ++ cs) = List.replicate k dotdot ++ cs := by
  unfold cleanComps
  rw [List.foldl_append]
  have := foldl_dotdots k 0
  simp only [List.replicate_zero] at this
  rw [this, foldl_cleanStep_normals false cs h]
  simp

/-- a path none of whose elements is empty is neither empty nor rooted -/
theorem clean_unrooted (q : Str) (h : [] ∉ split q) :
    clean q = if cleanComps false (split q) = [] then ['.'] else joinSlash (cleanComps false (split q)) := by
  cases q with
  | nil => exact absurd (List.mem_singleton.2 rfl) h
  | cons c r =>
    by_cases hc : c = '/'
    · subst hc; exact absurd (List.mem_cons_self ..) h
    · simp [clean, hc]

theorem foldl_cleanStep_filter (r : Bool) (cs : List Comp) :
    ∀ st, (cs.filter (· ≠ [])).foldl (cleanStep r) st = cs.foldl (cleanStep r) st := by
  induction cs with
  | nil => intro st; rfl
  | cons c cs ih =>
    intro st
    by_cases hc : c = []
    · subst hc; exact ih st
    · rw [List.filter_cons_of_pos (by simpa using hc)]; exact ih _

/-- `Clean` reads only the non-empty elements -/
theorem cleanComps_comps (r : Bool) (p : Str) : cleanComps r (comps p) = cleanComps r (split p) := by
  rw [cleanComps, comps, foldl_cleanStep_filter, cleanComps]

theorem cleanComps_normals (r : Bool) (cs : List Comp) (h : ∀ c ∈ cs, Normal c) : cleanComps r cs = cs := by
  rw [cleanComps, foldl_cleanStep_normals r cs h, List.append_nil, List.reverse_reverse]

theorem comps_append_slash (a b : Str) : comps (a ++ '/' :: b) = comps a ++ comps b := by
  rw [comps, split_append_slash, List.filter_append, comps, comps]

theorem rel_elems (cs : List Comp) (k : Nat) (h : ∀ c ∈ cs, Normal c) :
    ∀ c ∈ List.replicate k dotdot ++ cs, c ≠ [] ∧ '/' ∉ c := by
  intro c hc
  rcases List.mem_append.1 hc with hc | hc
  · rw [List.eq_of_mem_replicate hc]; decide
  · exact ⟨(h c hc).ne_nil, (h c hc).noslash⟩

theorem clean_fix_of_shape (q : Str) (hq : CleanShape q) : clean q = q := by
  cases hq with
  | dot => decide
  | rooted cs h => rw [clean_rooted, ← cleanComps_comps, comps_rooted_join cs h, cleanComps_normals true cs h]
  | rel k cs h hne =>
    have hsp := split_joinSlash _ hne fun c hc => (rel_elems cs k h c hc).2
    rw [clean_unrooted _ (by rw [hsp]; exact fun hin => (rel_elems cs k h [] hin).1 rfl), hsp, cleanComps_rel k cs h,
      if_neg hne]

theorem clean_idem (p : Str) : clean (clean p) = clean p := clean_fix_of_shape _ (clean_shape p)

/-! ### `filepath.Dir` of a cleaned absolute path drops the last element -/

theorem uptoLastSlash_append (x l : Str) (hl : '/' ∉ l) : uptoLastSlash (x ++ '/' :: l) = x ++ ['/'] := by
  unfold uptoLastSlash
  have : (x ++ '/' :: l).reverse = l.reverse ++ ('/' :: x.reverse) := by simp
  rw [this, List.dropWhile_append_of_pos]
  · simp
  · intro c hc
    simp at hc ⊢
    intro e; subst e; exact hl hc

theorem dirOf_rooted (ts : List Comp) (h : ∀ c ∈ ts, Normal c) (hne : ts ≠ []) :
    dirOf ('/' :: joinSlash ts) = '/' :: joinSlash ts.dropLast := by
  obtain ⟨init, l, rfl⟩ : ∃ init l, ts = init ++ [l] := ⟨ts.dropLast, ts.getLast hne, (List.dropLast_concat_getLast hne).symm⟩
  have hl : '/' ∉ l := (h l (by simp)).noslash
  have hinit : ∀ c ∈ init, Normal c := fun c hc => h c (by simp [hc])
  -- up to the last `/` the path is rooted and has the elements `init`, whether or not `init` is empty
  obtain ⟨r, hr, hc⟩ : ∃ r, uptoLastSlash ('/' :: joinSlash (init ++ [l])) = '/' :: r ∧ comps ('/' :: r) = init := by
    by_cases hi : init = []
    · subst hi; exact ⟨[], uptoLastSlash_append [] l hl, rfl⟩
    · refine ⟨joinSlash init ++ ['/'], ?_, ?_⟩
      · rw [joinSlash_append init [l] hi (by simp)]; exact uptoLastSlash_append ('/' :: joinSlash init) l hl
      · rw [← List.cons_append, comps_append_slash, comps_rooted_join init hinit]; exact List.append_nil _
  rw [dirOf, hr, clean_rooted, ← cleanComps_comps, hc, cleanComps_normals true init hinit, List.dropLast_concat]
theorem comps_dirOf (ts : List Comp) (h : ∀ c ∈ ts, Normal c) :
    comps (dirOf ('/' :: joinSlash ts)) = ts.dropLast := by
  by_cases hne : ts = []
  · subst hne; decide
  · rw [dirOf_rooted ts h hne, comps_rooted_join]
    intro c hc
    exact h c (List.dropLast_subset ts hc)

theorem comps_dirOf_join (dest name : Str) (habs : dest.head? = some '/') :
    comps (dirOf (join dest name)) = (comps (join dest name)).dropLast := by
  obtain ⟨d0, rfl⟩ := List.head?_eq_some_iff.1 habs
  rw [join_abs, comps_dirOf _ (cleanComps_rooted_normal _), comps_rooted_join _ (cleanComps_rooted_normal _)]

theorem cleanStep_dotdot_persists (st : List Comp) (c : Comp) (h : dotdot ∈ st) : dotdot ∈ cleanStep false st c := by
  rcases cleanStep_cases false st c with ⟨e, _⟩ | ⟨⟨top, rest, htop, rfl, e⟩, _⟩ | ⟨e, _, _⟩ | ⟨e, _⟩
  · rw [e]; exact h
  · rw [e]; exact (List.mem_cons.1 h).resolve_left fun e => htop e.symm
  · rw [e]; exact List.mem_cons_of_mem _ h
  · rw [e]; exact List.mem_cons_of_mem _ h

theorem foldl_dotdot_persists (cs st : List Comp) (h : dotdot ∈ st) : dotdot ∈ cs.foldl (cleanStep false) st :=
  List.foldlRecOn (motive := (dotdot ∈ ·)) cs _ h fun st h c _ => cleanStep_dotdot_persists st c h

/-- the hypothesis on the final stack covers every intermediate one: a `..` once pushed is never popped
    (`foldl_dotdot_persists`) -/
theorem foldl_rooted_over (cs : List Comp) (S : List Comp) :
    ∀ S0, dotdot ∉ S0 → dotdot ∉ cs.foldl (cleanStep false) S0 →
      cs.foldl (cleanStep true) (S0 ++ S) = cs.foldl (cleanStep false) S0 ++ S := by
  induction cs with
  | nil => intro S0 _ _; rfl
  | cons c rest ih =>
    intro S0 h0 hfin
    simp only [List.foldl_cons] at hfin ⊢
    have hstep0 : dotdot ∉ cleanStep false S0 c := by
      intro hin; exact hfin (foldl_dotdot_persists rest _ hin)
    have hstep : cleanStep true (S0 ++ S) c = cleanStep false S0 c ++ S := by
      rcases cleanStep_cases false S0 c with ⟨e, hc⟩ | ⟨⟨top, rest, htop, rfl, e⟩, rfl⟩ | ⟨e, _, _⟩ | ⟨e, h1, h2, h3⟩
      · rw [e, cleanStep_skip true _ hc]
      · rw [e]; exact cleanStep_pop true _ htop
      · rw [e] at hstep0; exact absurd (List.mem_cons_self ..) hstep0
      · rw [e, cleanStep_push true _ h1 h2 h3]; rfl
    rw [hstep]
    exact ih _ hstep0 hfin

/-- what a relative name means to `Spec/Extract.lean`: its elements after `Clean` of the name alone, not rooted -/
def relComps (name : Str) : List Comp := cleanComps false (split name)

theorem cleanComps_join_local (d0 name : Str) (h : dotdot ∉ relComps name) :
    cleanComps true (split ('/' :: d0 ++ '/' :: name)) = cleanComps true (split ('/' :: d0)) ++ relComps name := by
  rw [show '/' :: d0 ++ '/' :: name = ('/' :: d0) ++ '/' :: name from rfl, split_append_slash]
  unfold relComps cleanComps at *
  rw [List.foldl_append]
  have h' : dotdot ∉ List.foldl (cleanStep false) [] (split name) := by simpa using h
  have := foldl_rooted_over (split name) (List.foldl (cleanStep true) [] (split ('/' :: d0))) [] (by simp) h'
  simp only [List.nil_append] at this
  rw [this]
  simp

theorem comps_join_local (dest name : Str) (habs : dest.head? = some '/') (h : dotdot ∉ relComps name) :
    comps (join dest name) = comps (clean dest) ++ relComps name := by
  obtain ⟨d0, rfl⟩ := List.head?_eq_some_iff.1 habs
  rw [comps_join_abs, comps_clean_abs, cleanComps_join_local d0 name h]

theorem guard_pass (dest name : Str) (acc : Bool) (habs : dest.head? = some '/') (h : dotdot ∉ relComps name)
    (hd : comps (clean dest) ≠ []) (hk : relComps name ≠ [] ∨ acc = true) :
    guardOK acc dest (join dest name) = true := by
  rw [guardOK_iff dest name acc habs, comps_join_local dest name habs h]
  by_cases hk0 : relComps name = []
  · refine .inl ⟨hk.resolve_left (· hk0), ?_⟩
    obtain ⟨d0, rfl⟩ := List.head?_eq_some_iff.1 habs
    rw [join_abs, clean_rooted, cleanComps_join_local d0 name h, hk0, List.append_nil]
  · exact .inr ⟨hd, _, hk0, rfl⟩

end LlgoVerif.Path
