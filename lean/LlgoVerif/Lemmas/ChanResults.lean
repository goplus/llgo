import LlgoVerif.Lemmas.ChanHist
/-! C10, select-free programs, fixed variant: the channel history (`sentBy`, `recvBy`) agrees with what the threads
    report — per sender, per receiver, in order; a served receiver that has not returned yet holds its value. -/
namespace LlgoVerif.Chan

theorem sentVals_same {th th' : Thread} (h : th'.res = th.res) (c : Cid) : sentVals th' c = sentVals th c := by
  unfold sentVals; rw [h]

theorem okVals_same {th th' : Thread} (h : th'.res = th.res) (c : Cid) : okVals th' c = okVals th c := by
  unfold okVals; rw [h]

theorem filter_fst_snoc (l : List (Tid × Val)) (u t : Tid) (v : Val) :
    ((l ++ [(u, v)]).filter (·.1 == t)).map (·.2) = (l.filter (·.1 == t)).map (·.2) ++ (if u = t then [v] else []) := by
  rw [List.filter_append, List.map_append]
  congr 1
  by_cases hu : u = t <;> simp [hu]

theorem sentFrom_snoc {ch ch' : Chan} {u : Tid} {v : Val} (h : ch'.sentBy = ch.sentBy ++ [(u, v)]) (t : Tid) :
    sentFrom ch' t = sentFrom ch t ++ (if u = t then [v] else []) := by
  unfold sentFrom; rw [h]; exact filter_fst_snoc _ u t v

theorem handedTo_snoc {ch ch' : Chan} {u : Tid} {v : Val} (h : ch'.recvBy = ch.recvBy ++ [(u, v)]) (t : Tid) :
    handedTo ch' t = handedTo ch t ++ (if u = t then [v] else []) := by
  unfold handedTo; rw [h]; exact filter_fst_snoc _ u t v

theorem sentFrom_same {ch ch' : Chan} (h : ch'.sentBy = ch.sentBy) (t : Tid) : sentFrom ch' t = sentFrom ch t := by
  unfold sentFrom; rw [h]

theorem handedTo_same {ch ch' : Chan} (h : ch'.recvBy = ch.recvBy) (t : Tid) : handedTo ch' t = handedTo ch t := by
  unfold handedTo; rw [h]

structure HistInv (s : State) : Prop where
  /-- a thread inside an operation has its receive variable: `rv.set 0 v` on an empty list would lose a delivered value -/
  rvlen : ∀ t p, (s.thread t).pc = .at p → 0 < (s.thread t).rv.length
  sentL : ∀ t c, c < s.chans.length → sentFrom (s.chan c) t = sentVals (s.thread t) c
  recvL : ∀ t c, c < s.chans.length →
    handedTo (s.chan c) t =
      okVals (s.thread t) c ++ inflightOf (s.thread t).pc (s.thread t).rv c (s.chan c).recvseq

/-- the invariant reads of a thread its results, what it has in flight, and whether it has a receive variable -/
theorem HistInv.setThread {s : State} (h : HistInv s) (t : Tid) (th : Thread) (hres : th.res = (s.thread t).res)
    (hfl : ∀ c rs, inflightOf th.pc th.rv c rs = inflightOf (s.thread t).pc (s.thread t).rv c rs)
    (hrv : ∀ p, th.pc = .at p → 0 < th.rv.length) : HistInv (s.setThread t th) := by
  constructor
  · intro t' p hp
    rcases thread_setThread_cases s t t' th with ⟨rfl, e⟩ | e <;> rw [e] at hp ⊢
    · exact hrv p hp
    · exact h.rvlen t' p hp
  · intro t' c hc
    show sentFrom (s.chan c) t' = _
    rcases thread_setThread_cases s t t' th with ⟨rfl, e⟩ | e <;> rw [e]
    · rw [sentVals_same hres]; exact h.sentL t c hc
    · exact h.sentL t' c hc
  · intro t' c hc
    show handedTo (s.chan c) t' = _ ++ inflightOf _ _ c (s.chan c).recvseq
    rcases thread_setThread_cases s t t' th with ⟨rfl, e⟩ | e <;> rw [e]
    · rw [okVals_same hres, hfl]; exact h.recvL t c hc
    · exact h.recvL t' c hc

theorem armed_ne_sender {s : State} {t u : Tid} {p : Point} {c c' : Cid} {b : Bool} {seq : Nat} {v : Val}
    (hat : atRecv2 (s.thread u).pc c b seq) (hpc : (s.thread t).pc = .at p) (hp : p.lock = .sendLock c' v) : u ≠ t := by
  rintro rfl
  obtain ⟨_, e, hl⟩ := hat
  rw [hpc] at e; cases e
  rw [hl] at hp; cases hp

theorem inflightOf_at {p : Point} {c' : Cid} {b : Bool} {seq : Nat} (h : p.lock = .recv2Lock c' b seq) (rv : List Val)
    (c : Cid) (rs : Nat) : inflightOf (.at p) rv c rs = if c' = c ∧ seq < rs then [rv.getD 0 0] else [] :=
  inflightOf_eq_of_lock h rv c rs

theorem inflightOf_atRecv2 {pc : PC} {c : Cid} {b : Bool} {seq : Nat} (h : atRecv2 pc c b seq) (rv : List Val) (rs : Nat) :
    inflightOf pc rv c rs = if seq < rs then [rv.getD 0 0] else [] := by
  obtain ⟨p, rfl, hl⟩ := h
  simp [inflightOf_at hl]

theorem inflightOf_succ_ne (pc : PC) (rv : List Val) (c : Cid) (rs : Nat)
    (h : ∀ b, ¬ atRecv2 pc c b rs) : inflightOf pc rv c (rs + 1) = inflightOf pc rv c rs := by
  cases pc with
  | «at» p =>
    by_cases hl : ∃ c' b seq, p.lock = .recv2Lock c' b seq
    · obtain ⟨c', b, seq, hl⟩ := hl
      rw [inflightOf_at hl, inflightOf_at hl]
      by_cases hc : c' = c
      · subst hc
        have : seq ≠ rs := fun e => h b ⟨p, rfl, e ▸ hl⟩
        have h1 : (seq < rs + 1) = (seq < rs) := by apply propext; omega
        simp [h1]
      · simp [hc]
    · cases p <;> first | rfl | exact absurd ⟨_, _, _, rfl⟩ hl
  | _ => rfl

/-- A step at `p` changes no thread's view of another channel: the acting thread's new result is on `p.chan`, its new pc on `p.chan`
    or an entry pc; a `Memcpy` into another thread's variable finds that thread in its second phase on `p.chan`. -/
theorem view_other_chan {s s' : State} {t : Tid} {p : Point} (st : PlainStep s s' t p) (ha : ArmInv s) (hpl : p.plain = true)
    (hpc : (s.thread t).pc = .at p) {c : Cid} (hcc : c ≠ p.chan) (x : Tid) (rs : Nat) :
    sentVals (s'.thread x) c = sentVals (s.thread x) c ∧ okVals (s'.thread x) c = okVals (s.thread x) c ∧
    inflightOf (s'.thread x).pc (s'.thread x).rv c rs = inflightOf (s.thread x).pc (s.thread x).rv c rs := by
  by_cases hx : x = t
  · subst hx
    rw [hpc, inflightOf_other_chan p _ c _ (Ne.symm hcc)]
    rcases st.self.shape hpl with ⟨q, hq, _, m⟩ | ⟨r, en, hr⟩
    · exact ⟨sentVals_same m.res c, okVals_same m.res c, by rw [m.pc]; exact inflightOf_other_chan q _ c rs (hq ▸ Ne.symm hcc)⟩
    · rw [sentVals_res en.res c, okVals_res en.res c]
      refine ⟨?_, ?_, inflightOf_entry en.pc _ c rs⟩
      · rcases hr with rfl | rfl | ⟨v, rfl⟩ | ⟨v, ok, rfl⟩ <;> simp [sentOf, Ne.symm hcc]
      · rcases hr with rfl | rfl | ⟨v, rfl⟩ | ⟨v, _ | _, rfl⟩ <;> simp [okOf, Ne.symm hcc]
  · have sb := st.others x hx
    refine ⟨sentVals_same sb.res c, okVals_same sb.res c, ?_⟩
    rw [sb.pc, sb.rv]
    show inflightOf _ (rvAfter _ x (s.thread x).rv) c rs = _
    cases body_hist p t (s.chan p.chan) hpl with
    | same _ _ _ hd | push _ _ _ _ hd => rw [hd]; rfl
    | pop _ _ _ hd => rw [hd, rvAfter_ne (Ne.symm hx)]
    | hand v hcap hg hcl _ _ _ hd =>
      have hc0 : p.chan < s.chans.length := Classical.byContradiction fun hn => by
        rw [chan_of_ge (Nat.le_of_not_lt hn)] at hg; exact absurd hg (by decide)
      obtain ⟨u, b, hsl, q, e', hl⟩ := ha.armed p.chan hc0 hcap hg hcl
      rw [hd, hsl]
      by_cases hu : u = x
      · subst hu
        have h1 : ∀ rv, inflightOf (s.thread u).pc rv c rs = [] := fun rv => by
          rw [e']; exact inflightOf_other_chan q _ _ _ (by rw [← Point.chan_of_lock hl]; exact Ne.symm hcc)
        rw [h1, h1]
      · exact congrArg (inflightOf _ · c rs) (rvAfter_ne hu 0 v _)

theorem self_same_chan {s : State} {t : Tid} {p : Point} (hi : HistInv s) (ha : ArmInv s) (hpl : p.plain = true)
    (hc0 : p.chan < s.chans.length) (hfix : (s.chan p.chan).fixed = true) (hpc : (s.thread t).pc = .at p)
    (th' : Thread)
    (hself : SelfAfter (s.thread t) th' p.chan
      (rvAfter (body p t (s.chan p.chan)).deliver t (s.thread t).rv) (body p t (s.chan p.chan)).out.after) :
    sentFrom (body p t (s.chan p.chan)).ch t = sentVals th' p.chan ∧
    handedTo (body p t (s.chan p.chan)).ch t =
      okVals th' p.chan ++ inflightOf th'.pc th'.rv p.chan (body p t (s.chan p.chan)).ch.recvseq := by
  have ihS := hi.sentL t p.chan hc0
  have ihR := hi.recvL t p.chan hc0
  rw [hpc, inflightOf_eq_of_lock rfl] at ihR
  have hrv := hi.rvlen t p hpc
  have hs := body_crit p t (s.chan p.chan)
  generalize body p t (s.chan p.chan) = r at hs hself ⊢
  -- in every branch the history of the channel and the thread's record change by the same value, or not at all
  cases hs with
  | sendParkNotify hp | sendParkU hp | sendParkB hp | recvParkU hp | recvParkB hp | recv2Park hp =>
    obtain ⟨m, _⟩ := hself
    rw [hp] at ihR
    rw [sentVals_same m.res, okVals_same m.res, m.pc, m.rv]
    exact ⟨ihS, ihR⟩
  | sendPanic hp =>
    obtain ⟨e1, e2, _⟩ := hself
    rw [sentVals_res e2, okVals_res e2, e1]
    simpa [hp, sentFrom, handedTo, sentOf, okOf, inflightOf] using And.intro ihS ihR
  | closePanic =>
    obtain ⟨e1, e2, _⟩ := hself
    rw [sentVals_res e2, okVals_res e2, e1]
    simpa [Point.lock, sentFrom, handedTo, sentOf, okOf, inflightOf] using And.intro ihS ihR
  | close =>
    rw [sentVals_res hself.res, okVals_res hself.res, inflightOf_entry hself.pc]
    simpa [Point.lock, sentFrom, handedTo, resOf, sentOf, okOf, inflightOf] using And.intro ihS ihR
  | recvClosed hp =>
    rw [sentVals_res hself.res, okVals_res hself.res, inflightOf_entry hself.pc]
    simpa [hp, sentFrom, handedTo, resOf, sentOf, okOf, inflightOf] using And.intro ihS ihR
  | recvArm hp =>
    rw [sentVals_same hself.res, okVals_same hself.res, hself.pc]
    simpa [hp, sentFrom, handedTo, inflightOf] using And.intro ihS ihR
  | @sendPush _ c v n hp =>
    obtain rfl : c = p.chan := Point.chan_of_lock hp
    rw [sentVals_res hself.res, okVals_res hself.res, inflightOf_entry hself.pc]
    simpa [hp, Chan.push, sentFrom, handedTo, resOf, sentOf, okOf, inflightOf] using And.intro ihS ihR
  | @sendHandOff _ c v n hp _ hcap hg hcl =>
    obtain rfl : c = p.chan := Point.chan_of_lock hp
    obtain ⟨u, b, hsl, hat⟩ := ha.armed p.chan hc0 hcap hg hcl
    have hut : u ≠ t := armed_ne_sender hat hpc hp
    rw [sentVals_res hself.res, okVals_res hself.res, inflightOf_entry hself.pc]
    simpa [hp, Chan.handOff_eq, hsl, sentFrom, handedTo, resOf, sentOf, okOf, inflightOf, hut] using And.intro ihS ihR
  | @recvPop _ c sl hl =>
    cases Point.plain_recv hpl hl
    obtain rfl : c = p.chan := Point.chan_of_lock hl
    rw [sentVals_res hself.res, okVals_res hself.res, inflightOf_entry hself.pc]
    simpa [hl, Chan.pop, sentFrom, handedTo, resOf, rvAfter, hrv, sentOf, okOf, inflightOf] using And.intro ihS ihR
  | @recv2Ret _ c b seq hp hw =>
    cases Point.plain_recv2 hpl hp
    have hc : c = p.chan := Point.chan_of_lock hp
    subst hc
    have hle : seq ≤ (s.chan p.chan).recvseq :=
      (ha.arm t p.chan false seq hc0 ⟨p, hpc, hp⟩).le
    rw [sentVals_res hself.res, okVals_res hself.res, inflightOf_entry hself.pc]
    -- `ok = (recvseq ≠ seq)`: the value was handed over exactly if it is in flight
    by_cases hs : (s.chan p.chan).recvseq = seq
    · have hb : ((s.chan p.chan).recvseq != seq) = false := by simp [hs]
      simpa [hp, sentFrom, handedTo, resOf, rvAfter, sentOf, okOf, inflightOf, hfix, hb, hs] using And.intro ihS ihR
    · have hlt : seq < (s.chan p.chan).recvseq := by omega
      have hb : ((s.chan p.chan).recvseq != seq) = true := by simp [bne_iff_ne, hs]
      simpa [hp, sentFrom, handedTo, resOf, rvAfter, sentOf, okOf, inflightOf, hfix, hb, hlt] using And.intro ihS ihR
  | trySendFail | trySendHandOff | trySendPush | tryRecvIdle | tryRecvDeclined | tryRecvArm | tryRecvPop | prepSend | prep
  | endSend | endSel => cases hpl

theorem others_same_chan {s : State} {t t' : Tid} {p : Point} (hi : HistInv s) (ha : ArmInv s) (hpl : p.plain = true)
    (hc0 : p.chan < s.chans.length) (hfix : (s.chan p.chan).fixed = true) (hne : t' ≠ t) :
    sentFrom (body p t (s.chan p.chan)).ch t' = sentVals (s.thread t') p.chan ∧
    handedTo (body p t (s.chan p.chan)).ch t' = okVals (s.thread t') p.chan ++
      inflightOf (s.thread t').pc (rvAfter (body p t (s.chan p.chan)).deliver t' (s.thread t').rv) p.chan
        (body p t (s.chan p.chan)).ch.recvseq := by
  have ihS := hi.sentL t' p.chan hc0
  have ihR := hi.recvL t' p.chan hc0
  have hnt : t ≠ t' := Ne.symm hne
  cases body_hist p t (s.chan p.chan) hpl with
  | same hs hr hq hd => rw [sentFrom_same hs, handedTo_same hr, hq, hd]; exact ⟨ihS, ihR⟩
  | push v hs hr hq hd =>
    rw [sentFrom_snoc hs, handedTo_same hr, hq, hd, if_neg hnt, List.append_nil]; exact ⟨ihS, ihR⟩
  | pop hs hr hq hd =>
    rw [sentFrom_same hs, handedTo_snoc hr, hq, hd, if_neg hnt, List.append_nil]
    exact ⟨ihS, by rw [rvAfter_ne hnt]; exact ihR⟩
  | hand v hcap hg hcl hs hr hq hd =>
    obtain ⟨u, b, hsl, hat⟩ := ha.armed p.chan hc0 hcap hg hcl
    rw [hsl, Option.map_some] at hr hd
    rw [Option.toList_some] at hr
    rw [sentFrom_snoc hs, handedTo_snoc hr, hq, hd, if_neg hnt, List.append_nil, Chan.bump, if_pos hfix]
    refine ⟨ihS, ?_⟩
    by_cases hu : u = t'
    · subst hu
      obtain ⟨q, hq', _⟩ := hat
      have hrvl : 0 < (s.thread u).rv.length := hi.rvlen u q hq'
      have hat : atRecv2 (s.thread u).pc p.chan b (s.chan p.chan).recvseq := ⟨q, hq', ‹_›⟩
      rw [inflightOf_atRecv2 hat, if_neg (Nat.lt_irrefl _), List.append_nil] at ihR
      rw [inflightOf_atRecv2 hat, if_pos (Nat.lt_succ_self _), if_pos rfl, rvAfter_self, getD_set_self _ _ _ _ hrvl, ihR]
    · rw [if_neg hu, List.append_nil, rvAfter_ne hu, inflightOf_succ_ne]
      · exact ihR
      · intro b' hat'
        have := (ha.arm t' p.chan b' _ hc0 hat').still rfl
        rw [hsl] at this
        exact hu (congrArg Target.tid (Option.some.inj this.2))

theorem exec_histInv {s : State} {t : Tid} (hi : HistInv s) (ha : ArmInv s) (hpi : PlainInv s) (hfx : FixInv true s)
    (hr : runnable s t = true) : HistInv (exec s t) := by
  rcases plain_cases hpi hr with ⟨_, hpc, e, en⟩ | ⟨p0, hpc, hpl, st⟩
  · rw [e]
    exact hi.setThread t _ en.res (fun c rs => by rw [inflightOf_entry en.pc, hpc]; rfl) fun p hp => by rw [en.rv p hp]; simp
  · have hch := st.chans
    have hoth := st.others
    have hself := st.self
    have hlen := chans_length_set hch
    have key : ∀ t' c, c < s.chans.length →
        sentFrom ((exec s t).chan c) t' = sentVals ((exec s t).thread t') c ∧
        handedTo ((exec s t).chan c) t' = okVals ((exec s t).thread t') c ++
          inflightOf ((exec s t).thread t').pc ((exec s t).thread t').rv c ((exec s t).chan c).recvseq := by
      intro t' c hc
      by_cases hcc : c = p0.chan
      · have hc0 : p0.chan < s.chans.length := hcc ▸ hc
        rw [hcc, chan_set_self hch hc0]
        by_cases htt : t' = t
        · rw [htt]; exact self_same_chan hi ha hpl hc0 (hfx p0.chan hc0) hpc _ hself
        · have sb := hoth t' htt
          rw [sentVals_same sb.res, okVals_same sb.res, sb.pc, sb.rv]
          exact others_same_chan hi ha hpl hc0 (hfx p0.chan hc0) htt
      · obtain ⟨e1, e2, e3⟩ := view_other_chan st ha hpl hpc hcc t' (s.chan c).recvseq
        rw [chan_set_ne hch hcc, e1, e2, e3]
        exact ⟨hi.sentL t' c hc, hi.recvL t' c hc⟩
    refine ⟨?_, fun t' c hc => (key t' c (hlen ▸ hc)).1, fun t' c hc => (key t' c (hlen ▸ hc)).2⟩
    intro t' p hp
    by_cases htt : t' = t
    · rw [htt] at hp ⊢
      rcases hself.shape hpl with ⟨_, _, _, m⟩ | ⟨_, en, _⟩
      · rw [m.rv, rvAfter_length]; exact hi.rvlen t p0 hpc
      · rw [en.rv p hp]; simp
    · have := hoth t' htt
      rw [this.pc] at hp
      rw [this.rv]
      show 0 < (rvAfter _ t' (s.thread t').rv).length
      rw [rvAfter_length]; exact hi.rvlen t' p hp

theorem wake_histInv {s : State} (h : HistInv s) (t : Tid) :
    HistInv (s.setThread t { s.thread t with waiting := false }) :=
  h.setThread t _ rfl (fun _ _ => rfl) (h.rvlen t)

theorem init_histInv (cfg : Cfg) (caps : List Nat) (progs : List (List Op)) : HistInv (init cfg caps progs) := by
  have hth : ∀ t, ((init cfg caps progs).thread t).res = [] ∧
      (((init cfg caps progs).thread t).pc = .start ∨ ((init cfg caps progs).thread t).pc = .done) := by
    intro t
    rcases init_thread cfg caps progs t with ⟨ops, _, e⟩ | e <;> rw [e]
    · exact ⟨rfl, Or.inl rfl⟩
    · exact ⟨rfl, Or.inr rfl⟩
  have hch : ∀ c, ((init cfg caps progs).chan c).sentBy = [] ∧ ((init cfg caps progs).chan c).recvBy = [] := by
    intro c
    obtain ⟨cfg', cap, e, _⟩ := init_chan cfg caps progs c
    rw [e]; exact ⟨rfl, rfl⟩
  constructor
  · intro t p hp
    rcases (hth t).2 with e | e <;> (rw [e] at hp; cases hp)
  · intro t c _
    simp [sentFrom, sentVals, (hch c).1, (hth t).1]
  · intro t c _
    have : inflightOf ((init cfg caps progs).thread t).pc ((init cfg caps progs).thread t).rv c
        ((init cfg caps progs).chan c).recvseq = [] := by
      rcases (hth t).2 with e | e <;> (rw [e]; rfl)
    simp [handedTo, okVals, (hch c).2, (hth t).1, this]

theorem reachable_plain_fixed {caps : List Nat} {progs : List (List Op)} {s : State} (hns : noSelect progs = true)
    (h : Reachable (init .fixed caps progs) s) : ArmInv s ∧ HistInv s :=
  h.induct (P := fun s => ArmInv s ∧ HistInv s) ⟨init_armInv _ _ _, init_histInv _ _ _⟩
    (fun _ _ hr ⟨i2, i3⟩ hrun =>
      have i1 := reachable_plainInv hns hr
      have hfx := reachable_fixInv hr
      ⟨exec_armInv i2 i1 hfx hrun, exec_histInv i3 i2 i1 hfx hrun⟩)
    (fun _ t ⟨i2, i3⟩ => ⟨wake_armInv i2 t, wake_histInv i3 t⟩)

theorem zip_vals_eq {α β γ : Type} (f : α → γ) (g : β → γ) :
    ∀ (a : List α) (b : List β), a.map f = b.map g → ∀ x ∈ a.zip b, f x.1 = g x.2 := by
  intro a
  induction a with
  | nil => intro b _ x hx; simp at hx
  | cons a0 a ih =>
    intro b hm x hx
    cases b with
    | nil => simp at hx
    | cons b0 b =>
      simp only [List.map_cons, List.cons.injEq] at hm
      simp only [List.zip_cons_cons, List.mem_cons] at hx
      rcases hx with e | hx
      · rw [e]; exact hm.1
      · exact ih b hm.2 x hx

theorem filter_and_sublist_right {α : Type} (l : List α) (p q : α → Bool) :
    (l.filter fun x => p x && q x).Sublist (l.filter q) := by
  rw [← List.filter_filter]; exact List.filter_sublist

theorem filter_and_sublist_left {α : Type} (l : List α) (p q : α → Bool) :
    (l.filter fun x => p x && q x).Sublist (l.filter p) := by
  rw [show (fun x => p x && q x) = fun x => q x && p x from funext fun x => Bool.and_comm _ _]
  exact filter_and_sublist_right l q p

/-- the values that went from sender `S` to receiver `R` on this channel, in hand-off order (the k-th hand-off pairs
    `sentBy[k]` with `recvBy[k]`) -/
def pairVals (ch : Chan) (S R : Tid) : List Val :=
  ((ch.sentBy.zip ch.recvBy).filter fun x => x.1.1 == S && x.2.1 == R).map (·.1.2)

theorem pairVals_sublist (ch : Chan) (S R : Tid) (hv : ch.sentBy.map (·.2) = ch.recvBy.map (·.2)) :
    (pairVals ch S R).Sublist (sentFrom ch S) ∧ (pairVals ch S R).Sublist (handedTo ch R) := by
  have hl : ch.sentBy.length = ch.recvBy.length := by simpa using congrArg List.length hv
  have e1 : ch.sentBy = (ch.sentBy.zip ch.recvBy).map Prod.fst := (List.map_fst_zip (by omega)).symm
  have e2 : ch.recvBy = (ch.sentBy.zip ch.recvBy).map Prod.snd := (List.map_snd_zip (by omega)).symm
  constructor
  · unfold pairVals sentFrom
    conv => rhs; rw [e1]
    rw [List.filter_map, List.map_map]
    exact (filter_and_sublist_left (ch.sentBy.zip ch.recvBy) (fun x => x.1.1 == S) (fun x => x.2.1 == R)).map _
  · unfold pairVals handedTo
    conv => rhs; rw [e2]
    rw [List.filter_map, List.map_map]
    have hmap : ((ch.sentBy.zip ch.recvBy).filter fun x => x.1.1 == S && x.2.1 == R).map (·.1.2) =
        ((ch.sentBy.zip ch.recvBy).filter fun x => x.1.1 == S && x.2.1 == R).map ((fun y : Tid × Val => y.2) ∘ Prod.snd) := by
      apply List.map_congr_left
      intro x hx
      have hx' := (List.mem_filter.mp hx).1
      exact zip_vals_eq (·.2) (·.2) _ _ hv x hx'
    rw [hmap]
    exact (filter_and_sublist_right (ch.sentBy.zip ch.recvBy) (fun x => x.1.1 == S) (fun x => x.2.1 == R)).map _

end LlgoVerif.Chan
