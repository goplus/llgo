import LlgoVerif.Model.PySyms
namespace LlgoVerif.PyGuard

theorem splitLast_cases (s : Name) :
    (splitLast s = none ∧ '.' ∉ s) ∨ ∃ m a, splitLast s = some (m, a) ∧ s = m ++ '.' :: a ∧ '.' ∉ a := by
  induction s with
  | nil => exact .inl ⟨rfl, List.not_mem_nil⟩
  | cons c r ih =>
    rw [splitLast]
    rcases ih with ⟨h, hn⟩ | ⟨m, a, h, e, hn⟩
    · rw [h]
      by_cases hc : c = '.'
      · exact .inr ⟨[], r, if_pos hc, by rw [hc, List.nil_append], hn⟩
      · exact .inl ⟨if_neg hc, fun hm => (List.mem_cons.1 hm).elim (fun e => hc e.symm) hn⟩
    · rw [h]
      exact .inr ⟨c :: m, a, rfl, congrArg (c :: ·) e, hn⟩

theorem splitLast_eq_none {s : Name} : splitLast s = none ↔ '.' ∉ s := by
  rcases splitLast_cases s with ⟨h, hn⟩ | ⟨m, a, h, e, _⟩
  · exact iff_of_true h hn
  · exact iff_of_false (by rw [h]; exact Option.some_ne_none _) fun hn => hn (e ▸ List.mem_append_right m List.mem_cons_self)

theorem splitLast_spec (s m a : Name) (h : splitLast s = some (m, a)) : s = m ++ '.' :: a ∧ '.' ∉ a := by
  rcases splitLast_cases s with ⟨h0, _⟩ | ⟨m', a', h', e, hn⟩
  · rw [h0] at h; cases h
  · rw [h'] at h; cases h
    exact ⟨e, hn⟩

theorem splitLast_of_eq : ∀ (m a : Name), '.' ∉ a → splitLast (m ++ '.' :: a) = some (m, a) := by
  intro m
  induction m with
  | nil => intro a h; rw [List.nil_append, splitLast, splitLast_eq_none.2 h, if_pos rfl]
  | cons c t ih => intro a h; rw [List.cons_append, splitLast, ih a h]

theorem modOf_spec {s m : Name} (h : modOf s = some m) :
    m ≠ [] ∧ ∃ a, splitLast s = some (m, a) := by
  unfold modOf at h
  cases hs : splitLast s with
  | none => rw [hs] at h; cases h
  | some p =>
    simp only [hs] at h
    by_cases he : p.1.isEmpty = true
    · rw [if_pos he] at h
      cases h
    · rw [if_neg he] at h
      cases h
      exact ⟨fun e => he (by rw [e]; rfl), p.2, rfl⟩

/-- every name of the shape `<non-empty>.<rest>` has a module (llgo's names all start with `__llgo_py.`) -/
theorem modOf_isSome_of_dotted (p r : Name) (hp : p ≠ []) : (modOf (p ++ '.' :: r)).isSome = true := by
  -- were the module part empty, the dot after `p` would lie in the dot-free attribute part
  rcases splitLast_cases (p ++ '.' :: r) with ⟨_, hn⟩ | ⟨m, a, hs, e, hn⟩
  · exact absurd (List.mem_append_right p List.mem_cons_self) hn
  · unfold modOf
    rw [hs]
    cases m with
    | cons _ _ => rfl
    | nil =>
      cases p with
      | nil => exact absurd rfl hp
      | cons c p' =>
        rw [List.nil_append, List.cons_append] at e
        exact absurd (by rw [← (List.cons.inj e).2]; exact List.mem_append_right p' List.mem_cons_self) hn

theorem getOf_addTo (mods : List (Name × List Name)) (m x m' : Name) :
    getOf (addTo mods m x) m' = if m' = m then getOf mods m ++ [x] else getOf mods m' := by
  by_cases h : m' = m
  · subst h
    rw [if_pos rfl]
    induction mods with
    | nil => simp [addTo, getOf]
    | cons kv r ih => by_cases hk : kv.1 = m' <;> simp [addTo, getOf, hk, ih]
  · rw [if_neg h]
    induction mods with
    | nil => simp [addTo, getOf, Ne.symm h]
    | cons kv r ih =>
      by_cases hk : kv.1 = m
      · simp [addTo, getOf, hk, Ne.symm h]
      · simp [addTo, getOf, hk, ih]

theorem mem_getOf_addTo {mods : List (Name × List Name)} {m x m' y : Name} :
    y ∈ getOf (addTo mods m x) m' ↔ y ∈ getOf mods m' ∨ (m' = m ∧ y = x) := by
  rw [getOf_addTo]
  split
  · next h => rw [h, List.mem_append, List.mem_singleton, and_iff_right rfl]
  · next h => rw [or_iff_left fun h' => h h'.1]

/-- in `last` the empty name is Go's `lastMod == ""`, no module yet (`modOf` never yields it) -/
structure GInvS (seen : List Name) (acc : GroupAcc) : Prop where
  sound : ∀ m x, x ∈ getOf acc.mods m → x ∈ seen ∧ ∃ a, splitLast x = some (m, a)
  complete : ∀ x ∈ seen, ∃ m, modOf x = some m ∧ m ∈ acc.modNames ∧ x ∈ getOf acc.mods m
  last : acc.lastMod = [] ∨ acc.lastMod ∈ acc.modNames

/-- what one iteration adds: `name` to the group of its module `m`, and `m` to the module list unless it is the last one seen -/
theorem groupStep_eq {acc acc' : GroupAcc} {name : Name} (h : groupStep acc name = some acc') :
    ∃ m, modOf name = some m ∧ acc'.lastMod = m ∧
      (∀ m' x, x ∈ getOf acc'.mods m' ↔ x ∈ getOf acc.mods m' ∨ (m' = m ∧ x = name)) ∧
      ∀ n, n ∈ acc'.modNames ↔ n ∈ acc.modNames ∨ (n = m ∧ m ≠ acc.lastMod) := by
  unfold groupStep at h
  cases hm : modOf name with
  | none => simp only [hm] at h; cases h
  | some m =>
    simp only [hm] at h
    by_cases hl : m = acc.lastMod
    · rw [if_pos hl] at h; cases h
      exact ⟨m, rfl, hl.symm, fun _ _ => mem_getOf_addTo, fun n => (or_iff_left fun h => h.2 hl).symm⟩
    · rw [if_neg hl] at h; cases h
      exact ⟨m, rfl, rfl, fun _ _ => mem_getOf_addTo, fun n => by rw [List.mem_append, List.mem_singleton, and_iff_left hl]⟩

theorem groupStep_inv {seen : List Name} {acc acc' : GroupAcc} {name : Name}
    (hi : GInvS seen acc) (h : groupStep acc name = some acc') : GInvS (seen ++ [name]) acc' := by
  obtain ⟨m, hm, hlast, hget, hnames⟩ := groupStep_eq h
  obtain ⟨hne, a, hsp⟩ := modOf_spec hm
  have hmn : m ∈ acc'.modNames := by
    by_cases hl : m = acc.lastMod
    · exact (hnames m).2 (.inl (hl ▸ hi.last.resolve_left (hl ▸ hne)))
    · exact (hnames m).2 (.inr ⟨rfl, hl⟩)
  refine ⟨fun m' x hx => ?_, fun x hx => ?_, .inr (hlast ▸ hmn)⟩
  · rcases (hget m' x).1 hx with hx | ⟨rfl, rfl⟩
    · exact ⟨List.mem_append_left _ (hi.sound m' x hx).1, (hi.sound m' x hx).2⟩
    · exact ⟨List.mem_append_right _ (List.mem_singleton_self _), a, hsp⟩
  · rcases List.mem_append.1 hx with hx | hx
    · obtain ⟨mx, h1, h2, h3⟩ := hi.complete x hx
      exact ⟨mx, h1, (hnames mx).2 (.inl h2), (hget mx x).2 (.inl h3)⟩
    · rw [List.mem_singleton.1 hx]
      exact ⟨m, hm, hmn, (hget m name).2 (.inr ⟨rfl, rfl⟩)⟩

theorem group_fold_inv : ∀ (l seen : List Name) (acc acc' : GroupAcc), GInvS seen acc →
    l.foldlM groupStep acc = some acc' → GInvS (seen ++ l) acc' := by
  intro l
  induction l with
  | nil =>
    intro seen acc acc' hi h
    cases h
    rwa [List.append_nil]
  | cons x xs ih =>
    intro seen acc acc' hi h
    rw [List.foldlM_cons] at h
    cases hs : groupStep acc x with
    | none => rw [hs] at h; cases h
    | some acc1 =>
      rw [hs] at h
      rw [List.append_cons]
      exact ih (seen ++ [x]) acc1 acc' (groupStep_inv hi hs) h

theorem group_fold_total : ∀ (l : List Name) (acc : GroupAcc), (∀ n ∈ l, (modOf n).isSome = true) →
    (l.foldlM groupStep acc).isSome = true := by
  intro l
  induction l with
  | nil => intro acc _; rfl
  | cons x xs ih =>
    intro acc h
    obtain ⟨m, hm⟩ := Option.isSome_iff_exists.1 (h x List.mem_cons_self)
    obtain ⟨a1, h1⟩ : ∃ a1, groupStep acc x = some a1 := by
      unfold groupStep
      simp only [hm]
      split <;> exact ⟨_, rfl⟩
    rw [List.foldlM_cons, h1]
    exact ih a1 (fun n hn => h n (List.mem_cons_of_mem _ hn))

theorem ginvS_init : GInvS [] {} :=
  ⟨(by intro m x h; simp [getOf] at h), (by intro x h; cases h), .inl rfl⟩

theorem group_fold_exact (l : List Name) (acc : GroupAcc) (hf : l.foldlM groupStep {} = some acc) :
    (∀ c ∈ acc.modNames.map (fun m => pyLoadModSymsCall m (getOf acc.mods m)), ∀ p ∈ c.pairs,
      p.2 = c.modVar ++ '.' :: p.1 ∧ '.' ∉ p.1 ∧ p.2 ∈ l) ∧
    (∀ n ∈ l, ∃ c ∈ acc.modNames.map (fun m => pyLoadModSymsCall m (getOf acc.mods m)), ∃ attr, (attr, n) ∈ c.pairs) := by
  have hi : GInvS l acc := List.nil_append l ▸ group_fold_inv l [] {} acc ginvS_init hf
  constructor
  · intro c hc p hp
    obtain ⟨m, _, rfl⟩ := List.mem_map.1 hc
    obtain ⟨full, hfull, rfl⟩ := List.mem_map.1 hp
    obtain ⟨hseen, a, hsp⟩ := hi.sound m full hfull
    obtain ⟨he, hnd⟩ := splitLast_spec full m a hsp
    have hdrop : full.drop (m.length + 1) = a := by
      rw [he, List.append_cons]
      exact List.drop_left' (List.length_append ..)
    simp only [pyLoadModSymsCall, hdrop]
    exact ⟨he, hnd, hseen⟩
  · intro n hn
    obtain ⟨m, _, hmn, hg⟩ := hi.complete n hn
    exact ⟨_, List.mem_map.2 ⟨m, hmn, rfl⟩, n.drop (m.length + 1), List.mem_map.2 ⟨n, hg, rfl⟩⟩

theorem pyLoadModSyms_eq (pyobjs : List Name) :
    pyLoadModSyms pyobjs = ((sortNames pyobjs).foldlM groupStep {}).map fun acc =>
      acc.modNames.map fun m => pyLoadModSymsCall m (getOf acc.mods m) := by
  unfold pyLoadModSyms; split <;> simp [*]

theorem mem_insertName {x y : Name} : ∀ {l : List Name}, y ∈ insertName x l ↔ y = x ∨ y ∈ l := by
  intro l
  induction l with
  | nil => exact List.mem_singleton.trans (or_iff_left List.not_mem_nil).symm
  | cons z r ih =>
    rw [insertName]
    split
    · exact List.mem_cons
    · rw [List.mem_cons, ih, List.mem_cons, or_left_comm]

theorem mem_sortNames {l : List Name} {x : Name} : x ∈ sortNames l ↔ x ∈ l := by
  unfold sortNames
  induction l with
  | nil => exact Iff.rfl
  | cons y r ih => rw [List.foldr_cons, mem_insertName, ih, List.mem_cons]

theorem mem_foldl_insert {σ α : Type} {f : σ → α → σ} {π : σ → List α}
    (hf : ∀ s j x, x ∈ π (f s j) ↔ x ∈ π s ∨ x = j) (l : List α) :
    ∀ (s : σ) (x : α), x ∈ π (l.foldl f s) ↔ x ∈ π s ∨ x ∈ l := by
  induction l with
  | nil => intro s x; exact (or_iff_left List.not_mem_nil).symm
  | cons j js ih => intro s x; rw [List.foldl_cons, ih, hf, List.mem_cons, or_assoc]

theorem mem_addObj {objs : List Name} {n x : Name} : x ∈ addObj objs n ↔ x ∈ objs ∨ x = n := by
  unfold addObj
  split
  · next h => exact ⟨.inl, fun h1 => h1.elim id (· ▸ h)⟩
  · rw [List.mem_append, List.mem_singleton]

theorem enqueue_pyobjs (st : CompSt) (j : Nat) : (enqueue st j).pyobjs = st.pyobjs := by
  unfold enqueue; split <;> rfl

theorem mem_enqueue_seen {st : CompSt} {j x : Nat} : x ∈ (enqueue st j).seen ↔ x ∈ st.seen ∨ x = j := by
  unfold enqueue
  split
  · next h => exact ⟨.inl, fun h1 => h1.elim id (· ▸ h)⟩
  · exact List.mem_cons.trans or_comm

theorem enqueue_queue {st : CompSt} {j x : Nat} :
    x ∈ (enqueue st j).queue ↔ x ∈ st.queue ∨ (x = j ∧ j ∉ st.seen) := by
  unfold enqueue
  split
  · next h => exact ⟨.inl, fun h1 => h1.elim id (fun h2 => absurd h h2.2)⟩
  · next h => rw [List.mem_append, List.mem_singleton, and_iff_left h]

theorem foldl_enqueue_pyobjs : ∀ (l : List Nat) (st : CompSt), (l.foldl enqueue st).pyobjs = st.pyobjs := by
  intro l
  induction l with
  | nil => intro st; rfl
  | cons j js ih => intro st; rw [List.foldl_cons, ih, enqueue_pyobjs]

theorem mem_foldl_enqueue_queue : ∀ (l : List Nat) (st : CompSt) (x : Nat),
    x ∈ (l.foldl enqueue st).queue ↔ x ∈ st.queue ∨ (x ∈ l ∧ x ∉ st.seen) := by
  intro l
  induction l with
  | nil => intro st x; exact (or_iff_left fun h => nomatch h.1).symm
  | cons j js ih =>
    intro st x
    rw [List.foldl_cons, ih, enqueue_queue, mem_enqueue_seen, List.mem_cons, or_assoc]
    by_cases hx : x = j <;> simp [hx]

/-- body `i` has been compiled in state `st` -/
def Built (B : Nat → Body) (st : CompSt) (i : Nat) : Prop :=
  (∀ n ∈ (B i).pyRefs, n ∈ st.pyobjs) ∧ (∀ j ∈ (B i).spawns, j ∈ st.seen)

theorem buildBody_spec (B : Nat → Body) (st : CompSt) (i : Nat) :
    (∀ n, n ∈ (buildBody B st i).pyobjs ↔ n ∈ st.pyobjs ∨ n ∈ (B i).pyRefs) ∧
    (∀ j, j ∈ (buildBody B st i).seen ↔ j ∈ st.seen ∨ j ∈ (B i).spawns) ∧
    ∀ j, j ∈ (buildBody B st i).queue ↔ j ∈ st.queue ∨ (j ∈ (B i).spawns ∧ j ∉ st.seen) := by
  unfold buildBody
  -- the state the spawns are queued from differs from `st` in `pyobjs` only
  refine ⟨fun n => ?_, mem_foldl_insert (π := CompSt.seen) (fun _ _ _ => mem_enqueue_seen) _ _,
    mem_foldl_enqueue_queue _ _⟩
  rw [foldl_enqueue_pyobjs]
  exact mem_foldl_insert (π := id) (fun _ _ _ => mem_addObj) _ _ n

/-- invariant while the closures `pending` of the current round are still to be run -/
structure CInv (B : Nat → Body) (roots : List Nat) (pending : List Nat) (st : CompSt) : Prop where
  closed : ∀ i ∈ st.seen, i ∈ pending ∨ i ∈ st.queue ∨ Built B st i
  reach : ∀ i ∈ st.seen, Reach B roots i
  objs : ∀ n ∈ st.pyobjs, ∃ i, Reach B roots i ∧ n ∈ (B i).pyRefs
  roots : ∀ i ∈ roots, i ∈ st.seen
  pend : ∀ i ∈ pending, i ∈ st.seen
  queueSeen : ∀ i ∈ st.queue, i ∈ st.seen

theorem round_fold_inv (B : Nat → Body) (roots : List Nat) : ∀ (pending : List Nat) (st : CompSt),
    CInv B roots pending st → CInv B roots [] (pending.foldl (buildBody B) st) := by
  intro pending
  induction pending with
  | nil => intro st h; exact h
  | cons i rest ih =>
    intro st h
    rw [List.foldl_cons]
    apply ih
    obtain ⟨hobj, hseen, hqueue⟩ := buildBody_spec B st i
    have hri : Reach B roots i := h.reach i (h.pend i List.mem_cons_self)
    refine ⟨fun j hj => ?_, fun j hj => ?_, fun n hn => ?_, fun r hr => (hseen r).2 (.inl (h.roots r hr)),
      fun r hr => (hseen r).2 (.inl (h.pend r (List.mem_cons_of_mem _ hr))),
      fun j hj => (hseen j).2 (((hqueue j).1 hj).imp (h.queueSeen j) And.left)⟩
    · by_cases h1 : j ∈ st.seen
      · rcases h.closed j h1 with h2 | h2 | h2
        · rcases List.mem_cons.1 h2 with rfl | h3
          · exact .inr (.inr ⟨fun n hn => (hobj n).2 (.inr hn), fun k hk => (hseen k).2 (.inr hk)⟩)
          · exact .inl h3
        · exact .inr (.inl ((hqueue j).2 (.inl h2)))
        · exact .inr (.inr ⟨fun n hn => (hobj n).2 (.inl (h2.1 n hn)), fun k hk => (hseen k).2 (.inl (h2.2 k hk))⟩)
      · exact .inr (.inl ((hqueue j).2 (.inr ⟨((hseen j).1 hj).resolve_left h1, h1⟩)))
    · rcases (hseen j).1 hj with h1 | h1
      · exact h.reach j h1
      · exact .spawn hri h1
    · rcases (hobj n).1 hn with h1 | h1
      · exact h.objs n h1
      · exact ⟨i, hri, h1⟩

theorem round_inv (B : Nat → Body) (roots : List Nat) (st : CompSt) (h : CInv B roots [] st) :
    CInv B roots [] (round B st) := by
  unfold round
  apply round_fold_inv
  exact ⟨fun i hi => (h.closed i hi).elim (fun h1 => nomatch h1) (Or.imp_right .inr),
    h.reach, h.objs, h.roots, h.queueSeen, fun _ hi => nomatch hi⟩

theorem rounds_inv (B : Nat → Body) (roots : List Nat) : ∀ (fuel : Nat) (st st' : CompSt),
    CInv B roots [] st → rounds B fuel st = some st' → CInv B roots [] st' ∧ st'.queue = [] := by
  intro fuel
  induction fuel with
  | zero =>
    intro st st' h hr
    rw [rounds] at hr
    split at hr
    · next hq => cases hr; exact ⟨h, List.isEmpty_iff.1 hq⟩
    · cases hr
  | succ n ih =>
    intro st st' h hr
    rw [rounds] at hr
    split at hr
    · next hq => cases hr; exact ⟨h, List.isEmpty_iff.1 hq⟩
    · exact ih _ _ (round_inv B roots st h) hr

theorem cinv_init (B : Nat → Body) (roots : List Nat) : CInv B roots [] (roots.foldl enqueue {}) := by
  have hseen : ∀ i, i ∈ (roots.foldl enqueue {}).seen ↔ i ∈ roots := fun i =>
    (mem_foldl_insert (π := CompSt.seen) (fun _ _ _ => mem_enqueue_seen) roots {} i).trans (or_iff_right List.not_mem_nil)
  have hq : ∀ i, i ∈ (roots.foldl enqueue {}).queue ↔ i ∈ roots := fun i =>
    (mem_foldl_enqueue_queue roots {} i).trans ((or_iff_right List.not_mem_nil).trans (and_iff_left List.not_mem_nil))
  refine ⟨fun i hi => .inr (.inl ((hq i).2 ((hseen i).1 hi))), fun i hi => .root ((hseen i).1 hi), fun n hn => ?_,
    fun i hi => (hseen i).2 hi, fun i hi => (nomatch hi), fun i hi => (hseen i).2 ((hq i).1 hi)⟩
  rw [foldl_enqueue_pyobjs] at hn
  cases hn

/-- when the loop has run dry every reachable body is compiled -/
theorem reach_built {B : Nat → Body} {roots : List Nat} {st : CompSt} (h : CInv B roots [] st) (hq : st.queue = []) :
    ∀ i, Reach B roots i → Built B st i := by
  have hb : ∀ i ∈ st.seen, Built B st i := by
    intro i hi
    rcases h.closed i hi with h1 | h1 | h1
    · cases h1
    · rw [hq] at h1; cases h1
    · exact h1
  intro i hr
  induction hr with
  | root hi => exact hb _ (h.roots _ hi)
  | spawn _ hj ih => exact hb _ (ih.2 _ hj)

theorem rounds_pyobjs {B : Nat → Body} {roots : List Nat} {fuel : Nat} {st : CompSt}
    (h : rounds B fuel (roots.foldl enqueue {}) = some st) (n : Name) :
    n ∈ st.pyobjs ↔ ∃ i, Reach B roots i ∧ n ∈ (B i).pyRefs := by
  obtain ⟨hinv, hq⟩ := rounds_inv B roots fuel _ st (cinv_init B roots) h
  exact ⟨hinv.objs n, fun ⟨i, hi, hn⟩ => (reach_built hinv hq i hi).1 n hn⟩

end LlgoVerif.PyGuard
