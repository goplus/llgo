import LlgoVerif.Model.TypeCvt
/-! Lemmas about the model of `ssa/type_cvt.go`: the lowering is lossless (`unlower` reads every result back as the
    source type) and keeps what method sets are computed from.  Proofs by `fun_induction` / `fun_cases` address the branches
    of a model function by number (`case4`): the numbers shift when a branch is added to the model. -/
namespace LlgoVerif.TypeCvt

def eraseRaw : Head → Head
  | .named i _ => .named i false
  | .ptrNamed i _ => .ptrNamed i false
  | .other => .other

/-- what a field contributes to selector / method-set computations; the head without the raw flag, as promotion does not
    care which twin of a named type is embedded -/
def key (f : Field) : String × Bool × String × Head := (f.name, f.embedded, f.tag, eraseRaw (head f.ty))

def keys (t : GTy) : List (String × Bool × String × Head) := (fieldsOf (some t)).map key

def inames (t : GTy) : List String := (ifaceMethodsOf (some t)).map (·.name)

theorem keys_nonstruct (t : GTy) (h : ∀ fs, t ≠ .struct fs) : keys t = [] := by
  cases t with
  | struct fs => exact absurd rfl (h fs)
  | _ => rfl

theorem inames_noniface (t : GTy) (h : ∀ ms, t ≠ .iface ms) : inames t = [] := by
  cases t with
  | iface ms => exact absurd rfl (h ms)
  | _ => rfl

theorem lookup_cons (i : Nat) (e : Option GTy) (m : Memo) (id : Nat) :
    lookup ((i, e) :: m) id = if i = id then some e else lookup m id := rfl

theorem collapse_cases (l : List Field) : collapse l = .struct l ∨ ∃ ps rs v, collapse l = .sig ps rs v := by
  unfold collapse
  split
  · split
    · exact Or.inr ⟨_, _, _, rfl⟩
    · exact Or.inl rfl
  · exact Or.inl rfl

theorem collapse_of_not_closure {fs : List Field} (h : isClosure fs = false) : collapse fs = .struct fs := by
  unfold collapse
  split
  · simp only [isClosure] at h
    simp only [h, Bool.false_eq_true, if_false]
  · rfl

theorem map_factor {α β γ : Type} (p : α → β) (g : β → γ) {l l' : List α} (h : l.map p = l'.map p) :
    l.map (fun a => g (p a)) = l'.map (fun a => g (p a)) := by
  have := congrArg (List.map g) h
  rw [List.map_map, List.map_map] at this
  exact this

/-- a struct with the field names of a source struct is not taken for a closure -/
theorem isClosure_of_keys {fs fs' : List Field} (hs : isSrcF fs = true) (hk : fs'.map key = fs.map key) :
    isClosure fs' = false := by
  unfold isClosure
  split
  · cases fs with
    | nil => cases hk
    | cons a rest =>
      obtain ⟨n, t, e, tag⟩ := a
      rw [isSrcF, Bool.and_eq_true, Bool.and_eq_true, bne_iff_ne] at hs
      simp only [List.map_cons, List.cons.injEq, key, Prod.mk.injEq, Field.name] at hk
      simp only [hk.1.1, beq_eq_false_iff_ne.mpr hs.1.1, Bool.false_and]
  · rfl

theorem isClosure_src {fs : List Field} (hs : isSrcF fs = true) : isClosure fs = false := isClosure_of_keys hs rfl

theorem collapse_src (fs : List Field) (h : isSrcF fs = true) : collapse fs = .struct fs :=
  collapse_of_not_closure (isClosure_src h)

mutual
theorem unlower_src : (t : GTy) → isSrc t = true → unlower t = t
  | .basic _, _ => rfl
  | .ptr t, h => congrArg GTy.ptr (unlower_src t h)
  | .slice t, h => congrArg GTy.slice (unlower_src t h)
  | .arr n t, h => congrArg (GTy.arr n) (unlower_src t h)
  | .chan d t, h => congrArg (GTy.chan d) (unlower_src t h)
  | .map k v, h => by
    have h : isSrc k = true ∧ isSrc v = true := Bool.and_eq_true_iff.mp h
    show GTy.map (unlower k) (unlower v) = _
    rw [unlower_src k h.1, unlower_src v h.2]
  | .named _ false, _ => rfl
  | .named _ true, h => nomatch h
  | .sig ps rs v, h => by
    have h : isSrcL ps = true ∧ isSrcL rs = true := Bool.and_eq_true_iff.mp h
    show GTy.sig (unlowerL ps) (unlowerL rs) v = _
    rw [unlowerL_src ps h.1, unlowerL_src rs h.2]
  | .struct fs, h => (congrArg collapse (unlowerF_src fs h)).trans (collapse_src fs h)
  | .iface ms, h => congrArg GTy.iface (unlowerF_src ms h)
theorem unlowerL_src : (ts : List GTy) → isSrcL ts = true → unlowerL ts = ts
  | [], _ => rfl
  | t :: ts, h => by
    have h : isSrc t = true ∧ isSrcL ts = true := Bool.and_eq_true_iff.mp h
    show unlower t :: unlowerL ts = _
    rw [unlower_src t h.1, unlowerL_src ts h.2]
theorem unlowerF_src : (fs : List Field) → isSrcF fs = true → unlowerF fs = fs
  | [], _ => rfl
  | .mk n t e tag :: fs, h => by
    have h : (n != "$f" && isSrc t) = true ∧ isSrcF fs = true := Bool.and_eq_true_iff.mp h
    show Field.mk n (unlower t) e tag :: unlowerF fs = _
    rw [unlower_src t (Bool.and_eq_true_iff.mp h.1).2, unlowerF_src fs h.2]
end

theorem unlower_closureOf (ps rs : List GTy) (v : Bool) : unlower (closureOf (.sig ps rs v)) = unlower (.sig ps rs v) := by
  simp only [closureOf, rawPointer, unlower, unlowerF, collapse, beq_self_eq_true, Bool.and_self, if_true]

theorem keys_closureOf (ps rs : List GTy) (v : Bool) : keys (closureOf (.sig ps rs v)) = [] := by
  simp only [keys, closureOf, rawPointer, fieldsOf, isClosure, beq_self_eq_true, Bool.and_self, if_true, List.map_nil]

theorem head_unlower (x : GTy) : eraseRaw (head (unlower x)) = eraseRaw (head x) := by
  cases x with
  | ptr y =>
    cases y with
    | struct fs => rcases collapse_cases (unlowerF fs) with h | ⟨ps, rs, v, h⟩ <;> rw [unlower, unlower, h] <;> rfl
    | _ => rfl
  | struct fs => rcases collapse_cases (unlowerF fs) with h | ⟨ps, rs, v, h⟩ <;> rw [unlower, h] <;> rfl
  | _ => rfl

/-- invariant of the memo: the underlying type recorded for a raw twin reads back as the declared underlying type and
    has the same selector keys -/
def MemoOK (D : Decls) (m : Memo) : Prop :=
  ∀ id u, lookup m id = some (some u) →
    ∃ d, D id = some d ∧ unlower u = d.under ∧ keys u = keys d.under ∧ inames u = inames d.under

def SrcDecls (D : Decls) : Prop := ∀ id d, D id = some d → isSrc d.under = true

/-- `u`, flagged `changed` and leaving memo `m`, is an acceptable answer for the SOURCE type `t` -/
structure Good (D : Decls) (t u : GTy) (changed : Bool) (m : Memo) : Prop where
  readsBack : unlower u = t
  same : changed = false → u = t
  sameKeys : keys u = keys t
  sameINames : inames u = inames t
  memoOK : MemoOK D m

/-- partial correctness of one run of a conversion function: `P` holds of the answer if there is one (`none` = out of
    fuel) -/
abbrev Post {α : Type} (P : α → Bool → Memo → Prop) : Option ((α × Bool) × Memo) → Prop
  | none => True
  | some ((a, c), m) => P a c m

theorem Post.of_eq {α : Type} {P : α → Bool → Memo → Prop} {r : Option ((α × Bool) × Memo)} {a : α} {c : Bool} {m : Memo}
    (h : Post P r) (e : r = some ((a, c), m)) : P a c m := by
  subst e
  exact h

def StepOK (D : Decls) (f : GTy → R (GTy × Bool)) : Prop :=
  ∀ t m, isSrc t = true → MemoOK D m → Post (Good D t) (f t m)

/-- every branch of the model answers `(if changed then rebuilt else t, changed)`; as "unchanged" implies `rebuilt = t`,
    the answer is `rebuilt` either way and no proof below splits on the flag -/
theorem ite_changed {α : Type} {c : Bool} {a b : α} (h : c = false → a = b) : (if c then a else b) = a := by
  cases c
  · exact (h rfl).symm
  · rfl

theorem Good.rebuild {D : Decls} {t u : GTy} {c : Bool} {m : Memo} (hu : unlower u = t) (hc : c = false → u = t)
    (hk : keys u = keys t) (hi : inames u = inames t) (hm : MemoOK D m) : Good D t (if c then u else t) c m := by
  rw [ite_changed hc]
  exact ⟨hu, hc, hk, hi, hm⟩

theorem Good.twin {D : Decls} {m : Memo} {id : Nat} {raw : Bool} (hs : isSrc (.named id raw) = true) (hm : MemoOK D m) :
    Good D (.named id raw) (.named id true) true m := by
  cases raw with
  | false => exact ⟨rfl, nofun, rfl, rfl, hm⟩
  | true => cases hs

theorem Good.unchanged {D : Decls} {t : GTy} {m : Memo} (hs : isSrc t = true) (hm : MemoOK D m) : Good D t t false m :=
  ⟨unlower_src t hs, fun _ => rfl, rfl, rfl, hm⟩

theorem same_both {α β γ : Type} (mk : α → β → γ) {c₁ c₂ : Bool} {a a' : α} {b b' : β} (ha : c₁ = false → a' = a)
    (hb : c₂ = false → b' = b) (hc : (c₁ || c₂) = false) : mk a' b' = mk a b := by
  rw [ha (Bool.or_eq_false_iff.mp hc).1, hb (Bool.or_eq_false_iff.mp hc).2]

theorem mapTys_ok {D : Decls} {f : GTy → R (GTy × Bool)} (hf : StepOK D f) (ts : List GTy) (m : Memo) :
    isSrcL ts = true → MemoOK D m →
      Post (fun us c m' => unlowerL us = ts ∧ (c = false → us = ts) ∧ MemoOK D m') (mapTys f ts m) := by
  fun_induction mapTys f ts m with
  | case1 m => exact fun _ hm => ⟨rfl, fun _ => rfl, hm⟩
  | case4 t ts m t' c1 m1 h1 ts' cs m2 h2 ih =>
    intro hs hm
    rw [isSrcL, Bool.and_eq_true] at hs
    have g := (hf t m hs.1 hm).of_eq h1
    obtain ⟨iu, ic, im⟩ := (ih hs.2 g.memoOK).of_eq h2
    rw [ite_changed g.same]
    exact ⟨by rw [unlowerL, g.readsBack, iu], same_both List.cons g.same ic, im⟩
  | _ => exact fun _ _ => trivial

theorem mapFields_ok {D : Decls} {f : GTy → R (GTy × Bool)} (hf : StepOK D f) (fs : List Field) (m : Memo) :
    isSrcF fs = true → MemoOK D m →
      Post (fun gs c m' => unlowerF gs = fs ∧ (c = false → gs = fs) ∧ gs.map key = fs.map key ∧ MemoOK D m')
        (mapFields f fs m) := by
  fun_induction mapFields f fs m with
  | case1 m => exact fun _ hm => ⟨rfl, fun _ => rfl, rfl, hm⟩
  | case4 n t e tag fs m t' c1 m1 h1 fs' cs m2 h2 ih =>
    intro hs hm
    rw [isSrcF, Bool.and_eq_true, Bool.and_eq_true] at hs
    have g := (hf t m hs.1.2 hm).of_eq h1
    obtain ⟨iu, ic, ik, im⟩ := (ih hs.2 g.memoOK).of_eq h2
    have hc : c1 = false → Field.mk n t' e tag = .mk n t e tag := fun h => by rw [g.same h]
    rw [ite_changed hc]
    refine ⟨by rw [unlowerF, g.readsBack, iu], same_both List.cons hc ic, ?_, im⟩
    · have hh : eraseRaw (head t') = eraseRaw (head t) := by rw [← head_unlower t', g.readsBack]
      rw [List.map_cons, List.map_cons, ik, key, key]
      simp only [Field.name, Field.embedded, Field.tag, Field.ty, hh]
  | _ => exact fun _ _ => trivial

theorem cvtFuncWith_ok {D : Decls} {f : GTy → R (GTy × Bool)} (hf : StepOK D f) : StepOK D (cvtFuncWith f) := by
  intro t m hs hm
  fun_cases cvtFuncWith f t m with
  | case3 ps rs v m ps' c1 m1 h1 rs' c2 m2 h2 =>
    rw [isSrc, Bool.and_eq_true] at hs
    obtain ⟨pu, pc, pm⟩ := (mapTys_ok hf ps m hs.1 hm).of_eq h1
    obtain ⟨ru, rc, rm⟩ := (mapTys_ok hf rs m1 hs.2 pm).of_eq h2
    exact Good.rebuild (by rw [unlower, pu, ru]) (same_both (GTy.sig · · v) pc rc) rfl rfl rm
  | case4 t m _ => exact Good.unchanged hs hm
  | _ => trivial

theorem cvtFuncWith_sig (f : GTy → R (GTy × Bool)) (ps rs : List GTy) (v : Bool) (m : Memo) :
    Post (fun u _ _ => ∃ ps' rs', u = .sig ps' rs' v) (cvtFuncWith f (.sig ps rs v) m) := by
  rw [cvtFuncWith]
  split
  · trivial
  · split
    · trivial
    · split <;> exact ⟨_, _, rfl⟩

theorem rebuild1_ok {D : Decls} (mk : GTy → GTy) {e : GTy} (hmk : ∀ x, unlower (mk x) = mk (unlower x))
    (hk : ∀ x fs, mk x ≠ .struct fs) (hi : ∀ x ms, mk x ≠ .iface ms) :
    (r : Option ((GTy × Bool) × Memo)) → Post (Good D e) r → Post (Good D (mk e)) (rebuild1 (mk e) mk r)
  | none, _ => trivial
  | some ((e', c), m1), ge =>
    Good.rebuild (by rw [hmk, ge.readsBack]) (fun hc => by rw [ge.same hc])
      (by rw [keys_nonstruct _ (hk _), keys_nonstruct _ (hk _)]) (by rw [inames_noniface _ (hi _), inames_noniface _ (hi _)])
      ge.memoOK

theorem memoOK_cons {D : Decls} {m : Memo} (hm : MemoOK D m) (id : Nat) (e : Option GTy)
    (he : ∀ u, e = some u →
      ∃ d, D id = some d ∧ unlower u = d.under ∧ keys u = keys d.under ∧ inames u = inames d.under) :
    MemoOK D ((id, e) :: m) := by
  intro j u hj
  rw [lookup_cons] at hj
  split at hj
  · rename_i hij
    subst hij
    exact he u (Option.some.inj hj)
  · exact hm j u hj

/-- **the lowering is lossless and keeps the selector keys**, for every fuel, type and memo -/
theorem cvt_ok {D : Decls} (hD : SrcDecls D) (fuel : Nat) : StepOK D (cvt D fuel) := by
  -- strong induction because `fun_cases` splits the fuel itself: its cases are at `fuel + 1` and call `ih fuel`
  induction fuel using Nat.strongRecOn with | _ fuel ih =>
  intro t m hs hm
  fun_cases cvt D fuel t m with
  -- a basic type, a closure struct, a raw twin, a named type the memo has as unchanged or in progress
  | case2 | case10 | case17 | case18 => exact Good.unchanged hs hm
  -- `ptr`, `slice`, `arr`, `chan`; the constructor is read off the goal, so its side conditions wait until it is known
  | case3 fuel m e | case4 fuel m e | case5 fuel m _ e | case6 fuel m _ e =>
    refine rebuild1_ok _ (fun _ => ?_) (fun _ => ?_) (fun _ => ?_) _ (ih fuel (Nat.lt_add_one _) e m hs hm)
    · rfl
    · nofun
    · nofun
  | case9 fuel m k v k' c1 m1 h1 v' c2 m2 h2 =>
    rw [isSrc, Bool.and_eq_true] at hs
    have gk := (ih fuel (Nat.lt_add_one _) k m hs.1 hm).of_eq h1
    have gv := (ih fuel (Nat.lt_add_one _) v m1 hs.2 gk.memoOK).of_eq h2
    rw [ite_changed gk.same, ite_changed gv.same]
    exact Good.rebuild (by rw [unlower, gk.readsBack, gv.readsBack]) (same_both GTy.map gk.same gv.same) rfl rfl gv.memoOK
  | case12 fuel m fs _ fs' c m1 h1 =>
    obtain ⟨fu, fc, fk, fm⟩ := (mapFields_ok (ih fuel (Nat.lt_add_one _)) fs m hs hm).of_eq h1
    refine Good.rebuild ?_ (fun hc => by rw [fc hc]) ?_ rfl fm
    · rw [unlower, fu, collapse_src fs hs]
    · show (fieldsOf (some (.struct fs'))).map key = (fieldsOf (some (.struct fs))).map key
      rw [fieldsOf, fieldsOf, isClosure_of_keys hs fk, isClosure_src hs]
      exact fk
  | case14 fuel m ms ms' c m1 h1 =>
    obtain ⟨fu, fc, fk, fm⟩ := (mapFields_ok (cvtFuncWith_ok (ih fuel (Nat.lt_add_one _))) ms m hs hm).of_eq h1
    exact Good.rebuild (by rw [unlower, fu]) (fun hc => by rw [fc hc]) rfl (map_factor key (·.1) fk) fm
  -- in the two `sig` cases the match on the answer of `cvtFuncWith` is still in the goal: the model writes it on the outer `t`
  | case15 _ _ _ _ _ h1 => rw [h1]; trivial
  | case16 fuel m ps rs v raw c m1 h1 =>
    rw [h1]
    have g := (cvtFuncWith_ok (ih fuel (Nat.lt_add_one _)) _ m hs hm).of_eq h1
    -- the raw signature is a signature, so the struct built around it is a closure struct
    obtain ⟨ps', rs', rfl⟩ := (cvtFuncWith_sig ..).of_eq h1
    exact ⟨(unlower_closureOf ps' rs' v).trans g.readsBack, nofun, keys_closureOf ps' rs' v, rfl, g.memoOK⟩
  | case19 => exact Good.twin hs hm  -- the memo has a twin
  | case22 fuel m id raw _ _ d hd u' m1 h1 =>
    have gu := (ih fuel (Nat.lt_add_one _) d.under _ (hD id d hd) (memoOK_cons hm id none nofun)).of_eq h1
    exact Good.twin hs (memoOK_cons gu.memoOK id (some u')
      (fun u hu => by cases hu; exact ⟨d, hd, gu.readsBack, gu.sameKeys, gu.sameINames⟩))
  | case23 fuel m id raw _ _ d hd u' c m1 h1 =>
    exact Good.unchanged hs ((ih fuel (Nat.lt_add_one _) d.under _ (hD id d hd) (memoOK_cons hm id none nofun)).of_eq h1).memoOK
  | _ => trivial

theorem memoOK_nil (D : Decls) : MemoOK D [] := by
  intro j u hj; simp [lookup] at hj

/-! ## method sets are computed from the keys only -/

def promoted (below : Nat → Bool → List Entry) (addr : Bool) (k : String × Bool × String × Head) : List Entry :=
  if k.2.1 then
    match k.2.2.2 with
    | .named i _ => below i addr
    | .ptrNamed i _ => below i true
    | .other => []
  else []

theorem embEntries_keys {below : Nat → Bool → Bool → List Entry} {below₀ : Nat → Bool → List Entry}
    (hb : ∀ i r a, below i r a = below₀ i a) (addr : Bool) (fs : List Field) :
    embEntries below addr fs = (fs.map key).flatMap (promoted below₀ addr) := by
  induction fs with
  | nil => rfl
  | cons f fs ih =>
    rw [embEntries, ih, List.map_cons, List.flatMap_cons, promoted, key]
    cases head f.ty <;> simp only [eraseRaw, hb]

theorem embEntries_congr {below below' : Nat → Bool → Bool → List Entry}
    (hb : ∀ i r r' a, below i r a = below' i r' a) (addr : Bool) (fs gs : List Field) (h : fs.map key = gs.map key) :
    embEntries below addr fs = embEntries below' addr gs := by
  rw [embEntries_keys (fun i r a => hb i r false a), h,
    ← embEntries_keys fun i r a => (hb i false r a).symm.trans (hb i false false a)]

theorem rawUniv_under_raw (D : Decls) (m : Memo) (id : Nat) :
    (rawUniv D m).under id true = match lookup m id with
      | some (some u) => some u
      | _ => (D id).map (·.under) := rfl

theorem srcUniv_under (D : Decls) (id : Nat) (raw : Bool) : (srcUniv D).under id raw = (D id).map (·.under) := rfl

theorem under_rel {D : Decls} {m : Memo} (hm : MemoOK D m) (id : Nat) (raw raw' : Bool) :
    (fieldsOf ((rawUniv D m).under id raw)).map key = (fieldsOf ((srcUniv D).under id raw')).map key ∧
    (ifaceMethodsOf ((rawUniv D m).under id raw)).map (·.name) = (ifaceMethodsOf ((srcUniv D).under id raw')).map (·.name) := by
  cases raw with
  | false => exact ⟨rfl, rfl⟩
  | true =>
    rw [rawUniv_under_raw, srcUniv_under]
    split
    · rename_i u hl
      obtain ⟨d, hd, _, hk, hi⟩ := hm id u hl
      rw [hd]
      exact ⟨hk, hi⟩
    · exact ⟨rfl, rfl⟩

/-- two universes that a method-set computation cannot tell apart, whichever twin of a declaration is asked for -/
structure Univ.Alike (U U' : Univ) : Prop where
  methods : ∀ id, U.methods id = U'.methods id
  fields : ∀ id r r', (fieldsOf (U.under id r)).map key = (fieldsOf (U'.under id r')).map key
  imethods : ∀ id r r', (ifaceMethodsOf (U.under id r)).map (·.name) = (ifaceMethodsOf (U'.under id r')).map (·.name)

theorem rawUniv_alike {D : Decls} {m : Memo} (hm : MemoOK D m) : (rawUniv D m).Alike (srcUniv D) :=
  ⟨fun _ => rfl, fun id r r' => (under_rel hm id r r').1, fun id r r' => (under_rel hm id r r').2⟩

theorem levelNames_congr {U U' : Univ} (h : U.Alike U') :
    ∀ (d id : Nat) (r r' addr : Bool), levelNames U d id r addr = levelNames U' d id r' addr := by
  intro d
  induction d with
  | zero =>
    intro id r r' addr
    have h0 : (fieldsOf (U.under id r)).map (fun f => (f.name, 0)) = (fieldsOf (U'.under id r')).map (fun f => (f.name, 0)) :=
      map_factor key (fun k => (k.1, 0)) (h.fields id r r')
    have h1 : (ifaceMethodsOf (U.under id r)).map (fun f => (f.name, 1))
        = (ifaceMethodsOf (U'.under id r')).map (fun f => (f.name, 1)) := map_factor Field.name (·, 1) (h.imethods id r r')
    rw [levelNames, levelNames, h.methods, h0, h1]
  | succ d ih =>
    intro id r r' addr
    rw [levelNames, levelNames]
    exact embEntries_congr (fun i r r' a => ih i r r' a) addr _ _ (h.fields id r r')

theorem selectAt_congr {U U' : Univ} (h : U.Alike U') (id : Nat) (r r' addr : Bool) (n : String) :
    ∀ fuel d, selectAt U id r addr n fuel d = selectAt U' id r' addr n fuel d := by
  intro fuel
  induction fuel with
  | zero => intro d; rfl
  | succ fuel ih =>
    intro d
    rw [selectAt, selectAt, levelNames_congr h d id r r' addr, ih (d + 1)]

theorem inMethodSet_congr {U U' : Univ} (h : U.Alike U') (depth id : Nat) (r r' addr : Bool) (n : String) :
    inMethodSet U depth id r addr n = inMethodSet U' depth id r' addr n := by
  unfold inMethodSet
  rw [selectAt_congr h id r r' addr n depth 0]

end LlgoVerif.TypeCvt
