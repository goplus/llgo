import LlgoVerif.Lemmas.LinkNameTypeArgs
/-!
# Lemmas for C14: synthetic functions under `Cfg.fixed`

A receiver of another package is rendered `(path.T)` / `(*path.T)`. It is read back like a receiver of the compiled
package, and kept apart from one by the dot in its first word.
-/
namespace LlgoVerif.LinkName

theorem synthName_legacy (cur name : Str) (rc : Option Recv) :
    synthName Cfg.legacy cur name rc = funcNameStr cur name rc false := by
  cases rc with
  | none => rfl
  | some r =>
    cases hp : r.ptr <;> simp [synthName, wrapperName, funcNameStr, Cfg.legacy, Recv.toW, hp]

/-- rendering of a receiver whose type belongs to another package than the one being compiled -/
def qrecvStr (p r : Str) (ta : Tys) (ptr : Bool) : Str :=
  '(' :: ((if ptr then ['*'] else []) ++ (p ++ '.' :: (r ++ (targsPart ta ++ ')' :: '.' :: []))))

theorem wrapperName_fixed_eq (cur name p r : Str) (ta : Tys) (ptr : Bool) (hp : pathOK p = true) :
    wrapperName Cfg.fixed cur name ⟨p, r, ta, [], ptr⟩ =
      pathOf cur ++ '.' :: ((if p = pathOf cur then recvStr (some ⟨p, r, ta, ptr⟩) else qrecvStr p r ta ptr) ++ name) := by
  simp only [wrapperName, Cfg.fixed, pathOf_of_ok hp, Bool.true_and, scopeStr, List.append_nil, if_true, namedName_eq, recvStr,
    qrecvStr]
  by_cases hc : p = pathOf cur <;> cases ptr <;> simp [hc]

theorem path_head {p : Str} (hp : pathOK p = true) (X : Str) : HeadNot (!pathChar ·) (p ++ X) :=
  head_of_all (pathOK_unpack hp).1 (pathOK_unpack hp).2.1 X

theorem qrecvStr_append (p r : Str) (ta : Tys) (ptr : Bool) (N : Str) : qrecvStr p r ta ptr ++ N =
    '(' :: ((if ptr then ['*'] else []) ++ (p ++ '.' :: (r ++ (targsPart ta ++ ')' :: '.' :: N)))) := by
  simp [qrecvStr]

theorem qrecv_inj {p₁ p₂ r₁ r₂ : Str} {ta₁ ta₂ : Tys} {ptr₁ ptr₂ : Bool} {N₁ N₂ : Str}
    (hp₁ : pathOK p₁ = true) (hp₂ : pathOK p₂ = true) (hr₁ : identOK r₁ = true) (hr₂ : identOK r₂ = true)
    (ht₁ : ta₁.ok pathOK = true) (ht₂ : ta₂.ok pathOK = true)
    (h : qrecvStr p₁ r₁ ta₁ ptr₁ ++ N₁ = qrecvStr p₂ r₂ ta₂ ptr₂ ++ N₂) :
    p₁ = p₂ ∧ r₁ = r₂ ∧ ta₁ = ta₂ ∧ ptr₁ = ptr₂ ∧ N₁ = N₂ := by
  rw [qrecvStr_append, qrecvStr_append] at h
  obtain ⟨eptr, hb⟩ := optPrefix_inj (c := '*') rfl rfl (path_head hp₁ _) (path_head hp₂ _) (List.cons.inj h).2
  have w : ∀ (r : Str) (ta : Tys) (N : Str), identOK r = true → Word noSlash (r ++ (targsPart ta ++ ')' :: '.' :: N)) :=
    fun r ta N hr => word_append (word_ident hr) (word_targsPart ta (word_of_headNot (headNot_cons (by decide))))
  obtain ⟨hp, hR⟩ := pkg_split hp₁ hp₂ (w _ _ _ hr₁) (w _ _ _ hr₂) hb
  obtain ⟨hr, hta, hN⟩ := ident_targs_split hr₁ hr₂ ht₁ ht₂ (headNot_cons rfl) (headNot_cons rfl) hR
  exact ⟨hp, hr, hta, eptr, (List.cons.inj (List.cons.inj hN).2).2⟩

theorem recv_ne_qrecv {pl rl : Str} {tal : Tys} {ptrl : Bool} {p r : Str} {ta : Tys} {ptr : Bool} {N₁ N₂ : Str}
    (hp : pathOK p = true) (hrl : identOK rl = true)
    (h : recvStr (some ⟨pl, rl, tal, ptrl⟩) ++ N₁ = qrecvStr p r ta ptr ++ N₂) : False := by
  rw [recvStr_some, qrecvStr_append] at h
  cases ptrl <;> simp only [↓reduceIte, Bool.false_eq_true, List.nil_append] at h
  case false =>
    -- starts with an identifier character, the other side with '('
    exact headNot_ne (ident_head hrl _) rfl _ h
  case true =>
    -- after "(*": the first word is the identifier on one side and has the dot after the path on the other
    obtain ⟨_, hb⟩ := optPrefix_inj (c := '*') (f₁ := true) (o := []) rfl rfl (ident_head hrl _) (path_head hp _)
      (List.cons.inj h).2
    have w : Word identChar (rl ++ (targsPart tal ++ ')' :: '.' :: N₁)) :=
      word_append (word_of_all (identOK_iff.mp hrl).2) (word_targsPart tal (word_of_headNot (headNot_cons (by decide))))
    rw [hb] at w
    exact absurd (w '.' (dot_mem_word (fun c hc => path_nb ((pathOK_unpack hp).2.1 c hc)) _)) (by decide)

theorem wrapperName_fixed_inj {cur p₁ p₂ r₁ r₂ : Str} {ta₁ ta₂ : Tys} {ptr₁ ptr₂ : Bool} {N₁ N₂ : Str}
    (hp₁ : pathOK p₁ = true) (hp₂ : pathOK p₂ = true) (hr₁ : identOK r₁ = true) (hr₂ : identOK r₂ = true)
    (ht₁ : ta₁.ok pathOK = true) (ht₂ : ta₂.ok pathOK = true)
    (h : wrapperName Cfg.fixed cur N₁ ⟨p₁, r₁, ta₁, [], ptr₁⟩ = wrapperName Cfg.fixed cur N₂ ⟨p₂, r₂, ta₂, [], ptr₂⟩) :
    p₁ = p₂ ∧ r₁ = r₂ ∧ ta₁ = ta₂ ∧ ptr₁ = ptr₂ ∧ N₁ = N₂ := by
  rw [wrapperName_fixed_eq _ _ _ _ _ _ hp₁, wrapperName_fixed_eq _ _ _ _ _ _ hp₂] at h
  have h' := (List.cons.inj (List.append_cancel_left h)).2
  by_cases c₁ : p₁ = pathOf cur <;> by_cases c₂ : p₂ = pathOf cur <;> simp only [c₁, c₂, if_true, if_false] at h'
  · obtain ⟨a, b, c, d⟩ := recv_some_some (r₁ := ⟨pathOf cur, r₁, ta₁, ptr₁⟩) (r₂ := ⟨pathOf cur, r₂, ta₂, ptr₂⟩) hr₁ ht₁ hr₂ ht₂ h'
    exact ⟨c₁.trans c₂.symm, a, b, c, d⟩
  · exact (recv_ne_qrecv hp₂ hr₁ h').elim
  · exact (recv_ne_qrecv hp₁ hr₂ h'.symm).elim
  · exact qrecv_inj hp₁ hp₂ hr₁ hr₂ ht₁ ht₂ h'

end LlgoVerif.LinkName
