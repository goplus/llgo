import LlgoVerif.Model.LLVM
import LlgoVerif.Spec.GoArith
import LlgoVerif.Lemmas.Except
/-! Width-generic lemmas for C02: (1) Go's Int-level definitions equal the BitVec operations, (2) each shape of
    straight-line IR that `ssa/expr.go` emits computes the Go-specified result.  The regenerated obligations (Gen/C02*.lean) call
    (2) by name and argument order, string literals in `harness/irgen/*.py`: a change here shows only when Gen/ is regenerated. -/
namespace LlgoVerif.Arith
open LlgoVerif LlgoVerif.LLVM

theorem val_true (x : BitVec w) : GoArith.val true x = x.toInt := rfl
theorem val_false (x : BitVec w) : GoArith.val false x = (x.toNat : Int) := rfl

theorem ofInt_val (s : Bool) (x : BitVec w) : BitVec.ofInt w (GoArith.val s x) = x := by
  cases s
  · rw [val_false, BitVec.ofInt_natCast, BitVec.ofNat_toNat, BitVec.setWidth_eq]
  · exact BitVec.ofInt_toInt

theorem val_inj (s : Bool) (x y : BitVec w) : GoArith.val s x = GoArith.val s y ↔ x = y := by
  cases s
  · exact Int.ofNat_inj.trans BitVec.toNat_inj
  · exact BitVec.toInt_inj

theorem val_eq_zero (s : Bool) (x : BitVec w) : GoArith.val s x = 0 ↔ x = 0#w := by
  rw [← val_inj s x 0#w]; cases s <;> simp [GoArith.val]

theorem add_spec (s : Bool) (x y : BitVec w) : GoArith.add s x y = x + y := by
  rw [GoArith.add, BitVec.ofInt_add, ofInt_val, ofInt_val]
theorem sub_spec (s : Bool) (x y : BitVec w) : GoArith.sub s x y = x - y := by
  rw [GoArith.sub, Int.sub_eq_add_neg, BitVec.ofInt_add, BitVec.ofInt_neg, ofInt_val, ofInt_val, BitVec.sub_eq_add_neg]
theorem mul_spec (s : Bool) (x y : BitVec w) : GoArith.mul s x y = x * y := by
  rw [GoArith.mul, BitVec.ofInt_mul, ofInt_val, ofInt_val]
theorem neg_spec (s : Bool) (x : BitVec w) : GoArith.neg s x = -x := by
  rw [GoArith.neg, BitVec.ofInt_neg, ofInt_val]

theorem quo_eq (s : Bool) (x y : BitVec w) : GoArith.quo s x y =
    if y = 0#w then .error .divZero else .ok (BitVec.ofInt w ((GoArith.val s x).tdiv (GoArith.val s y))) := by
  simp only [GoArith.quo, val_eq_zero]
theorem rem_eq (s : Bool) (x y : BitVec w) : GoArith.rem s x y =
    if y = 0#w then .error .divZero else .ok (BitVec.ofInt w ((GoArith.val s x).tmod (GoArith.val s y))) := by
  simp only [GoArith.rem, val_eq_zero]

theorem quo_signed (x y : BitVec w) :
    GoArith.quo true x y = if y = 0#w then .error .divZero else .ok (x.sdiv y) := by
  rw [quo_eq]; congr 2
  exact BitVec.eq_of_toInt_eq (by simp [val_true, BitVec.toInt_sdiv])
theorem rem_signed (x y : BitVec w) :
    GoArith.rem true x y = if y = 0#w then .error .divZero else .ok (x.srem y) := by
  rw [rem_eq, val_true, val_true, ← BitVec.toInt_srem, BitVec.ofInt_toInt]
theorem quo_unsigned (x y : BitVec w) :
    GoArith.quo false x y = if y = 0#w then .error .divZero else .ok (x / y) := by
  rw [quo_eq, val_false, val_false, ← Int.ofNat_tdiv, BitVec.ofInt_natCast, ← BitVec.toNat_udiv, BitVec.ofNat_toNat,
    BitVec.setWidth_eq]
theorem rem_unsigned (x y : BitVec w) :
    GoArith.rem false x y = if y = 0#w then .error .divZero else .ok (x % y) := by
  rw [rem_eq, val_false, val_false, ← Int.ofNat_tmod, BitVec.ofInt_natCast, ← BitVec.toNat_umod, BitVec.ofNat_toNat,
    BitVec.setWidth_eq]

theorem shlE_of_lt (x : BitVec w) (h : n < w) : GoArith.shlE x n = x <<< n := if_neg (Nat.not_le.2 h)
theorem shlE_of_le (x : BitVec w) (h : w ≤ n) : GoArith.shlE x n = 0#w := if_pos h
theorem shrE_false (x : BitVec w) (n : Nat) : GoArith.shrE false x n = if w ≤ n then 0#w else x >>> n := rfl
theorem shrE_true (x : BitVec w) (n : Nat) : GoArith.shrE true x n = x.sshiftRight (if w ≤ n then w - 1 else n) := rfl

theorem two_pow_cast (n : Nat) : (2 : Int) ^ n = ((2 ^ n : Nat) : Int) := (Int.natCast_pow 2 n).symm

theorem ofInt_two_pow (w n : Nat) : BitVec.ofInt w ((2 : Int) ^ n) = BitVec.twoPow w n := by
  apply BitVec.eq_of_toNat_eq
  rw [two_pow_cast, BitVec.ofInt_natCast, BitVec.toNat_ofNat, BitVec.toNat_twoPow]

theorem shl_spec (s : Bool) (x : BitVec w) (n : Nat) : GoArith.shlMath s x n = GoArith.shlE x n := by
  unfold GoArith.shlMath GoArith.shlE
  rw [BitVec.ofInt_mul, ofInt_val, ofInt_two_pow, ← BitVec.shiftLeft_eq_mul_twoPow]
  split
  · rename_i h; exact BitVec.shiftLeft_eq_zero h
  · rfl

/-- why `GoArith.shrE true` may clamp the count to `w - 1` -/
theorem toInt_ediv_two_pow_of_le (x : BitVec w) (m : Nat) (hm : w - 1 ≤ m) :
    x.toInt / ((2 ^ m : Nat) : Int) = if x.toInt < 0 then -1 else 0 := by
  have hlt := @BitVec.toInt_lt w x
  have hle := BitVec.le_toInt x
  have hp := Nat.pow_le_pow_right (n := 2) (by decide) hm
  rw [two_pow_cast] at hlt hle
  split
  · exact Int.ediv_eq_neg_one_of_neg_of_le (by omega) (by omega)
  · exact Int.ediv_eq_zero_of_lt (by omega) (by omega)

theorem shr_spec (s : Bool) (x : BitVec w) (n : Nat) : GoArith.shrMath s x n = GoArith.shrE s x n := by
  cases s
  · rw [shrE_false, GoArith.shrMath, val_false, two_pow_cast, ← Int.natCast_ediv, BitVec.ofInt_natCast,
      ← Nat.shiftRight_eq_div_pow, ← BitVec.toNat_ushiftRight, BitVec.ofNat_toNat, BitVec.setWidth_eq]
    split
    · rename_i h; exact BitVec.ushiftRight_eq_zero h
    · rfl
  · have key (k : Nat) : BitVec.ofInt w (x.toInt / ((2 ^ k : Nat) : Int)) = x.sshiftRight k := by
      rw [← Int.shiftRight_eq_div_pow, ← BitVec.toInt_sshiftRight, BitVec.ofInt_toInt]
    rw [shrE_true, GoArith.shrMath, val_true, two_pow_cast]
    split
    · rename_i h
      rw [← key, toInt_ediv_two_pow_of_le x n (Nat.le_trans (Nat.sub_le w 1) h),
        toInt_ediv_two_pow_of_le x (w - 1) (Nat.le_refl _)]
    · exact key n

def specM (e : Except GoArith.Panic α) : M α :=
  match e with
  | .ok v => .ok v
  | .error .divZero => .error .divZero
  | .error .negShift => .error .negShift

theorem ofBool_eq_one (b : Bool) : ofBool b = 1#1 ↔ b = true := by cases b <;> simp [ofBool]

theorem icmp_some (p : Pred) (x y : BitVec w) : icmp p (some x) (some y) = some (ofBool (icmpB p x y)) := rfl
theorem select_some (c : BitVec 1) (a b : V w) : select (some c) a b = if c = 1#1 then a else b := rfl
theorem trunc_some (x : BitVec w) : trunc w' (some x) = some (x.setWidth w') := rfl
theorem zext_some (x : BitVec w) : zext w' (some x) = some (x.setWidth w') := rfl
theorem sext_some (x : BitVec w) : sext w' (some x) = some (x.signExtend w') := rfl
theorem assert_some (t : Trap) (c : BitVec 1) : assert t (some c) = if c = 1#1 then .error t else .ok () := rfl
theorem ret_some (x : BitVec w) : ret (some x) = .ok x := rfl
theorem and_some (a b : BitVec w) : LLVM.and (some a) (some b) = some (a &&& b) := rfl

theorem icmp_uge (y k : BitVec u) : icmp .uge (some y) (some k) = some (ofBool (decide (k.toNat ≤ y.toNat))) := rfl
theorem icmp_slt (y z : BitVec u) : icmp .slt (some y) (some z) = some (ofBool (decide (y.toInt < z.toInt))) := rfl
theorem icmp_eq (x y : BitVec w) : icmp .eq (some x) (some y) = some (ofBool (decide (x = y))) := rfl

theorem select_decide (p : Prop) [Decidable p] (a c : V w) :
    select (some (ofBool (decide p))) a c = if p then a else c := by
  simp only [select_some, ofBool_eq_one, decide_eq_true_eq]
theorem assert_decide (t : Trap) (p : Prop) [Decidable p] :
    assert t (some (ofBool (decide p))) = if p then .error t else .ok () := by
  simp only [assert_some, ofBool_eq_one, decide_eq_true_eq]

/-- `ssa/expr.go`: `select (y ≥ width) 0 (shift x c)`, the instruction being poison for such counts; `c` is the count `y` at x's
    width -/
theorem guarded_zfill (x c z : BitVec w) (y k : BitVec u) (op : V w → V w → V w) (f : BitVec w → Nat → BitVec w)
    (hop : ∀ x c : BitVec w, op (some x) (some c) = if w ≤ c.toNat then none else some (f x c.toNat))
    (hk : k.toNat = w) (hz : z = 0#w) (hc : y.toNat < w → c.toNat = y.toNat) :
    select (icmp .uge (some y) (some k)) (some z) (op (some x) (some c))
      = some (if w ≤ y.toNat then 0#w else f x y.toNat) := by
  rw [icmp_uge, select_decide, hop, hz, hk]
  split
  · rfl
  · rename_i h; rw [hc (Nat.not_le.1 h), if_neg h]

theorem guarded_ashr (x c k1 : BitVec w) (y k : BitVec u) (hk : k.toNat = w) (hk1 : k1.toNat = w - 1) (hw : 0 < w)
    (hc : y.toNat < w → c.toNat = y.toNat) :
    ashr (some x) (select (icmp .uge (some y) (some k)) (some k1) (some c)) = some (GoArith.shrE true x y.toNat) := by
  rw [icmp_uge, select_decide, shrE_true, hk]
  split
  · rw [ashr, hk1, if_neg (by omega)]
  · rename_i h; rw [ashr, hc (Nat.not_le.1 h), if_neg h]

theorem toInt_nonneg_toNat (y : BitVec u) (h : 0 ≤ y.toInt) : y.toInt = (y.toNat : Int) :=
  BitVec.toInt_eq_toNat_of_lt (BitVec.toInt_pos_iff.1 h)

theorem val_toNat (s : Bool) (y : BitVec u) (h : ¬ GoArith.val s y < 0) : (GoArith.val s y).toNat = y.toNat := by
  cases s
  · exact Int.toNat_natCast _
  · rw [val_true] at h ⊢; rw [toInt_nonneg_toNat y (Int.not_lt.1 h), Int.toNat_natCast]

theorem shl_eq (sx sy : Bool) (x : BitVec w) (y : BitVec u) : GoArith.shl sx sy x y =
    if GoArith.val sy y < 0 then .error .negShift else .ok (GoArith.shlE x y.toNat) := by
  unfold GoArith.shl
  split
  · rfl
  · rename_i h; rw [shl_spec, val_toNat sy y h]

theorem shr_eq (sx sy : Bool) (x : BitVec w) (y : BitVec u) : GoArith.shr sx sy x y =
    if GoArith.val sy y < 0 then .error .negShift else .ok (GoArith.shrE sx x y.toNat) := by
  unfold GoArith.shr
  split
  · rfl
  · rename_i h; rw [shr_spec, val_toNat sy y h]

theorem val_false_not_neg (y : BitVec u) : ¬ GoArith.val false y < 0 := Int.not_lt.2 (Int.natCast_nonneg _)

theorem shl_u (sx : Bool) (x c z : BitVec w) (y k : BitVec u) (hk : k.toNat = w) (hz : z = 0#w)
    (hc : y.toNat < w → c.toNat = y.toNat) :
    ret (select (icmp .uge (some y) (some k)) (some z) (shl (some x) (some c)))
      = specM (GoArith.shl sx false x y) := by
  rw [shl_eq, if_neg (val_false_not_neg y), guarded_zfill x c z y k shl (· <<< ·) (fun _ _ => rfl) hk hz hc]; rfl

theorem lshr_u (x c z : BitVec w) (y k : BitVec u) (hk : k.toNat = w) (hz : z = 0#w)
    (hc : y.toNat < w → c.toNat = y.toNat) :
    ret (select (icmp .uge (some y) (some k)) (some z) (lshr (some x) (some c)))
      = specM (GoArith.shr false false x y) := by
  rw [shr_eq, if_neg (val_false_not_neg y), guarded_zfill x c z y k lshr (· >>> ·) (fun _ _ => rfl) hk hz hc]; rfl

theorem ashr_u (x c k1 : BitVec w) (y k : BitVec u) (hk : k.toNat = w) (hk1 : k1.toNat = w - 1) (hw : 0 < w)
    (hc : y.toNat < w → c.toNat = y.toNat) :
    ret (ashr (some x) (select (icmp .uge (some y) (some k)) (some k1) (some c)))
      = specM (GoArith.shr true false x y) := by
  rw [shr_eq, if_neg (val_false_not_neg y), guarded_ashr x c k1 y k hk hk1 hw hc]; rfl

/-- `AssertNegativeShift(y < 0)` of a signed count, in front of the shift -/
theorem neg_guard (y z0 : BitVec u) (hz0 : z0 = 0#u) (body : M (BitVec w)) (r : BitVec w)
    (h : 0 ≤ y.toInt → body = .ok r) :
    (do assert .negShift (icmp .slt (some y) (some z0)); body)
      = specM (if GoArith.val true y < 0 then .error .negShift else .ok r) := by
  rw [hz0, icmp_slt, assert_decide, BitVec.toInt_zero, val_true]
  split
  · rfl
  · rename_i hn; exact h (Int.not_lt.1 hn)

theorem shl_s (sx : Bool) (x c z : BitVec w) (y k z0 : BitVec u) (hk : k.toNat = w) (hz : z = 0#w) (hz0 : z0 = 0#u)
    (hc : 0 ≤ y.toInt → y.toNat < w → c.toNat = y.toNat) :
    (do assert .negShift (icmp .slt (some y) (some z0))
        ret (select (icmp .uge (some y) (some k)) (some z) (shl (some x) (some c))))
      = specM (GoArith.shl sx true x y) := by
  rw [shl_eq]
  exact neg_guard y z0 hz0 _ _ fun h0 => by
    rw [guarded_zfill x c z y k shl (· <<< ·) (fun _ _ => rfl) hk hz (hc h0)]; rfl

theorem lshr_s (x c z : BitVec w) (y k z0 : BitVec u) (hk : k.toNat = w) (hz : z = 0#w) (hz0 : z0 = 0#u)
    (hc : 0 ≤ y.toInt → y.toNat < w → c.toNat = y.toNat) :
    (do assert .negShift (icmp .slt (some y) (some z0))
        ret (select (icmp .uge (some y) (some k)) (some z) (lshr (some x) (some c))))
      = specM (GoArith.shr false true x y) := by
  rw [shr_eq]
  exact neg_guard y z0 hz0 _ _ fun h0 => by
    rw [guarded_zfill x c z y k lshr (· >>> ·) (fun _ _ => rfl) hk hz (hc h0)]; rfl

theorem ashr_s (x c k1 : BitVec w) (y k z0 : BitVec u) (hk : k.toNat = w) (hk1 : k1.toNat = w - 1) (hw : 0 < w)
    (hz0 : z0 = 0#u)
    (hc : 0 ≤ y.toInt → y.toNat < w → c.toNat = y.toNat) :
    (do assert .negShift (icmp .slt (some y) (some z0))
        ret (ashr (some x) (select (icmp .uge (some y) (some k)) (some k1) (some c))))
      = specM (GoArith.shr true true x y) := by
  rw [shr_eq]
  exact neg_guard y z0 hz0 _ _ fun h0 => by rw [guarded_ashr x c k1 y k hk hk1 hw (hc h0)]; rfl

theorem shl_core (x c k z : BitVec w) (hk : k.toNat = w) (hz : z = 0#w) :
    select (icmp .uge (some c) (some k)) (some z) (shl (some x) (some c)) = some (GoArith.shlE x c.toNat) :=
  guarded_zfill x c z c k shl (· <<< ·) (fun _ _ => rfl) hk hz fun _ => rfl

theorem lshr_core (x c k z : BitVec w) (hk : k.toNat = w) (hz : z = 0#w) :
    select (icmp .uge (some c) (some k)) (some z) (lshr (some x) (some c)) = some (GoArith.shrE false x c.toNat) :=
  guarded_zfill x c z c k lshr (· >>> ·) (fun _ _ => rfl) hk hz fun _ => rfl

theorem ashr_core (x c k k1 : BitVec w) (hk : k.toNat = w) (hk1 : k1.toNat = w - 1) (hw : 0 < w) :
    ashr (some x) (select (icmp .uge (some c) (some k)) (some k1) (some c)) = some (GoArith.shrE true x c.toNat) :=
  guarded_ashr x c k1 c k hk hk1 hw fun _ => rfl

/-! `cnt_zext`: core's lemma under the name the obligations print -/

theorem cnt_zext (y : BitVec u) (h : u ≤ w) : (y.setWidth w).toNat = y.toNat :=
  BitVec.toNat_setWidth_of_le h

theorem cnt_trunc (y : BitVec u) (h : y.toNat < w) : (y.setWidth w).toNat = y.toNat := by
  rw [BitVec.toNat_setWidth]
  exact Nat.mod_eq_of_lt (Nat.lt_trans h Nat.lt_two_pow_self)

theorem cnt_sext (y : BitVec u) (h : u ≤ w) (h0 : 0 ≤ y.toInt) : (y.signExtend w).toNat = y.toNat := by
  have h1 : (y.signExtend w).toInt = y.toInt := BitVec.toInt_signExtend_of_le h
  have h2 := toInt_nonneg_toNat (y.signExtend w) (by omega)
  have h3 := toInt_nonneg_toNat y h0
  omega

theorem ofBool_and (a b : Bool) : ofBool a &&& ofBool b = ofBool (a && b) := by
  cases a <;> cases b <;> decide
theorem ofBool_and_one (a : Bool) : ofBool a &&& 1#1 = ofBool a := by cases a <;> decide
theorem one_and_ofBool (a : Bool) : 1#1 &&& ofBool a = ofBool a := by cases a <;> decide

theorem one_ne_zero_bv (hw : 0 < w) : 1#w ≠ 0#w := mt BitVec.one_eq_zero_iff.1 (Nat.ne_of_gt hw)
theorem allOnes_ne_zero (hw : 0 < w) : BitVec.allOnes w ≠ 0#w := mt BitVec.allOnes_eq_zero_iff.1 (Nat.ne_of_gt hw)
theorem intMin_ne_zero (hw : 0 < w) : BitVec.intMin w ≠ 0#w := mt BitVec.intMin_eq_zero_iff.1 (Nat.ne_of_gt hw)

theorem intMin_sdiv_allOnes (w : Nat) : (BitVec.intMin w).sdiv (BitVec.allOnes w) = BitVec.intMin w := by
  rw [← BitVec.neg_one_eq_allOnes]; exact BitVec.intMin_sdiv_neg_one

theorem srem_allOnes (x : BitVec w) (hw : 0 < w) : x.srem (BitVec.allOnes w) = 0#w := by
  apply BitVec.eq_of_toInt_eq
  simp [BitVec.toInt_srem, BitVec.toInt_allOnes, hw]

theorem udiv_some (x y : BitVec w) (hy : y ≠ 0#w) : udiv (some x) (some y) = .ok (some (x / y)) := if_neg hy
theorem urem_some (x y : BitVec w) (hy : y ≠ 0#w) : urem (some x) (some y) = .ok (some (x % y)) := if_neg hy
theorem sdiv_some (x y : BitVec w) (hy : y ≠ 0#w) (hov : ¬ (x = BitVec.intMin w ∧ y = BitVec.allOnes w)) :
    sdiv (some x) (some y) = .ok (some (x.sdiv y)) := by rw [sdiv, if_neg hy, if_neg hov]; rfl
theorem srem_some (x y : BitVec w) (hy : y ≠ 0#w) (hov : ¬ (x = BitVec.intMin w ∧ y = BitVec.allOnes w)) :
    srem (some x) (some y) = .ok (some (x.srem y)) := by rw [srem, if_neg hy, if_neg hov]; rfl

/-- `BinOp`, `/` and `%`: `AssertDivideByZero`, then the instruction on `safeY` -/
def checkedDiv (op : V w → V w → M (V w)) (x y c0 c1 : BitVec w) : M (BitVec w) := do
  let v1 := icmp .eq (some y) (some c0)
  assert .divZero v1
  let v2 := select v1 (some c1) (some y)
  let v3 ← op (some x) v2
  ret v3

/-- `g` is `overflow`: the instruction on `safeX`, `safeY`, then `select g r v`, `r` Go's result for minInt / -1 -/
def guardedDiv (op : V w → V w → M (V w)) (g : V 1) (x y r cz c1 : BitVec w) : M (BitVec w) := do
  let v ← op (select g (some cz) (some x)) (select g (some c1) (some y))
  ret (select g (some r) v)

def checkedGuardedDiv (op : V w → V w → M (V w)) (g : V 1) (x y r c0 c1 cz : BitVec w) : M (BitVec w) := do
  let v2 := icmp .eq (some y) (some c0)
  assert .divZero v2
  let v3 := select v2 (some c1) (some y)
  let v9 ← op (select g (some cz) (some x)) (select g (some c1) v3)
  ret (select g (some r) v9)

/-- past the assertion `safeY` is `y`: its other arm is dead, `c1` may be anything -/
theorem div_checked (op : V w → V w → M (V w)) (f : BitVec w → BitVec w → BitVec w) (x y c0 c1 : BitVec w)
    (h0 : c0 = 0#w) (hop : y ≠ 0#w → op (some x) (some y) = .ok (some (f x y))) :
    checkedDiv op x y c0 c1 = specM (if y = 0#w then .error .divZero else .ok (f x y)) := by
  simp only [checkedDiv, h0, icmp_eq, assert_decide, select_decide]
  split
  · rfl
  · rename_i hy; rw [hop hy]; rfl

def OverflowFlag (g : V 1) (x y : BitVec w) : Prop :=
  ∃ b, g = some (ofBool b) ∧ (b = true ↔ x = BitVec.intMin w ∧ y = BitVec.allOnes w)

theorem flag_xy (x y cmin cneg : BitVec w) (hmin : cmin = BitVec.intMin w) (hneg : cneg = BitVec.allOnes w) :
    OverflowFlag (LLVM.and (icmp .eq (some x) (some cmin)) (icmp .eq (some y) (some cneg))) x y :=
  ⟨x == cmin && y == cneg, congrArg some (ofBool_and _ _), by rw [hmin, hneg, Bool.and_eq_true, beq_iff_eq, beq_iff_eq]⟩

theorem flag_x (x cmin cneg : BitVec w) (t : BitVec 1) (ht : t = 1#1) (hmin : cmin = BitVec.intMin w)
    (hneg : cneg = BitVec.allOnes w) : OverflowFlag (LLVM.and (icmp .eq (some x) (some cmin)) (some t)) x cneg :=
  ⟨x == cmin, ht ▸ congrArg some (ofBool_and_one _), by rw [hmin, beq_iff_eq]; exact (and_iff_left hneg).symm⟩

theorem flag_y (y cmin cneg : BitVec w) (t : BitVec 1) (ht : t = 1#1) (hmin : cmin = BitVec.intMin w)
    (hneg : cneg = BitVec.allOnes w) : OverflowFlag (LLVM.and (some t) (icmp .eq (some y) (some cneg))) cmin y :=
  ⟨y == cneg, ht ▸ congrArg some (one_and_ofBool _), by rw [hneg, beq_iff_eq]; exact (and_iff_right hmin).symm⟩

section
variable (op : V w → V w → M (V w)) (f : BitVec w → BitVec w → BitVec w)
  (hop : ∀ x y : BitVec w, y ≠ 0#w → ¬ (x = BitVec.intMin w ∧ y = BitVec.allOnes w) → op (some x) (some y) = .ok (some (f x y)))
include hop

theorem div_guarded
    (x y r cz c1 : BitVec w) (g : V 1) (hg : OverflowFlag g x y) (hz : cz = 0#w) (h1 : c1 = 1#w) (hw : 0 < w)
    (hy : y ≠ 0#w) (hr : x = BitVec.intMin w → y = BitVec.allOnes w → r = f x y) :
    guardedDiv op g x y r cz c1 = .ok (f x y) := by
  obtain ⟨b, rfl, hb⟩ := hg
  subst hz h1
  cases b
  · show (do let v ← op (some x) (some y); ret v) = _
    rw [hop x y hy (fun h => Bool.noConfusion (hb.2 h))]; rfl
  · show (do let _ ← op (some 0#w) (some 1#w); ret (some r)) = _
    rw [hop 0#w 1#w (one_ne_zero_bv hw) (fun h => intMin_ne_zero hw h.1.symm), hr (hb.1 rfl).1 (hb.1 rfl).2]; rfl

theorem div_checked_guarded
    (x y r c0 c1 cz : BitVec w) (g : V 1) (hg : OverflowFlag g x y) (h0 : c0 = 0#w) (h1 : c1 = 1#w) (hz : cz = 0#w)
    (hw : 0 < w) (hr : x = BitVec.intMin w → y = BitVec.allOnes w → r = f x y) :
    checkedGuardedDiv op g x y r c0 c1 cz = specM (if y = 0#w then .error .divZero else .ok (f x y)) := by
  simp only [checkedGuardedDiv, h0, icmp_eq, assert_decide, select_decide]
  split
  · rfl
  · rename_i hy; exact div_guarded op f hop x y r cz c1 g hg hz h1 hw hy hr

end

section
variable (x y c0 c1 cz cmin cneg : BitVec w) (h0 : c0 = 0#w) (h1 : c1 = 1#w) (hz : cz = 0#w)
  (hmin : cmin = BitVec.intMin w) (hneg : cneg = BitVec.allOnes w) (hw : 0 < w)
include h0 h1 hz hmin hneg hw

theorem quo_s :
    checkedGuardedDiv sdiv (LLVM.and (icmp .eq (some x) (some cmin)) (icmp .eq (some y) (some cneg))) x y x c0 c1 cz
      = specM (GoArith.quo true x y) := by
  rw [quo_signed]
  exact div_checked_guarded sdiv BitVec.sdiv sdiv_some x y x c0 c1 cz _ (flag_xy x y cmin cneg hmin hneg) h0 h1 hz hw
    fun hx hy => by rw [hx, hy, intMin_sdiv_allOnes]

theorem rem_s :
    checkedGuardedDiv srem (LLVM.and (icmp .eq (some x) (some cmin)) (icmp .eq (some y) (some cneg))) x y cz c0 c1 cz
      = specM (GoArith.rem true x y) := by
  rw [rem_signed]
  exact div_checked_guarded srem BitVec.srem srem_some x y cz c0 c1 cz _ (flag_xy x y cmin cneg hmin hneg) h0 h1 hz hw
    fun _ hy => by rw [hz, hy, srem_allOnes x hw]

end

/-- `_h1` is unused (`div_checked`): it pins the emitted constant, `obligations.py` prints its `by decide`; so in the next three -/
theorem quo_u (x y c0 c1 : BitVec w) (h0 : c0 = 0#w) (_h1 : c1 = 1#w) :
    checkedDiv udiv x y c0 c1 = specM (GoArith.quo false x y) := by
  rw [quo_unsigned]; exact div_checked udiv (· / ·) x y c0 c1 h0 (udiv_some x y)

theorem rem_u (x y c0 c1 : BitVec w) (h0 : c0 = 0#w) (_h1 : c1 = 1#w) :
    checkedDiv urem x y c0 c1 = specM (GoArith.rem false x y) := by
  rw [rem_unsigned]; exact div_checked urem (· % ·) x y c0 c1 h0 (urem_some x y)

theorem quo_s_xconst (x y c0 c1 : BitVec w) (h0 : c0 = 0#w) (_h1 : c1 = 1#w) (hx : x ≠ BitVec.intMin w) :
    checkedDiv sdiv x y c0 c1 = specM (GoArith.quo true x y) := by
  rw [quo_signed]; exact div_checked sdiv BitVec.sdiv x y c0 c1 h0 fun hy => sdiv_some x y hy fun h => hx h.1

theorem rem_s_xconst (x y c0 c1 : BitVec w) (h0 : c0 = 0#w) (_h1 : c1 = 1#w) (hx : x ≠ BitVec.intMin w) :
    checkedDiv srem x y c0 c1 = specM (GoArith.rem true x y) := by
  rw [rem_signed]; exact div_checked srem BitVec.srem x y c0 c1 h0 fun hy => srem_some x y hy fun h => hx h.1

theorem quo_s_const (x c : BitVec w) (hc0 : c ≠ 0#w) (hc1 : c ≠ BitVec.allOnes w) :
    (do let v1 ← sdiv (some x) (some c); ret v1) = specM (GoArith.quo true x c) := by
  rw [quo_signed, if_neg hc0, sdiv_some x c hc0 (fun h => hc1 h.2)]; rfl

theorem rem_s_const (x c : BitVec w) (hc0 : c ≠ 0#w) (hc1 : c ≠ BitVec.allOnes w) :
    (do let v1 ← srem (some x) (some c); ret v1) = specM (GoArith.rem true x c) := by
  rw [rem_signed, if_neg hc0, srem_some x c hc0 (fun h => hc1 h.2)]; rfl

theorem quo_u_const (x c : BitVec w) (hc0 : c ≠ 0#w) :
    (do let v1 ← udiv (some x) (some c); ret v1) = specM (GoArith.quo false x c) := by
  rw [quo_unsigned, if_neg hc0, udiv_some x c hc0]; rfl

theorem rem_u_const (x c : BitVec w) (hc0 : c ≠ 0#w) :
    (do let v1 ← urem (some x) (some c); ret v1) = specM (GoArith.rem false x c) := by
  rw [rem_unsigned, if_neg hc0, urem_some x c hc0]; rfl

section
variable (x c1 cz cmin cneg : BitVec w) (t : BitVec 1) (ht : t = 1#1) (h1 : c1 = 1#w) (hz : cz = 0#w)
  (hmin : cmin = BitVec.intMin w) (hneg : cneg = BitVec.allOnes w) (hw : 0 < w)
include ht h1 hz hmin hneg hw

theorem quo_s_m1 :
    guardedDiv sdiv (LLVM.and (icmp .eq (some x) (some cmin)) (some t)) x cneg x cz c1 = specM (GoArith.quo true x cneg) := by
  have hy : cneg ≠ 0#w := hneg ▸ allOnes_ne_zero hw
  rw [quo_signed, if_neg hy]
  exact div_guarded sdiv BitVec.sdiv sdiv_some x cneg x cz c1 _ (flag_x x cmin cneg t ht hmin hneg) hz h1 hw hy
    fun hx hy => by rw [hx, hy, intMin_sdiv_allOnes]

theorem rem_s_m1 :
    guardedDiv srem (LLVM.and (icmp .eq (some x) (some cmin)) (some t)) x cneg cz cz c1 = specM (GoArith.rem true x cneg) := by
  have hy : cneg ≠ 0#w := hneg ▸ allOnes_ne_zero hw
  rw [rem_signed, if_neg hy]
  exact div_guarded srem BitVec.srem srem_some x cneg cz cz c1 _ (flag_x x cmin cneg t ht hmin hneg) hz h1 hw hy
    fun _ hy => by rw [hz, hy, srem_allOnes x hw]

end

theorem quo_s_xmin (y c0 c1 cz cmin cneg : BitVec w) (t : BitVec 1) (ht : t = 1#1) (h0 : c0 = 0#w) (h1 : c1 = 1#w) (hz : cz = 0#w)
    (hmin : cmin = BitVec.intMin w) (hneg : cneg = BitVec.allOnes w) (hw : 0 < w) :
    (do let v1 := icmp .eq (some y) (some c0)
        assert .divZero v1
        let v2 := select v1 (some c1) (some y)
        let v3 := icmp .eq (some y) (some cneg)
        let v4 := LLVM.and (some t) v3
        let v5 := select v4 (some cz) (some cmin)
        let v6 := select v4 (some c1) v2
        let v7 ← sdiv v5 v6
        let v8 := select v4 (some cmin) v7
        ret v8) = specM (GoArith.quo true cmin y) := by
  rw [quo_signed]
  exact div_checked_guarded sdiv BitVec.sdiv sdiv_some cmin y cmin c0 c1 cz _ (flag_y y cmin cneg t ht hmin hneg) h0 h1 hz hw
    fun _ hy => by rw [hmin, hy, intMin_sdiv_allOnes]

theorem rem_s_xmin (y c0 c1 cz cmin cneg : BitVec w) (t : BitVec 1) (ht : t = 1#1) (h0 : c0 = 0#w) (h1 : c1 = 1#w) (hz : cz = 0#w)
    (hmin : cmin = BitVec.intMin w) (hneg : cneg = BitVec.allOnes w) (hw : 0 < w) :
    checkedGuardedDiv srem (LLVM.and (some t) (icmp .eq (some y) (some cneg))) cmin y cz c0 c1 cz
      = specM (GoArith.rem true cmin y) := by
  rw [rem_signed]
  exact div_checked_guarded srem BitVec.srem srem_some cmin y cz c0 c1 cz _ (flag_y y cmin cneg t ht hmin hneg) h0 h1 hz hw
    fun _ hy => by rw [hz, hy, srem_allOnes _ hw]

theorem add_p (s : Bool) (x y : BitVec w) : ret (LLVM.add (some x) (some y)) = .ok (GoArith.add s x y) := by
  rw [add_spec]; rfl
theorem sub_p (s : Bool) (x y : BitVec w) : ret (LLVM.sub (some x) (some y)) = .ok (GoArith.sub s x y) := by
  rw [sub_spec]; rfl
theorem mul_p (s : Bool) (x y : BitVec w) : ret (LLVM.mul (some x) (some y)) = .ok (GoArith.mul s x y) := by
  rw [mul_spec]; rfl
theorem and_p (x y : BitVec w) : ret (LLVM.and (some x) (some y)) = .ok (x &&& y) := rfl
theorem or_p (x y : BitVec w) : ret (LLVM.or (some x) (some y)) = .ok (x ||| y) := rfl
theorem xor_p (x y : BitVec w) : ret (LLVM.xor (some x) (some y)) = .ok (x ^^^ y) := rfl

theorem andnot_p (x y m : BitVec w) (hm : m = BitVec.allOnes w) :
    ret (LLVM.and (some x) (LLVM.xor (some y) (some m))) = .ok (x &&& ~~~y) := by
  rw [hm, ← BitVec.xor_allOnes]; rfl
theorem not_p (x m : BitVec w) (hm : m = BitVec.allOnes w) :
    ret (LLVM.xor (some x) (some m)) = .ok (~~~x) := by
  rw [hm, ← BitVec.xor_allOnes]; rfl
theorem neg_p (s : Bool) (x z : BitVec w) (hz : z = 0#w) :
    ret (LLVM.sub (some z) (some x)) = .ok (GoArith.neg s x) := by
  rw [hz, neg_spec, ← BitVec.zero_sub]; rfl

theorem eq_spec (s : Bool) (x y : BitVec w) : GoArith.eq s x y = (x == y) := by
  rw [GoArith.eq, Bool.eq_iff_iff, decide_eq_true_eq, beq_iff_eq]; exact val_inj s x y
theorem lt_unsigned (x y : BitVec w) : GoArith.lt false x y = x.ult y :=
  decide_eq_decide.2 Int.ofNat_lt
theorem le_unsigned (x y : BitVec w) : GoArith.le false x y = x.ule y :=
  decide_eq_decide.2 Int.ofNat_le

theorem eq_p (s : Bool) (x y : BitVec w) : ret (icmp .eq (some x) (some y)) = .ok (ofBool (GoArith.eq s x y)) := by
  rw [eq_spec]; rfl
theorem ne_p (s : Bool) (x y : BitVec w) : ret (icmp .ne (some x) (some y)) = .ok (ofBool (!GoArith.eq s x y)) := by
  rw [eq_spec]; rfl
theorem slt_p (x y : BitVec w) : ret (icmp .slt (some x) (some y)) = .ok (ofBool (GoArith.lt true x y)) := rfl
theorem sle_p (x y : BitVec w) : ret (icmp .sle (some x) (some y)) = .ok (ofBool (GoArith.le true x y)) := rfl
theorem sgt_p (x y : BitVec w) : ret (icmp .sgt (some x) (some y)) = .ok (ofBool (GoArith.lt true y x)) := rfl
theorem sge_p (x y : BitVec w) : ret (icmp .sge (some x) (some y)) = .ok (ofBool (GoArith.le true y x)) := rfl
theorem ult_p (x y : BitVec w) : ret (icmp .ult (some x) (some y)) = .ok (ofBool (GoArith.lt false x y)) := by
  rw [lt_unsigned]; rfl
theorem ule_p (x y : BitVec w) : ret (icmp .ule (some x) (some y)) = .ok (ofBool (GoArith.le false x y)) := by
  rw [le_unsigned]; rfl
theorem ugt_p (x y : BitVec w) : ret (icmp .ugt (some x) (some y)) = .ok (ofBool (GoArith.lt false y x)) := by
  rw [lt_unsigned]; rfl
theorem uge_p (x y : BitVec w) : ret (icmp .uge (some x) (some y)) = .ok (ofBool (GoArith.le false y x)) := by
  rw [le_unsigned]; rfl

theorem conv_unsigned (x : BitVec w) : GoArith.conv false w' x = x.setWidth w' := by
  rw [GoArith.conv, val_false, BitVec.ofInt_natCast, BitVec.ofNat_toNat]
theorem val_conv_of_le (s : Bool) (x : BitVec w) (h : w ≤ w') : GoArith.val s (GoArith.conv s w' x) = GoArith.val s x := by
  cases s
  · rw [conv_unsigned, val_false, val_false, BitVec.toNat_setWidth_of_le h]
  · exact BitVec.toInt_signExtend_of_le h
theorem conv_id (s : Bool) (x : BitVec w) : ret (some x) = .ok (GoArith.conv s w x) := by
  rw [GoArith.conv, ofInt_val]; rfl
theorem conv_sext (x : BitVec w) : ret (sext w' (some x)) = .ok (GoArith.conv true w' x) := rfl
theorem conv_zext (x : BitVec w) : ret (zext w' (some x)) = .ok (GoArith.conv false w' x) := by
  rw [conv_unsigned]; rfl
theorem conv_trunc (s : Bool) (x : BitVec w) (h : w' ≤ w) : ret (trunc w' (some x)) = .ok (GoArith.conv s w' x) := by
  cases s
  · rw [conv_unsigned]; rfl
  · exact congrArg Except.ok (BitVec.signExtend_eq_setWidth_of_le x h).symm

/-! constant shift counts (`overflows` folded to a constant by the IR builder); `n` is the count as the source wrote it (the
    literal printed on the specification side), `c` the same count at the operand's width -/
theorem shl_const (sx : Bool) (x c z : BitVec w) (f : BitVec 1) (hf : f = 0#1) (hc : c.toNat < w) (n : Nat) (hn : n = c.toNat) :
    ret (select (some f) (some z) (shl (some x) (some c))) = .ok (GoArith.shlMath sx x n) := by
  rw [hf, hn, shl_spec, shlE_of_lt x hc, shl, if_neg (Nat.not_le.2 hc)]; rfl
theorem lshr_const (x c z : BitVec w) (f : BitVec 1) (hf : f = 0#1) (hc : c.toNat < w) (n : Nat) (hn : n = c.toNat) :
    ret (select (some f) (some z) (lshr (some x) (some c))) = .ok (GoArith.shrMath false x n) := by
  rw [hf, hn, shr_spec, shrE_false, if_neg (Nat.not_le.2 hc), lshr, if_neg (Nat.not_le.2 hc)]; rfl
theorem ashr_const (x c : BitVec w) (hc : c.toNat < w) (n : Nat) (hn : n = c.toNat) :
    ret (ashr (some x) (some c)) = .ok (GoArith.shrMath true x n) := by
  rw [hn, shr_spec, shrE_true, if_neg (Nat.not_le.2 hc), ashr, if_neg (Nat.not_le.2 hc)]; rfl

/-! constant shift counts AT OR BEYOND the operand width: the builder folds `overflows` to true (the count is compared in ITS OWN
   type before it is narrowed); whatever the narrowed count is - even a value below the width, as for `uint8 << 256` - the result is
   0 (or the sign fill) -/
theorem shl_const_big (sx : Bool) (x c z : BitVec w) (f : BitVec 1) (hf : f = 1#1) (hz : z = 0#w) (n : Nat) (hn : w ≤ n) :
    ret (select (some f) (some z) (shl (some x) (some c))) = .ok (GoArith.shlMath sx x n) := by
  rw [hf, hz, shl_spec, shlE_of_le x hn]; rfl
theorem lshr_const_big (x c z : BitVec w) (f : BitVec 1) (hf : f = 1#1) (hz : z = 0#w) (n : Nat) (hn : w ≤ n) :
    ret (select (some f) (some z) (lshr (some x) (some c))) = .ok (GoArith.shrMath false x n) := by
  rw [hf, hz, shr_spec, shrE_false, if_pos hn]; rfl
theorem ashr_const_big (x c : BitVec w) (hc : c.toNat = w - 1) (hw : 0 < w) (n : Nat) (hn : w ≤ n) :
    ret (ashr (some x) (some c)) = .ok (GoArith.shrMath true x n) := by
  rw [shr_spec, shrE_true, if_pos hn, ashr, hc, if_neg (Nat.not_le.2 (Nat.sub_lt hw Nat.one_pos))]; rfl

end LlgoVerif.Arith
