import LlgoVerif.Spec.Container
import LlgoVerif.Lemmas.FixedLayout
/-! Lemmas for the gzip layer of C20: the reader `Gzip.gunzip` inverts the writers of `Spec/Container.lean`. -/
namespace LlgoVerif.Gzip
open LlgoVerif.Container

theorem length_natLE (k n : Nat) : (natLE k n).length = k := by
  induction k generalizing n with
  | zero => rfl
  | succ k ih => simp [natLE, ih]

theorem le_natLE (k n : Nat) : le (natLE k n) = n % 256 ^ k := by
  induction k generalizing n with
  | zero => simp [natLE, le, Nat.mod_one]
  | succ k ih =>
    simp only [natLE, le, ih]
    rw [Nat.pow_succ', Nat.mod_mul]
    simp

theorem le_natLE_of_lt (k n : Nat) (h : n < 256 ^ k) : le (natLE k n) = n := by
  rw [le_natLE, Nat.mod_eq_of_lt h]

theorem bits2_zero (rest : Bytes) (x : UInt8) (hx : x = 0 ∨ x = 1) :
    BitR.bits 2 ⟨tailBits x, rest⟩ = some (0, ⟨[false, false, false, false, false], rest⟩) := by
  rcases hx with rfl | rfl <;> rfl

theorem toNat_lo_add_hi (n : Nat) (h : n < 65536) :
    (UInt8.ofNat (n % 256)).toNat + 256 * (UInt8.ofNat (n / 256 % 256)).toNat = n := by
  simp only [UInt8.toNat_ofNat', Nat.mod_mod]; omega

theorem storedBlock_encode (b rest : Bytes) (out : Array UInt8) (hb : b.length < 65536) :
    Gzip.storedBlock (natLE 2 b.length ++ natLE 2 (65535 - b.length) ++ b ++ rest) out =
      (out ++ b.toArray, .ok ⟨[], rest⟩) := by
  simp only [natLE, List.cons_append, List.nil_append, Gzip.storedBlock, toNat_lo_add_hi _ hb,
    toNat_lo_add_hi (65535 - b.length) (by omega)]
  simp [List.take_left', List.drop_left']

theorem inflateBlocks_stored (fuel : Nat) (fin : Bool) (b rest : Bytes) (out : Array UInt8) (hb : b.length < 65536) :
    inflateBlocks (fuel + 1) ⟨[], Container.storedBlock fin b ++ rest⟩ out =
      if fin then (out ++ b.toArray, .ok rest) else inflateBlocks fuel ⟨[], rest⟩ (out ++ b.toArray) := by
  have hs := storedBlock_encode b rest out hb
  simp only [List.append_assoc] at hs
  -- the first byte holds the BFINAL bit, BTYPE 00 and five padding bits
  cases fin <;>
  · simp only [Container.storedBlock, Bool.false_eq_true, if_false, if_true, List.cons_append]
    rw [inflateBlocks]
    simp only [BitR.bit]
    rw [bits2_zero _ _ (by decide)]
    simp [hs]

theorem length_storedBlock (fin : Bool) (b : Bytes) : (Container.storedBlock fin b).length = 5 + b.length := by
  simp [Container.storedBlock, length_natLE]; omega

theorem length_flatMap_stored (bs : List Bytes) : bs.length ≤ (bs.flatMap (Container.storedBlock false)).length := by
  have := FixedLayout.length_flatMap_ge (Container.storedBlock false) 1 bs fun b _ => by rw [length_storedBlock]; omega
  omega

theorem inflateBlocks_deflate (blocks : List Bytes) (last rest : Bytes) :
    ∀ (fuel : Nat) (out : Array UInt8), blocks.length < fuel → (∀ b ∈ blocks, b.length < 65536) → last.length < 65536 →
    inflateBlocks fuel ⟨[], blocks.flatMap (Container.storedBlock false) ++ Container.storedBlock true last ++ rest⟩ out =
      (out ++ (blocks.flatten ++ last).toArray, .ok rest) := by
  induction blocks with
  | nil =>
    intro fuel out hf _ hl
    obtain ⟨f, rfl⟩ := Nat.exists_eq_add_one_of_ne_zero (Nat.ne_zero_of_lt hf)
    simp only [List.flatMap_nil, List.nil_append, List.flatten_nil]
    rw [inflateBlocks_stored f true last rest out hl]
    simp
  | cons b bs ih =>
    intro fuel out hf hb hl
    obtain ⟨f, rfl⟩ := Nat.exists_eq_add_one_of_ne_zero (Nat.ne_zero_of_lt hf)
    simp only [List.flatMap_cons, List.append_assoc]
    rw [inflateBlocks_stored f false b _ out (hb b (by simp))]
    simp only [Bool.false_eq_true, if_false]
    have := ih f (out ++ b.toArray) (by simp at hf; omega) (fun x hx => hb x (by simp [hx])) hl
    simp only [List.append_assoc] at this
    rw [this]
    simp

theorem inflate_deflate (m : GzMember) (wf : m.WF) (rest : Bytes) :
    inflate (m.deflate ++ rest) = (m.payload, .ok rest) := by
  unfold inflate GzMember.deflate
  rw [inflateBlocks_deflate m.blocks m.last rest _ #[] _ wf.blocks wf.last]
  · simp [GzMember.payload]
  · have := length_flatMap_stored m.blocks
    simp only [List.length_append]
    omega

/-- what follows a member's header -/
def bodyOf (m : GzMember) : Bytes := m.deflate ++ natLE 4 (crc32 m.payload).toNat ++ natLE 4 m.payload.length

theorem memberBody_encode (m : GzMember) (wf : m.WF) (rest : Bytes) :
    memberBody (bodyOf m ++ rest) = (m.payload, .ok rest) := by
  unfold memberBody bodyOf
  have := inflate_deflate m wf (natLE 4 (crc32 m.payload).toNat ++ natLE 4 m.payload.length ++ rest)
  simp only [List.append_assoc] at this ⊢
  rw [this]
  have h1 : (natLE 4 (crc32 m.payload).toNat ++ (natLE 4 m.payload.length ++ rest)).take 4 = natLE 4 (crc32 m.payload).toNat :=
    List.take_left' (length_natLE _ _)
  have h2 : ((natLE 4 (crc32 m.payload).toNat ++ (natLE 4 m.payload.length ++ rest)).drop 4).take 4 = natLE 4 m.payload.length := by
    rw [List.drop_left' (length_natLE _ _)]; exact List.take_left' (length_natLE _ _)
  have h3 : (natLE 4 (crc32 m.payload).toNat ++ (natLE 4 m.payload.length ++ rest)).drop 8 = rest := by
    rw [← List.append_assoc]; exact List.drop_left' (by simp [length_natLE])
  simp only [h1, h2, h3, le_natLE]
  have hc : (crc32 m.payload).toNat % 256 ^ 4 = (crc32 m.payload).toNat :=
    Nat.mod_eq_of_lt (by have := UInt32.toNat_lt (crc32 m.payload); omega)
  simp [hc, length_natLE]
  omega

theorem skipCStr_cstr (b rest : Bytes) : ∀ k, b.length < k → (0 : UInt8) ∉ b → skipCStr k (b ++ 0 :: rest) = .ok rest := by
  induction b with
  | nil =>
    intro k hk _
    obtain ⟨k', rfl⟩ := Nat.exists_eq_add_one_of_ne_zero (Nat.ne_zero_of_lt hk)
    simp [skipCStr]
  | cons x xs ih =>
    intro k hk h0
    obtain ⟨k', rfl⟩ := Nat.exists_eq_add_one_of_ne_zero (Nat.ne_zero_of_lt hk)
    have hx : x ≠ 0 := fun e => h0 (by simp [e])
    simp only [List.cons_append, skipCStr, hx, if_false]
    exact ih k' (by simp at hk; omega) (fun h => h0 (by simp [h]))

theorem skipStr_cstr (s : Option Bytes) (hs : cstrOK s) (rest : Bytes) :
    skipStr s.isSome (cstr s ++ rest) = .ok rest := by
  cases s with
  | none => simp [skipStr, cstr]
  | some b =>
    obtain ⟨h1, h2⟩ := hs b rfl
    simp only [skipStr, Option.isSome_some, if_true, cstr, List.append_assoc, List.cons_append, List.nil_append]
    exact skipCStr_cstr b rest 512 h1 h2

theorem flagByte_bits (m : GzMember) :
    (flagByte m).toNat.testBit 1 = m.hcrc ∧ (flagByte m).toNat.testBit 2 = m.extra.isSome ∧
    (flagByte m).toNat.testBit 3 = m.name.isSome ∧ (flagByte m).toNat.testBit 4 = m.comment.isSome := by
  have key : ∀ a b c d e : Bool,
      let f := UInt8.ofNat ((if a then 1 else 0) + (if b then 2 else 0) + (if c then 4 else 0) + (if d then 8 else 0) +
        (if e then 16 else 0))
      f.toNat.testBit 1 = b ∧ f.toNat.testBit 2 = c ∧ f.toNat.testBit 3 = d ∧ f.toNat.testBit 4 = e := by decide
  exact key m.text m.hcrc m.extra.isSome m.name.isSome m.comment.isSome

def extraField : Option Bytes → Bytes
  | none => []
  | some x => natLE 2 x.length ++ x

theorem headerBody_eq (m : GzMember) :
    m.headerBody = 0x1f :: 0x8b :: 8 :: flagByte m :: (natLE 4 m.mtime ++ m.xfl :: m.os ::
      (extraField m.extra ++ (cstr m.name ++ cstr m.comment))) := by
  unfold GzMember.headerBody extraField
  simp only [List.append_assoc, List.cons_append, List.nil_append]
  cases m.extra <;> rfl

theorem skipExtra_extraField (x : Option Bytes) (hx : ∀ b, x = some b → b.length < 65536) (rest : Bytes) :
    skipExtra x.isSome (extraField x ++ rest) = .ok rest := by
  cases x with
  | none => rfl
  | some b =>
    have hb := hx b rfl
    have ht : (natLE 2 b.length ++ b ++ rest).take 2 = natLE 2 b.length := by
      rw [List.append_assoc]; exact List.take_left' (length_natLE _ _)
    simp only [skipExtra, extraField, Option.isSome_some, if_true, ht, le_natLE_of_lt 2 b.length (by omega)]
    rw [List.append_assoc, List.drop_left' (length_natLE 2 b.length), ← List.append_assoc,
      List.drop_left' (by simp [length_natLE])]
    simp only [List.length_append, length_natLE]
    rw [if_neg (by omega), if_neg (by omega)]

theorem checkHcrc_written (b : Bool) (pre rest : Bytes) :
    checkHcrc b (pre ++ ((if b then natLE 2 ((crc32 pre).toNat % 65536) else []) ++ rest))
      ((if b then natLE 2 ((crc32 pre).toNat % 65536) else []) ++ rest) = .ok rest := by
  cases b with
  | false => rfl
  | true =>
    simp only [checkHcrc, if_true, List.length_append, Nat.add_sub_cancel, List.take_left' rfl,
      List.take_left' (length_natLE 2 _), le_natLE_of_lt 2 _ (show (crc32 pre).toNat % 65536 < 256 ^ 2 by omega),
      List.drop_left' (length_natLE 2 _), length_natLE]
    simp

theorem readHeader_header (m : GzMember) (wf : m.WF) (rest : Bytes) :
    readHeader (m.header ++ rest) = .ok rest := by
  obtain ⟨hb1, hb2, hb3, hb4⟩ := flagByte_bits m
  generalize hcrc : (if m.hcrc then natLE 2 ((crc32 m.headerBody).toNat % 65536) else []) = crc
  have hin : m.header ++ rest = m.headerBody ++ (crc ++ rest) := by simp [GzMember.header, hcrc]
  have hck := checkHcrc_written m.hcrc m.headerBody rest
  rw [hcrc, ← hin] at hck
  rw [headerBody_eq] at hin
  unfold readHeader
  have hlen : ¬ (m.header ++ rest).length < 10 := by rw [hin]; simp [length_natLE]; omega
  have htake : (m.header ++ rest).take 3 = [0x1f, 0x8b, 8] := by rw [hin]; rfl
  have hflag : (m.header ++ rest).getD 3 0 = flagByte m := by rw [hin]; rfl
  have hdrop : (m.header ++ rest).drop 10 =
      extraField m.extra ++ (cstr m.name ++ (cstr m.comment ++ (crc ++ rest))) := by
    rw [hin]; simp [natLE]
  simp only [hlen, if_false, htake, ne_eq, not_true, hflag, hb1, hb2, hb3, hb4, hdrop,
    skipExtra_extraField m.extra wf.extra, skipStr_cstr m.name wf.name, skipStr_cstr m.comment wf.comment, hck]

theorem encode_eq (m : GzMember) : m.encode = m.header ++ bodyOf m := by
  simp [GzMember.encode, bodyOf]

theorem header_length (m : GzMember) : 10 ≤ m.header.length := by
  simp [GzMember.header, headerBody_eq, length_natLE]; omega

theorem length_gzFile (ms : List GzMember) : ms.length ≤ (gzFile ms).length := by
  have := FixedLayout.length_flatMap_ge GzMember.encode 1 ms fun m _ => by
    have := header_length m
    rw [encode_eq, List.length_append]; omega
  rw [gzFile]; omega

theorem gzFile_cons_ne_nil (m : GzMember) (ms : List GzMember) : gzFile (m :: ms) ≠ [] := by
  intro h
  have := length_gzFile (m :: ms)
  rw [h] at this
  simp at this

theorem readHeader_gzFile_cons (m : GzMember) (ms : List GzMember) (hm : m.WF) :
    readHeader (gzFile (m :: ms)) = .ok (bodyOf m ++ gzFile ms) := by
  simp only [gzFile, List.flatMap_cons, encode_eq, List.append_assoc]
  exact readHeader_header m hm _

theorem members_gzFile (ms : List GzMember) : ∀ (m : GzMember) (fuel : Nat) (acc : Bytes),
    m.WF → (∀ x ∈ ms, x.WF) → ms.length < fuel →
    members true fuel (bodyOf m ++ gzFile ms) acc = ⟨acc ++ m.payload ++ ms.flatMap GzMember.payload, none⟩ := by
  induction ms with
  | nil =>
    intro m fuel acc hm _ hf
    obtain ⟨f, rfl⟩ := Nat.exists_eq_add_one_of_ne_zero (Nat.ne_zero_of_lt hf)
    have := memberBody_encode m hm []
    simp only [List.append_nil] at this
    simp only [gzFile, List.flatMap_nil, List.append_nil]
    rw [members, this]
    simp
  | cons m' ms ih =>
    intro m fuel acc hm hms hf
    obtain ⟨f, rfl⟩ := Nat.exists_eq_add_one_of_ne_zero (Nat.ne_zero_of_lt hf)
    have hb := memberBody_encode m hm (gzFile (m' :: ms))
    have hne := gzFile_cons_ne_nil m' ms
    have hh := readHeader_gzFile_cons m' ms (hms m' (by simp))
    rw [members, hb]
    simp only [Bool.not_true, Bool.false_eq_true, if_false, hne, hh]
    rw [ih m' f (acc ++ m.payload) (hms m' (by simp)) (fun x hx => hms x (by simp [hx])) (by simp at hf; omega)]
    simp

theorem gunzip_gzFile (m : GzMember) (ms : List GzMember) (hm : m.WF) (hms : ∀ x ∈ ms, x.WF) :
    gunzip true (gzFile (m :: ms)) = .ok ⟨(m :: ms).flatMap GzMember.payload, none⟩ := by
  unfold gunzip
  simp only [gzFile_cons_ne_nil m ms, if_false, readHeader_gzFile_cons m ms hm]
  rw [members_gzFile ms m _ [] hm hms]
  · simp
  · have := length_gzFile (m :: ms)
    simp at this
    omega

/-- with `Multistream(false)` the reader stops behind the first member -/
theorem gunzip_single_gzFile (m : GzMember) (ms : List GzMember) (hm : m.WF) :
    gunzip false (gzFile (m :: ms)) = .ok ⟨m.payload, none⟩ := by
  have hb := memberBody_encode m hm (gzFile ms)
  unfold gunzip
  simp only [gzFile_cons_ne_nil m ms, if_false, readHeader_gzFile_cons m ms hm]
  rw [members, hb]
  simp

end LlgoVerif.Gzip
