import LlgoVerif.Lemmas.DynEq
/-!
# Lemmas for DynEq (C07), hashing: `a == b → hash a = hash b`, unhashable values panic

A type flagged regular is hashed as raw bytes, and there `Equal` true means identical bytes (`regular_flat`); every other type
is walked by kind, as `typehash` does.
-/
namespace LlgoVerif.DynEq

/-! ## `TFlagRegularMemory` is sound: on a type flagged regular, `Equal` says true only for identical byte images -/

theorem callEq_regular_basic {b : Basic} (hr : b.regular = true) (d : Desc) (a c : List UInt8) :
    callEq descOf b.equalName d (.bytes a : Obj Ty) (.bytes c) = memeq b.size (.bytes a : Obj Ty) (.bytes c) := by
  cases b with
  | float32 | float64 | complex64 | complex128 | string => cases hr
  | _ => rfl

/-- `IsRegularMemory` treats structs of 0 / 1 / more fields apart; for one field it does not look at padding, so the
    loop's condition holds at the size that has none -/
theorem regularTy_struct {size n o : Nat} {t : Ty} {r : Fs} (hr : regularTy (.struct size (.cons n o t r)) = true) :
    regularFields (match r with | .nil => o + tsize t | .cons _ _ _ _ => size) (.cons n o t r) = true := by
  cases r with
  | nil => simpa only [regularFields, regularTy, beq_self_eq_true, Bool.and_true] using hr
  | cons _ _ _ _ => simpa only [regularTy] using hr

/-- the first field, if any, lies at the cursor: invariant of the field loop of `regular_flat` -/
def startsAt : Fs → Nat → Prop
  | .nil, _ => True
  | .cons _ off _ _, c => off = c

/-- `ispaddedfield` has found the field to end where the next one starts -/
theorem startsAt_next {fr : Fs} {c size : Nat} (h : c = match fr with | .nil => size | .cons _ off' _ _ => off') :
    startsAt fr c := by
  cases fr with
  | nil => trivial
  | cons _ _ _ _ => exact h.symm

theorem regularFields_len : ∀ (ps : Parts Ty) (fs : Fs) (c size : Nat), regularFields size fs = true →
    fitsFields fs ps c = true → startsAt fs c → c + (flatParts ps).length = (if fs = .nil then c else size)
  | .nil, fs, c, size, _, hp, _ => by
    cases fitsFields_shape hp
    rfl
  | .cons pre o rest, fs, c, size, hr, hp, hs => by
    cases fitsFields_shape hp with | @cons name off _ t fr _ _ _ hpre _ hlo hrr =>
    cases (show off = c from hs)
    cases List.eq_nil_of_length_eq_zero (Nat.add_eq_left.1 hpre)
    simp only [regularFields, Bool.and_eq_true, beq_iff_eq] at hr
    simp only [flatLen] at hlo
    simp only [flatParts, List.nil_append, List.length_append, reduceCtorEq, if_false, hlo, ← Nat.add_assoc]
    cases fr with
    | nil => exact ((regularFields_len rest .nil _ size hr.2 hrr trivial).trans (if_pos rfl)).trans hr.1.2
    | cons _ _ _ _ => exact (regularFields_len rest _ _ size hr.2 hrr hr.1.2.symm).trans (if_neg nofun)

/-- `regularFields size .nil` holds for every `size`, hence the `if` here and in `regularFields_len`; `layoutOK` closes the
    gap: `struct{}` has size 0, a single field fills the struct -/
theorem regular_struct {size : Nat} {fs : Fs} (hr : regularTy (.struct size fs) = true) (hl : layoutOK (.struct size fs) = true) :
    startsAt fs 0 ∧ regularFields size fs = true ∧ layoutOKFs fs = true ∧ (if fs = .nil then 0 else size) = size := by
  cases fs with
  | nil =>
    simp only [layoutOK, layoutOKFs, Bool.and_true, beq_iff_eq] at hl
    exact ⟨trivial, rfl, rfl, (if_pos rfl).trans hl.symm⟩
  | cons n o t r =>
    have h := regularTy_struct hr
    cases r with
    | nil =>
      simp only [layoutOK, Bool.and_eq_true, beq_iff_eq] at hl
      obtain ⟨⟨rfl, rfl⟩, hlf⟩ := hl
      exact ⟨rfl, Nat.zero_add (tsize t) ▸ h, hlf, if_neg nofun⟩
    | cons _ _ _ _ =>
      simp only [layoutOK, Bool.and_eq_true, beq_iff_eq] at hl
      exact ⟨hl.1, h, hl.2, if_neg nofun⟩

theorem regular_flat : FitsCases
    (fun ty p => ∀ q f, regularTy ty = true → layoutOK ty = true → fits ty q = true → equalName ty = some f →
      callEq descOf f (descOf ty) p q = .ok true → flat p = flat q)
    (fun e n ps => ∀ i qs g, regularTy e = true → layoutOK e = true → fitsElems e n qs = true → equalName e = some g →
      eqElems descOf (descOf e) n i ps qs (i * tsize e) (i * tsize e) = .ok true → flatParts ps = flatParts qs)
    (fun fs c ps => ∀ qs size, regularFields size fs = true → layoutOKFs fs = true → fitsFields fs qs c = true →
      startsAt fs c → allEqualNamed fs = true → eqFields descOf (descFields fs) ps qs c c = .ok true →
      flatParts ps = flatParts qs) where
  named ih := by simp only [fits_named]; exact ih
  shape hu hp hs ih q f hr hl hq hf he := by
    cases hs with
    | basic hb ha =>
      cases fits_shape hu hq with
      | basic _ hc =>
        cases hf
        rw [callEq_regular_basic hr, memeq_bytes ha hc] at he
        exact beq_iff_eq.1 (Except.ok.inj he)
      | str => exact absurd rfl hb
    | @ptr k _ _ ha =>
      cases fits_shape hu hq with | ptr hc =>
      cases k with
      | pointer | chan => cases hf; exact beq_iff_eq.1 (Except.ok.inj ((memeq_bytes ha hc).symm.trans he))
      | map | func => cases hr
    | slice | str | enil | eface => cases hr
    | @array n e ps hpe =>
      cases fits_shape hu hq with | @array _ _ qs hqe =>
      obtain ⟨g, hee, ⟨hz, rfl⟩ | rfl⟩ := equalName_array hf
      · have hzz : tsize (.array n e) = 0 := by rw [tsize, hz, Nat.mul_zero]
        rw [flat_eq_nil hp hzz, flat_eq_nil hq hzz]
      · rw [callEq_arrayequal] at he
        simp only [flat, List.append_nil]
        simp only [regularTy, Bool.or_eq_true, beq_iff_eq] at hr
        cases hr with
        | inr hn0 =>
          subst hn0
          cases fitsElems_shape hpe
          cases fitsElems_shape hqe
          rfl
        | inl hre => exact ih 0 qs g hre hl hqe hee he
    | @struct size fs ps tail hpf hps =>
      cases fits_shape hu hq with | @struct _ _ qs tail' hqf hqs =>
      obtain ⟨hall, e⟩ := callEq_struct hf ps qs tail tail'
      obtain ⟨h0, hrf, hlf, hsz⟩ := regular_struct hr hl
      have e2 := (regularFields_len ps fs 0 size hrf hpf h0).trans hsz
      have e3 := (regularFields_len qs fs 0 size hrf hqf h0).trans hsz
      rw [Nat.zero_add] at e2 e3
      simp only [flat]
      rw [ih qs size hrf hlf hqf h0 hall (e ▸ he), List.eq_nil_of_length_eq_zero (Nat.add_eq_left.1 (hps.trans e2.symm)),
        List.eq_nil_of_length_eq_zero (Nat.add_eq_left.1 (hqs.trans e3.symm))]
  enone i qs g _ _ hq _ _ := by cases fitsElems_shape hq; rfl
  econs _ hlo _ iho ihr i qs g hr hl hq hg he := by
    cases fitsElems_shape hq with | cons hfo' hlo' hrr' =>
    rw [eqElems_fit hg hlo hlo'] at he
    obtain ⟨hc, he⟩ := andThen_ok_true he
    simp only [flatParts, iho _ g hr hl hfo' hg hc, ihr (i+1) _ g hr hl hrr' hg he]
  fnone qs size _ _ hq _ _ _ := by cases fitsFields_shape hq; rfl
  fcons hpre _ hlo _ iho ihr qs size hr hl hq hs ha he := by
    cases fitsFields_shape hq with | cons hpre' hfo' hlo' hrr' =>
    cases (hs : _ = _)
    cases List.eq_nil_of_length_eq_zero (Nat.add_eq_left.1 hpre)
    cases List.eq_nil_of_length_eq_zero (Nat.add_eq_left.1 hpre')
    simp only [regularFields, Bool.and_eq_true, bne_iff_ne, ne_eq, beq_iff_eq] at hr
    obtain ⟨⟨⟨hname, hrt⟩, hend⟩, hrest⟩ := hr
    simp only [layoutOKFs, Bool.and_eq_true] at hl
    obtain ⟨⟨g, hg⟩, har⟩ := allEqualNamed_cons ha
    rw [eqFields_fit hg hpre hpre' hlo hlo', if_neg hname] at he
    obtain ⟨hc, he⟩ := andThen_ok_true he
    simp only [flatParts, iho _ g hrt hl.1 hfo' hg hc, ihr _ size hrest hl.2 hrr' (startsAt_next hend) har he]

theorem regular_flat_elems : ∀ (ps : Parts Ty) (e : Ty) (n i : Nat) (qs : Parts Ty) (g : EqFn),
    regularTy e = true → layoutOK e = true → fitsElems e n ps = true → fitsElems e n qs = true → equalName e = some g →
    eqElems descOf (descOf e) n i ps qs (i * tsize e) (i * tsize e) = .ok true → flatParts ps = flatParts qs :=
  fun ps e n i qs g hr hl hp => regular_flat.elems ps e n hp i qs g hr hl

theorem regular_flat_fields : ∀ (ps : Parts Ty) (fs : Fs) (qs : Parts Ty) (c size : Nat),
    regularFields size fs = true → layoutOKFs fs = true → fitsFields fs ps c = true → fitsFields fs qs c = true →
    startsAt fs c → allEqualNamed fs = true →
    eqFields descOf (descFields fs) ps qs c c = .ok true →
    flatParts ps = flatParts qs ∧ c + (flatParts ps).length = (if fs = .nil then c else size) ∧
      c + (flatParts qs).length = (if fs = .nil then c else size) :=
  fun ps fs qs c size hr hl hp hq hs ha he =>
    ⟨regular_flat.fields ps fs c hp qs size hr hl hq hs ha he, regularFields_len ps fs c size hr hp hs,
      regularFields_len qs fs c size hr hq hs⟩

/-! ## hashing -/

/-- the hash loops and `nilinterhash` spell this `match` out -/
def thenHash (r : HM) (rest : UInt64 → Nat → HM) : HM :=
  match r with
  | .error e => .error e
  | .ok (x, k') => rest x k'

/-- `k`, the `fastrand` counter, comes back unchanged: equal values hold no NaN, so nothing is drawn -/
abbrev SameOk (r₁ r₂ : HM) (k : Nat) : Prop := ∃ x, r₁ = .ok (x, k) ∧ r₂ = .ok (x, k)

abbrev PanicsIff (r : HM) (bad : Bool) : Prop := (bad = false → ∃ x k', r = .ok (x, k')) ∧ (bad = true → r = .error .unhashable)

theorem SameOk.seq {r₁ r₂ : HM} {k : Nat} {f₁ f₂ : UInt64 → Nat → HM} (h1 : SameOk r₁ r₂ k)
    (h2 : ∀ x, SameOk (f₁ x k) (f₂ x k) k) : SameOk (thenHash r₁ f₁) (thenHash r₂ f₂) k := by
  obtain ⟨x, e1, e2⟩ := h1
  rw [e1, e2]
  exact h2 x

theorem PanicsIff.seq {r : HM} {b1 b2 : Bool} {rest : UInt64 → Nat → HM} (h1 : PanicsIff r b1)
    (h2 : ∀ x k', PanicsIff (rest x k') b2) : PanicsIff (thenHash r rest) (b1 || b2) := by
  cases b1 with
  | true => rw [h1.2 rfl]; exact ⟨nofun, fun _ => rfl⟩
  | false =>
    obtain ⟨x, k', e⟩ := h1.1 rfl
    rw [e, Bool.false_or]
    exact h2 x k'

section hash
variable (H : Hashers) (rnd : Nat → UInt32)

def SameHash (d : Desc) (a b : Obj Ty) : Prop :=
  ∀ (h : UInt64) (k : Nat), SameOk (typehash descOf H rnd d a h k) (typehash descOf H rnd d b h k) k

section model
variable {τ : Type} {D : τ → Desc}

theorem hashElems_succ (elem : Desc) (n i : Nat) (pre : List UInt8) (o : Obj τ) (rest : Parts τ) (cur : Nat) (h : UInt64) (k : Nat) :
    hashElems D H rnd elem (n+1) i (.cons pre o rest) cur h k =
      if cur + pre.length ≠ i * elem.c.size then .error .wild
      else thenHash (typehash D H rnd elem o h k) (hashElems D H rnd elem n (i+1) rest (i * elem.c.size + flatLen o)) := by
  rw [hashElems]; rfl

theorem hashElems_zero (elem : Desc) (i : Nat) (ps : Parts τ) (cur : Nat) (h : UInt64) (k : Nat) :
    hashElems D H rnd elem 0 i ps cur h k = .ok (h, k) := by
  rw [hashElems]

theorem hashFields_nil (ps : Parts τ) (cur : Nat) (h : UInt64) (k : Nat) :
    hashFields D H rnd .nil ps cur h k = .ok (h, k) := by
  rw [hashFields]

theorem hashFields_cons (blank : Bool) (off : Nat) (t : Desc) (fr : DFields) (pre : List UInt8) (o : Obj τ) (rest : Parts τ)
    (cur : Nat) (h : UInt64) (k : Nat) :
    hashFields D H rnd (.cons blank off t fr) (.cons pre o rest) cur h k =
      if cur + pre.length ≠ off then .error .wild
      else if blank = true then hashFields D H rnd fr rest (off + flatLen o) h k
      else thenHash (typehash D H rnd t o h k) (hashFields D H rnd fr rest (off + flatLen o)) := by
  rw [hashFields]; rfl

theorem typehash_plain_bytes {c : Common} {kd : PKind} {a : List UInt8} {h : UInt64} {k : Nat} (hr : c.regular = false) :
    typehash D H rnd (.plain c kd) (.bytes a : Obj τ) h k =
      match kd with
      | .float32 => (readBytes (.bytes a : Obj τ) 4).map fun bs => floatHash H rnd 4 bs h k
      | .float64 => (readBytes (.bytes a : Obj τ) 8).map fun bs => floatHash H rnd 8 bs h k
      | .complex64 => (readBytes (.bytes a : Obj τ) 8).map fun bs => complexHash H rnd 4 bs h k
      | .complex128 => (readBytes (.bytes a : Obj τ) 16).map fun bs => complexHash H rnd 8 bs h k
      | .string => .error .wild
      | .other => .error .unhashable := by
  unfold typehash
  cases kd <;> simp only [Desc.c, hr, Bool.false_eq_true, if_false]

theorem typehash_iface [DecidableEq τ] {c : Common} {n : Nat} {o : Obj τ} {h : UInt64} {k : Nat} (hr : c.regular = false) :
    typehash D H rnd (.iface c n) o h k = nilinterhash D H rnd o h k := by
  unfold typehash nilinterhash
  cases o <;> simp only [Desc.c, hr, Bool.false_eq_true, if_false]

end model

theorem typehash_regular (ty : Ty) (o : Obj Ty) (h : UInt64) (k : Nat) (hr : regularTy ty = true) (hf : fits ty o = true) :
    typehash descOf H rnd (descOf ty) o h k =
      .ok ((if tsize ty = 4 then H.mh32 (flat o) h else if tsize ty = 8 then H.mh64 (flat o) h else H.mh (flat o) h), k) := by
  unfold typehash
  simp only [descOf_c, commonOf, hr, if_true, readBytes_flat (flatLen_of_fits ty o hf)]

theorem sameHash_regular (ty : Ty) (a b : Obj Ty) (hr : regularTy ty = true) (ha : fits ty a = true) (hb : fits ty b = true)
    (hfl : flat a = flat b) : SameHash H rnd (descOf ty) a b := by
  intro h k
  rw [typehash_regular H rnd ty a h k hr ha, typehash_regular H rnd ty b h k hr hb, hfl]
  exact ⟨_, rfl, rfl⟩

/-- the cursor is written `0 * tsize e` to meet the elements cases of `hash_eq`, `hash_total` at `i = 0` -/
theorem typehash_array {n : Nat} {e : Ty} (hr : regularTy (.array n e) = false)
    (ps : Parts Ty) (tail : List UInt8) (h : UInt64) (k : Nat) :
    typehash descOf H rnd (descOf (.array n e)) (.seq ps tail) h k =
      hashElems descOf H rnd (descOf e) n 0 ps (0 * tsize e) h k := by
  rw [descOf, Nat.zero_mul]
  unfold typehash
  simp only [Desc.c, commonOf, hr, Bool.false_eq_true, if_false]

theorem typehash_struct {size : Nat} {fs : Fs} (hr : regularTy (.struct size fs) = false) (ps : Parts Ty)
    (tail : List UInt8) (h : UInt64) (k : Nat) :
    typehash descOf H rnd (descOf (.struct size fs)) (.seq ps tail) h k = hashFields descOf H rnd (descFields fs) ps 0 h k := by
  rw [descOf]
  unfold typehash
  simp only [Desc.c, commonOf, hr, Bool.false_eq_true, if_false]

theorem hashElems_fit {e : Ty} {o : Obj Ty} (hlo : flatLen o = tsize e) (n i : Nat) (rest : Parts Ty) (h : UInt64) (k : Nat) :
    hashElems descOf H rnd (descOf e) (n + 1) i (.cons [] o rest) (i * tsize e) h k =
      thenHash (typehash descOf H rnd (descOf e) o h k) (hashElems descOf H rnd (descOf e) n (i + 1) rest ((i + 1) * tsize e)) := by
  rw [hashElems_succ]
  simp only [descOf_c, commonOf, List.length_nil, Nat.add_zero, ne_eq, not_true_eq_false, if_false, hlo, ← Nat.succ_mul]

theorem hashFields_fit {t : Ty} {c off : Nat} {pre : List UInt8} (hpre : c + pre.length = off) {o : Obj Ty}
    (hlo : flatLen o = tsize t) (name : Nat) (fr : Fs) (rest : Parts Ty) (h : UInt64) (k : Nat) :
    hashFields descOf H rnd (descFields (.cons name off t fr)) (.cons pre o rest) c h k =
      if name = 0 then hashFields descOf H rnd (descFields fr) rest (off + tsize t) h k
      else thenHash (typehash descOf H rnd (descOf t) o h k) (hashFields descOf H rnd (descFields fr) rest (off + tsize t)) := by
  simp only [descFields, hashFields_cons, hpre, hlo, ne_eq, not_true_eq_false, if_false, beq_iff_eq]

/-- needed beside `hash_eq`: after the data-word shortcut of `EfaceEqual` only `flat a = flat b` is known, not that `Equal`
    says true -/
theorem direct_hash : ∀ (a : Obj Ty) (t : Ty) (b : Obj Ty), (hd : directTy t = true) → (hc : comparable t = true) →
    (hl : layoutOK t = true) → (ha : fits t a = true) → (hb : fits t b = true) → (hfl : flat a = flat b) →
    SameHash H rnd (descOf t) a b := fun a t b => by
  induction t using under_rec with
  | named _ _ ih => simp only [fits_named]; exact ih
  | plain t hu =>
    intro hd hc hl ha hb hfl
    cases hr : regularTy t with
    | true => exact sameHash_regular H rnd t _ b hr ha hb hfl
    | false =>
      intro h k
      cases direct_shape hu hd hl ha with
      | uptr => cases hr
      | @ptr k =>
        cases k with
        | pointer | chan => cases hr
        | map | func => cases hc
      | array hde hfo =>
        cases direct_shape hu hd hl hb with | array _ hfo' =>
        simp only [flat, flatParts, List.nil_append, List.append_nil] at hfl
        rw [typehash_array H rnd hr, typehash_array H rnd hr, hashElems_fit H rnd (flatLen_of_fits _ _ hfo),
          hashElems_fit H rnd (flatLen_of_fits _ _ hfo')]
        exact SameOk.seq (direct_hash _ _ _ hde hc hl hfo hfo' hfl h k) fun x =>
          ⟨x, hashElems_zero H rnd .., hashElems_zero H rnd ..⟩
      | @struct _ name _ _ hdt hlt hfo =>
        cases direct_shape hu hd hl hb with | struct _ _ hfo' =>
        simp only [comparable, comparable.comparableFs, Bool.and_true] at hc
        simp only [flat, flatParts, List.nil_append, List.append_nil] at hfl
        rw [typehash_struct H rnd hr, typehash_struct H rnd hr, hashFields_fit H rnd (Nat.add_zero 0) (flatLen_of_fits _ _ hfo),
          hashFields_fit H rnd (Nat.add_zero 0) (flatLen_of_fits _ _ hfo')]
        split
        · exact ⟨h, hashFields_nil H rnd .., hashFields_nil H rnd ..⟩
        · exact SameOk.seq (direct_hash _ _ _ hdt hc hlt hfo hfo' hfl h k) fun x =>
            ⟨x, hashFields_nil H rnd .., hashFields_nil H rnd ..⟩

/-- every offset is 0 when `tsize e = 0`: the cursor of the array loop is written `0`, not `i * tsize e` -/
theorem zero_hash : FitsCases
    (fun t a => ∀ b, fits t b = true → tsize t = 0 → SameHash H rnd (descOf t) a b)
    (fun e n ps => ∀ i qs, fitsElems e n qs = true → tsize e = 0 → ∀ h k,
      SameOk (hashElems descOf H rnd (descOf e) n i ps 0 h k) (hashElems descOf H rnd (descOf e) n i qs 0 h k) k)
    (fun fs c ps => ∀ qs, fitsFields fs qs c = true → (flatParts ps).length = 0 → (flatParts qs).length = 0 → ∀ h k,
      SameOk (hashFields descOf H rnd (descFields fs) ps c h k) (hashFields descOf H rnd (descFields fs) qs c h k) k) where
  named ih := by simp only [fits_named]; exact ih
  shape hu ha hs ih b hb hz := by
    cases hr : regularTy _ with
    | true => exact sameHash_regular H rnd _ _ b hr ha hb (by rw [flat_eq_nil ha hz, flat_eq_nil hb hz])
    | false =>
      cases hs with
      | @array n e =>
        cases fits_shape hu hb with | array heb =>
        have hn : n ≠ 0 := by
          simp only [regularTy, Bool.or_eq_false_iff, beq_eq_false_iff_ne] at hr; exact hr.2
        intro h k
        rw [typehash_array H rnd hr, typehash_array H rnd hr, Nat.zero_mul]
        exact ih 0 _ heb ((Nat.mul_eq_zero.1 hz).resolve_left hn) h k
      | struct _ hsa =>
        cases fits_shape hu hb with | struct hfb hsb =>
        cases hz
        intro h k
        rw [typehash_struct H rnd hr, typehash_struct H rnd hr]
        exact ih _ hfb (Nat.eq_zero_of_add_eq_zero_right hsa) (Nat.eq_zero_of_add_eq_zero_right hsb) h k
      | basic => exact absurd hz (Nat.pos_iff_ne_zero.1 (Basic.size_pos _))
      | ptr | slice | str | enil | eface => cases hz
  enone i qs _ _ h k := ⟨h, by rw [hashElems_zero], by rw [hashElems_zero]⟩
  econs _ hlo _ iho ihr i qs hb hz h k := by
    cases fitsElems_shape hb with | cons hfo' hlo' hrr' =>
    rw [hashElems_succ, hashElems_succ]
    simp only [descOf_c, commonOf, hz, hlo, hlo', List.length_nil, Nat.add_zero, Nat.mul_zero, ne_eq,
      not_true_eq_false, if_false]
    exact SameOk.seq (iho _ hfo' hz h k) fun x => ihr (i+1) _ hrr' hz x k
  fnone qs _ _ _ h k := ⟨h, by rw [descFields, hashFields_nil], by rw [descFields, hashFields_nil]⟩
  fcons hpre _ hlo _ iho ihr qs hb hz hz' h k := by
    cases fitsFields_shape hb with | cons hpre' hfo' hlo' hrr' =>
    simp only [flatParts, List.length_append] at hz hz'
    have ih := ihr _ hrr' (Nat.eq_zero_of_add_eq_zero_left hz) (Nat.eq_zero_of_add_eq_zero_left hz')
    rw [hashFields_fit H rnd hpre hlo, hashFields_fit H rnd hpre' hlo']
    split
    · exact ih h k
    · exact SameOk.seq (iho _ hfo' (hlo ▸ Nat.eq_zero_of_add_eq_zero_left (Nat.eq_zero_of_add_eq_zero_right hz)) h k)
        fun x => ih x k

theorem zero_hash_elems : ∀ (ps : Parts Ty) (e : Ty) (n i : Nat) (qs : Parts Ty), comparable e = true →
    fitsElems e n ps = true → fitsElems e n qs = true → tsize e = 0 → ∀ (h : UInt64) (k : Nat),
    ∃ x, hashElems descOf H rnd (descOf e) n i ps 0 h k = .ok (x, k) ∧ hashElems descOf H rnd (descOf e) n i qs 0 h k = .ok (x, k) :=
  fun ps e n i qs _ hp => (zero_hash H rnd).elems ps e n hp i qs

theorem zero_hash_fields : ∀ (ps : Parts Ty) (fs : Fs) (qs : Parts Ty) (c : Nat), comparable.comparableFs fs = true →
    fitsFields fs ps c = true → fitsFields fs qs c = true → (flatParts ps).length = 0 → (flatParts qs).length = 0 →
    ∀ (h : UInt64) (k : Nat),
    ∃ x, hashFields descOf H rnd (descFields fs) ps c h k = .ok (x, k) ∧ hashFields descOf H rnd (descFields fs) qs c h k = .ok (x, k) :=
  fun ps fs qs c _ hp => (zero_hash H rnd).fields ps fs c hp qs

/-- floats that are `==` hash alike (±0 share the constant, NaN never compares equal), without a `fastrand` call -/
theorem floatHash_eq (w : Nat) (a c : List UInt8) (hl : a.length = c.length) (h : UInt64) (k : Nat)
    (he : (if w = 4 then feq32 (leNat a) (leNat c) else feq64 (leNat a) (leNat c)) = true) :
    floatHash H rnd w a h k = floatHash H rnd w c h k ∧ (floatHash H rnd w a h k).2 = k := by
  by_cases hw : w = 4
  · simp only [hw, if_true, feq32, Bool.and_eq_true, Bool.not_eq_true', Bool.or_eq_true, beq_iff_eq] at he
    obtain ⟨⟨hna, hnc⟩, hor⟩ := he
    cases hor with
    | inl heq =>
      have := leNat_inj a c hl heq
      subst this
      simp only [floatHash, hw, if_true, hna, Bool.false_eq_true, if_false, true_and]
      split <;> rfl
    | inr hz => simp only [floatHash, hw, if_true, hz.1, hz.2, and_self]
  · simp only [hw, if_false, feq64, Bool.and_eq_true, Bool.not_eq_true', Bool.or_eq_true, beq_iff_eq] at he
    obtain ⟨⟨hna, hnc⟩, hor⟩ := he
    cases hor with
    | inl heq =>
      have := leNat_inj a c hl heq
      subst this
      simp only [floatHash, hw, if_false, hna, Bool.false_eq_true, true_and]
      split <;> rfl
    | inr hz => simp only [floatHash, hw, if_false, hz.1, hz.2, if_true, and_self]

theorem complexHash_eq (w : Nat) (a c : List UInt8) (hl : a.length = c.length) (h : UInt64) (k : Nat)
    (he1 : (if w = 4 then feq32 (leNat (a.take w)) (leNat (c.take w)) else feq64 (leNat (a.take w)) (leNat (c.take w))) = true)
    (he2 : (if w = 4 then feq32 (leNat (a.drop w)) (leNat (c.drop w)) else feq64 (leNat (a.drop w)) (leNat (c.drop w))) = true) :
    complexHash H rnd w a h k = complexHash H rnd w c h k ∧ (complexHash H rnd w a h k).2 = k := by
  have l1 : (a.take w).length = (c.take w).length := by rw [List.length_take, List.length_take, hl]
  have l2 : (a.drop w).length = (c.drop w).length := by rw [List.length_drop, List.length_drop, hl]
  obtain ⟨e1, k1⟩ := floatHash_eq H rnd w (a.take w) (c.take w) l1 h k he1
  simp only [complexHash]
  rw [← e1]
  obtain ⟨e2, k2⟩ := floatHash_eq H rnd w (a.drop w) (c.drop w) l2 (floatHash H rnd w (a.take w) h k).1 k he2
  rw [k1]
  exact ⟨e2, k2⟩

theorem SameOk.map_readBytes {F : List UInt8 → UInt64 × Nat} {n k : Nat} {a c : List UInt8} (ha : a.length = n)
    (hc : c.length = n) (e : F a = F c ∧ (F a).2 = k) :
    SameOk ((readBytes (.bytes a : Obj Ty) n).map F) ((readBytes (.bytes c : Obj Ty) n).map F) k := by
  rw [readBytes_bytes ha, readBytes_bytes hc, ← e.2]
  exact ⟨_, rfl, congrArg Except.ok e.1.symm⟩

theorem hash_eq_float {b : Basic} (hr : b.regular = false) (hb : b ≠ .string) {a c : List UInt8} (ha : a.length = b.size)
    (hc : c.length = b.size) (he : callEq descOf b.equalName (descOf (.basic b)) (.bytes a : Obj Ty) (.bytes c) = .ok true) :
    SameHash H rnd (descOf (.basic b)) (.bytes a) (.bytes c) := by
  have hcr : (commonOf (.basic b)).regular = false := hr
  intro h k
  rw [descOf, typehash_plain_bytes H rnd hcr, typehash_plain_bytes H rnd hcr]
  cases b with
  | float32 =>
    exact SameOk.map_readBytes (n := 4) ha hc (floatHash_eq H rnd 4 a c (ha.trans hc.symm) h k
      (Except.ok.inj ((floatEq_bytes (w := 4) ha hc).symm.trans he)))
  | float64 =>
    exact SameOk.map_readBytes (n := 8) ha hc (floatHash_eq H rnd 8 a c (ha.trans hc.symm) h k
      (Except.ok.inj ((floatEq_bytes (w := 8) ha hc).symm.trans he)))
  | complex64 =>
    have he := Bool.and_eq_true_iff.1 (Except.ok.inj ((complexEq_bytes (w := 4) ha hc).symm.trans he))
    exact SameOk.map_readBytes (n := 8) ha hc (complexHash_eq H rnd 4 a c (ha.trans hc.symm) h k he.1 he.2)
  | complex128 =>
    have he := Bool.and_eq_true_iff.1 (Except.ok.inj ((complexEq_bytes (w := 8) ha hc).symm.trans he))
    exact SameOk.map_readBytes (n := 16) ha hc (complexHash_eq H rnd 8 a c (ha.trans hc.symm) h k he.1 he.2)
  | string => exact absurd rfl hb
  | _ => cases hr

theorem typehash_iface_ty (n tag : Nat) (o : Obj Ty) (h : UInt64) (k : Nat) :
    typehash descOf H rnd (descOf (.iface n tag)) o h k = nilinterhash descOf H rnd o h k := by
  rw [descOf, typehash_iface H rnd rfl]

theorem nilinterhash_eface (tw : Nat) (t : Ty) (dw : UInt64) (box : Obj Ty) (h : UInt64) (k : Nat) :
    nilinterhash descOf H rnd (.eface tw t dw box) h k =
      match equalName t with
      | none => .error .unhashable
      | some _ => thenHash (typehash descOf H rnd (descOf t) box (h ^^^ c0) k) fun x k' => .ok (c1 * x, k') := by
  rw [nilinterhash, descOf_c, commonOf]
  cases equalName t <;> rfl

/-- **`a == b → hash(a) = hash(b)`** for the `Equal` function and `typehash` of one descriptor -/
theorem hash_eq : FitsCases
    (fun ty p => ∀ q f, layoutOK ty = true → fits ty q = true → equalName ty = some f →
      callEq descOf f (descOf ty) p q = .ok true → SameHash H rnd (descOf ty) p q)
    (fun e n ps => ∀ i qs g, layoutOK e = true → fitsElems e n qs = true → equalName e = some g →
      eqElems descOf (descOf e) n i ps qs (i * tsize e) (i * tsize e) = .ok true → ∀ h k,
      SameOk (hashElems descOf H rnd (descOf e) n i ps (i * tsize e) h k)
        (hashElems descOf H rnd (descOf e) n i qs (i * tsize e) h k) k)
    (fun fs c ps => ∀ qs, layoutOKFs fs = true → fitsFields fs qs c = true → allEqualNamed fs = true →
      eqFields descOf (descFields fs) ps qs c c = .ok true → ∀ h k,
      SameOk (hashFields descOf H rnd (descFields fs) ps c h k) (hashFields descOf H rnd (descFields fs) qs c h k) k) where
  named ih := by simp only [fits_named]; exact ih
  shape hu hp hs ih q f hl hq hf he := by
    cases hr : regularTy _ with
    | true => exact sameHash_regular H rnd _ _ q hr hp hq (regular_flat.obj _ _ hp q f hr hl hq hf he)
    | false =>
    cases hs with
    | basic hb ha =>
      cases fits_shape hu hq with
      | basic _ hc => cases hf; exact hash_eq_float H rnd hr hb ha hc he
      | str => exact absurd rfl hb
    | @ptr k =>
      cases k with
      | pointer | chan => cases hr
      | map | func => cases hf
    | slice => cases hf
    | @str _ s =>
      cases fits_shape hu hq with
      | basic hb => exact absurd rfl hb
      | @str _ s' =>
        cases hf
        cases beq_iff_eq.1 (Except.ok.inj (he : Except.ok (s == s') = .ok true))
        exact fun h k => ⟨H.mh s h, rfl, rfl⟩
    | enil =>
      rw [callEq_inter (equalName_iface hf)] at he
      cases fits_shape hu hq with
      | enil => exact fun h k => ⟨h, rfl, rfl⟩
      | eface => rw [efaceEqual] at he; cases he
    | @eface _ _ tw t dw box hfb hlay hdir =>
      rw [callEq_inter (equalName_iface hf)] at he
      cases fits_shape hu hq with
      | enil => rw [efaceEqual] at he; cases he
      | @eface _ _ tw' t' dw' box' hfb' _ hdir' =>
        by_cases htt : t = t'
        · subst htt
          rw [efaceEqual_same] at he
          cases hg : equalName t with
          | none => rw [hg] at he; cases he
          | some g =>
            simp only [hg] at he
            have hsame : SameHash H rnd (descOf t) box box' := by
              by_cases hd : directTy t = true
              · cases beq_iff_eq.1 (Except.ok.inj ((if_pos hd).symm.trans he))
                exact direct_hash H rnd box t box' hd (comparable_of_equalName hg) hlay hfb hfb'
                  ((hdir hd).trans (hdir' hd).symm)
              · exact ih box' g hlay hfb' hg ((if_neg hd).symm.trans he)
            intro h k
            rw [typehash_iface_ty H rnd, typehash_iface_ty H rnd, nilinterhash_eface, nilinterhash_eface]
            simp only [hg]
            exact SameOk.seq (hsame (h ^^^ c0) k) fun x => ⟨_, rfl, rfl⟩
        · rw [efaceEqual_ne htt] at he; cases he
    | array =>
      obtain ⟨g, hg, ⟨hz, rfl⟩ | rfl⟩ := equalName_array hf
      · exact (zero_hash H rnd).obj _ _ hp q hq (by rw [tsize, hz, Nat.mul_zero])
      · cases fits_shape hu hq with | array hqe =>
        rw [callEq_arrayequal] at he
        intro h k
        rw [typehash_array H rnd hr, typehash_array H rnd hr]
        exact ih 0 _ g hl hqe hg he h k
    | @struct _ _ ps =>
      cases fits_shape hu hq with | @struct _ _ qs _ hqf =>
      obtain ⟨hall, e⟩ := callEq_struct hf ps qs _ _
      simp only [layoutOK, Bool.and_eq_true] at hl
      intro h k
      rw [typehash_struct H rnd hr, typehash_struct H rnd hr]
      exact ih _ hl.2 hqf hall (e ▸ he) h k
  enone i qs g _ _ _ _ h k := ⟨h, by rw [hashElems_zero], by rw [hashElems_zero]⟩
  econs _ hlo _ iho ihr i qs g hl hq hg he h k := by
    cases fitsElems_shape hq with | cons hfo' hlo' hrr' =>
    rw [eqElems_fit hg hlo hlo'] at he
    obtain ⟨hc, he⟩ := andThen_ok_true he
    rw [hashElems_fit H rnd hlo, hashElems_fit H rnd hlo']
    exact SameOk.seq (iho _ g hl hfo' hg hc h k) fun x => ihr (i+1) _ g hl hrr' hg he x k
  fnone qs _ _ _ _ h k := ⟨h, by rw [descFields, hashFields_nil], by rw [descFields, hashFields_nil]⟩
  fcons hpre _ hlo _ iho ihr qs hl hq ha he h k := by
    cases fitsFields_shape hq with | cons hpre' hfo' hlo' hrr' =>
    simp only [layoutOKFs, Bool.and_eq_true] at hl
    obtain ⟨⟨g, hg⟩, har⟩ := allEqualNamed_cons ha
    rw [eqFields_fit hg hpre hpre' hlo hlo'] at he
    rw [hashFields_fit H rnd hpre hlo, hashFields_fit H rnd hpre' hlo']
    split
    · next hn =>
      rw [if_pos hn] at he
      exact ihr _ hl.2 hrr' har he h k
    · next hn =>
      rw [if_neg hn] at he
      obtain ⟨hc, he⟩ := andThen_ok_true he
      exact SameOk.seq (iho _ g hl.1 hfo' hg hc h k) fun x => ihr _ hl.2 hrr' har he x k

theorem hash_eq_elems : ∀ (ps : Parts Ty) (e : Ty) (n i : Nat) (qs : Parts Ty) (g : EqFn), layoutOK e = true →
    fitsElems e n ps = true → fitsElems e n qs = true → equalName e = some g →
    eqElems descOf (descOf e) n i ps qs (i * tsize e) (i * tsize e) = .ok true → ∀ (h : UInt64) (k : Nat),
    ∃ x, hashElems descOf H rnd (descOf e) n i ps (i * tsize e) h k = .ok (x, k) ∧
      hashElems descOf H rnd (descOf e) n i qs (i * tsize e) h k = .ok (x, k) :=
  fun ps e n i qs g hl hp => (hash_eq H rnd).elems ps e n hp i qs g hl

theorem hash_eq_fields : ∀ (ps : Parts Ty) (fs : Fs) (qs : Parts Ty) (c : Nat), layoutOKFs fs = true →
    fitsFields fs ps c = true → fitsFields fs qs c = true → allEqualNamed fs = true →
    eqFields descOf (descFields fs) ps qs c c = .ok true → ∀ (h : UInt64) (k : Nat),
    ∃ x, hashFields descOf H rnd (descFields fs) ps c h k = .ok (x, k) ∧
      hashFields descOf H rnd (descFields fs) qs c h k = .ok (x, k) :=
  fun ps fs qs c hl hp => (hash_eq H rnd).fields ps fs c hp qs hl

theorem hash_eq_equalD {K : Ty} {a b : Obj Ty} (hc : comparable K = true) (hl : layoutOK K = true) (ha : fits K a = true)
    (hb : fits K b = true) (h : equalD descOf (descOf K) a b = .ok true) : SameHash H rnd (descOf K) a b := by
  obtain ⟨f, hf, e⟩ := equalD_of_comparable hc
  exact (hash_eq H rnd).obj a K ha b f hl hb hf (e a b ▸ h)

theorem ifaceHash_eq_at {ty : Ty} {n tag : Nat} (hty : under ty = .iface n tag) (v u : Obj Ty)
    (hv : fits ty v = true) (hu : fits ty u = true) (he : efaceEqual descOf v u = .ok true) (seed : UInt64) (k : Nat) :
    SameOk (nilinterhash descOf H rnd v seed k) (nilinterhash descOf H rnd u seed k) k := by
  obtain ⟨f, hf, hi⟩ := equalName_of_iface hty
  rw [← callEq_inter hi (descOf ty)] at he
  have := (hash_eq H rnd).obj v ty hv u f (by rw [← layoutOK_under, hty]; rfl) hu hf he seed k
  rwa [← descOf_under, hty, typehash_iface_ty H rnd, typehash_iface_ty H rnd] at this

/-! ## which values cannot be hashed -/

/-- a type flagged regular has no interface part: nothing in it can be unhashable -/
theorem regular_hashable : FitsCases
    (fun ty o => regularTy ty = true → unhashable ty (valOf ty o) = false)
    (fun e _ ps => regularTy e = true → unhashableElems e (valElems e ps) = false)
    (fun fs _ ps => ∀ size, regularFields size fs = true → unhashableFields fs (valFields fs ps) = false) where
  named ih := by simp only [valOf_named, unhashable_named]; exact ih
  shape _ _ hs ih hr := by
    cases hs with
    | array hfe =>
      simp only [regularTy, Bool.or_eq_true, beq_iff_eq] at hr
      cases hr with
      | inl hre => exact ih hre
      | inr hn => subst hn; cases fitsElems_shape hfe; rfl
    | @struct size fs =>
      cases fs with
      | nil => exact ih size rfl
      | cons n1 o1 t1 r1 => exact ih _ (regularTy_struct hr)
    | basic | ptr | slice =>
      simp only [valOf]
      split <;> rfl
    | str | enil | eface => cases hr
  enone _ := rfl
  econs _ _ _ iho ihr hr := by simp only [valElems, unhashableElems, iho hr, ihr hr, Bool.or_false]
  fnone _ _ := rfl
  fcons _ _ _ _ iho ihr size hr := by
    simp only [regularFields, Bool.and_eq_true, bne_iff_ne, ne_eq] at hr
    simp only [valFields, unhashableFields, if_neg hr.1.1.1, iho hr.1.1.2, ihr size hr.2, Bool.and_false, Bool.or_false]

theorem regular_hashable_elems : ∀ (ps : Parts Ty) (e : Ty) (n : Nat), regularTy e = true → fitsElems e n ps = true →
    unhashableElems e (valElems e ps) = false :=
  fun ps e n hr hf => regular_hashable.elems ps e n hf hr

theorem regular_hashable_fields : ∀ (ps : Parts Ty) (fs : Fs) (c size : Nat), regularFields size fs = true →
    fitsFields fs ps c = true → unhashableFields fs (valFields fs ps) = false :=
  fun ps fs c size hr hf => regular_hashable.fields ps fs c hf size hr

/-- **hashing panics exactly for the values that hold, in a non-blank position at any depth, an interface with an
    uncomparable dynamic type** (and never for another reason), for every comparable key type -/
theorem hash_total : FitsCases
    (fun ty o => comparable ty = true → ∀ h k,
      PanicsIff (typehash descOf H rnd (descOf ty) o h k) (unhashable ty (valOf ty o)))
    (fun e n ps => ∀ i, comparable e = true → ∀ h k,
      PanicsIff (hashElems descOf H rnd (descOf e) n i ps (i * tsize e) h k) (unhashableElems e (valElems e ps)))
    (fun fs c ps => comparable.comparableFs fs = true → ∀ h k,
      PanicsIff (hashFields descOf H rnd (descFields fs) ps c h k) (unhashableFields fs (valFields fs ps))) where
  named ih := by simp only [valOf_named, unhashable_named]; exact ih
  shape hu hf hs ih hc h k := by
    cases hr : regularTy _ with
    | true =>
      rw [typehash_regular H rnd _ _ h k hr hf, regular_hashable.obj _ _ hf hr]
      exact ⟨fun _ => ⟨_, _, rfl⟩, nofun⟩
    | false =>
    cases hs with
    | @basic b _ hb hl =>
      have hcr : (commonOf (.basic b)).regular = false := hr
      simp only [descOf, valOf, hu]
      rw [typehash_plain_bytes H rnd hcr]
      cases b with
      | float32 | float64 | complex64 | complex128 =>
        simp only [Basic.size] at hl
        simp only [Basic.pkind, unhashable, readBytes_bytes hl, Except.map]
        exact ⟨fun _ => ⟨_, _, rfl⟩, nofun⟩
      | string => exact absurd rfl hb
      | _ => cases hr
    | @ptr k' =>
      cases k' with
      | pointer | chan => cases hr
      | map | func => cases hc
    | slice => cases hc
    | @str _ s => exact ⟨fun _ => ⟨H.mh s h, k, rfl⟩, nofun⟩
    | enil => exact ⟨fun _ => ⟨h, k, rfl⟩, nofun⟩
    | @eface _ _ _ t =>
      simp only [valOf, hu, unhashable]
      rw [typehash_iface_ty H rnd, nilinterhash_eface]
      cases hct : comparable t with
      | true =>
        obtain ⟨g, hg⟩ := equalName_of_comparable hct
        simp only [hg, Bool.not_true, Bool.false_or]
        rw [← Bool.or_false (unhashable t _)]
        exact PanicsIff.seq (ih hct (h ^^^ c0) k) fun x k' => ⟨fun _ => ⟨_, _, rfl⟩, nofun⟩
      | false =>
        rw [(equalName_none_iff t).2 hct]
        exact ⟨nofun, fun _ => rfl⟩
    | array =>
      rw [typehash_array H rnd hr]
      exact ih 0 hc h k
    | struct =>
      rw [typehash_struct H rnd hr]
      exact ih hc h k
  enone i _ h k := by
    simp only [valElems, unhashableElems]
    exact ⟨fun _ => ⟨h, k, by rw [hashElems_zero]⟩, nofun⟩
  econs _ hlo _ iho ihr i hc h k := by
    rw [valElems, unhashableElems, hashElems_fit H rnd hlo]
    exact PanicsIff.seq (iho hc h k) fun x k' => ihr (i+1) hc x k'
  fnone _ h k := by
    simp only [valFields, unhashableFields, descFields, hashFields_nil]
    exact ⟨fun _ => ⟨h, k, rfl⟩, nofun⟩
  fcons hpre _ hlo _ iho ihr hc h k := by
    simp only [comparable.comparableFs, Bool.and_eq_true] at hc
    rw [valFields, unhashableFields, hashFields_fit H rnd hpre hlo]
    split
    · next hn =>
      simp only [bne_eq_false_iff_eq.2 hn, Bool.false_and, Bool.false_or]
      exact ihr hc.2 h k
    · next hn =>
      simp only [bne_iff_ne.2 hn, Bool.true_and]
      exact PanicsIff.seq (iho hc.1 h k) fun x k' => ihr hc.2 x k'

theorem hash_total_elems : ∀ (ps : Parts Ty) (e : Ty) (n i : Nat), comparable e = true → fitsElems e n ps = true →
    ∀ (h : UInt64) (k : Nat),
    (unhashableElems e (valElems e ps) = false → ∃ x k', hashElems descOf H rnd (descOf e) n i ps (i * tsize e) h k = .ok (x, k')) ∧
    (unhashableElems e (valElems e ps) = true → hashElems descOf H rnd (descOf e) n i ps (i * tsize e) h k = .error .unhashable) :=
  fun ps e n i hc hf => (hash_total H rnd).elems ps e n hf i hc

theorem hash_total_fields : ∀ (ps : Parts Ty) (fs : Fs) (c : Nat), comparable.comparableFs fs = true → fitsFields fs ps c = true →
    ∀ (h : UInt64) (k : Nat),
    (unhashableFields fs (valFields fs ps) = false → ∃ x k', hashFields descOf H rnd (descFields fs) ps c h k = .ok (x, k')) ∧
    (unhashableFields fs (valFields fs ps) = true → hashFields descOf H rnd (descFields fs) ps c h k = .error .unhashable) :=
  fun ps fs c hc hf => (hash_total H rnd).fields ps fs c hf hc

end hash

end LlgoVerif.DynEq
