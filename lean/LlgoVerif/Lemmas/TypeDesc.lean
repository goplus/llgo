import LlgoVerif.Model.TypeDesc
/-!
# Lemmas for C15: where the run-time library looks for what the compiler wrote (`Model/TypeDesc.lean`)
-/
namespace LlgoVerif.Types

theorem runtimeName_by_kind (env : Env) (uh : Nat → Header) (hu : ∀ d, uh d = emitHeader (env.underKind d)) :
    ∀ t : GoType, runtimeNameC uh t = emitHeader (kindOf env t)
  | .alias _ a => by simpa [runtimeNameC, kindOf] using runtimeName_by_kind env uh hu a
  | .basic k => by cases k <;> rfl
  | .pointer _ => rfl
  | .slice _ => rfl
  | .func _ _ _ => rfl
  | .iface _ => rfl
  | .struct _ => rfl
  | .map _ _ => rfl
  | .array _ _ => rfl
  | .chan _ _ => rfl
  | .named d _ _ _ _ => by simp [runtimeNameC, kindOf, hu]

theorem direct_kinds (env : Env) (ud : Nat → Bool) (hd : ∀ d, ud d = true → directKind (env.underKind d) = true) :
    ∀ t : GoType, directIfaceTypeC ud t = true → directKind (kindOf env t) = true
  | .alias _ a => by simpa [directIfaceTypeC, kindOf] using direct_kinds env ud hd a
  | .basic k => fun h => by cases (eq_of_beq h : k = .unsafePointer); rfl
  | .pointer _ => fun _ => rfl
  | .slice _ => by simp [directIfaceTypeC]
  | .func _ _ _ => fun _ => rfl
  | .iface _ => by simp [directIfaceTypeC]
  | .struct _ => fun _ => rfl
  | .map _ _ => fun _ => rfl
  | .array _ _ => fun _ => rfl
  | .chan _ _ => fun _ => rfl
  | .named d _ _ _ _ => by simpa [directIfaceTypeC, kindOf] using hd d

theorem directIfaceData_of_directKind (k : Kind) (h : directKind k = true) :
    directIfaceData k true = needsBoxedReceiver k true := by
  revert h; cases k <;> decide

theorem derive_of_pkg (exported : Str → Bool) (P : Str) :
    ∀ fs : FList, fieldsOfPkg exported P fs = true → derivePkgPaths exported P fs = goFieldPkgPaths fs
  | .nil, _ => rfl
  | .cons name pkg emb tag t r, h => by
    simp only [fieldsOfPkg, Bool.and_eq_true, beq_iff_eq] at h
    obtain ⟨h1, h2⟩ := h
    have ih := derive_of_pkg exported P r h2
    cases he : exported name <;> simp [derivePkgPaths, goFieldPkgPaths, he, h1, ih]

theorem structPkgPath_cases (exported : Str → Bool) (P : Str) :
    ∀ fs : FList, fieldsOfPkg exported P fs = true →
      structPkgPath fs = P ∨ ∀ pp, derivePkgPaths exported pp fs = derivePkgPaths exported P fs
  | .nil, _ => Or.inr fun _ => rfl
  | .cons name pkg emb tag t r, h => by
    simp only [fieldsOfPkg, Bool.and_eq_true, beq_iff_eq] at h
    obtain ⟨h1, h2⟩ := h
    cases he : exported name with
    | true =>
      simp only [he, if_true] at h1
      subst h1
      rcases structPkgPath_cases exported P r h2 with ih | ih
      · exact Or.inl (by simpa [structPkgPath] using ih)
      · exact Or.inr fun pp => by simp [derivePkgPaths, he, ih pp]
    | false =>
      simp only [he, Bool.false_eq_true, if_false] at h1
      subst h1
      exact Or.inl rfl

end LlgoVerif.Types
