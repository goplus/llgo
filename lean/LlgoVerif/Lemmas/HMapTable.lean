import LlgoVerif.Lemmas.HMapChain
/-!
# Lemmas for C06: the table

`abs` and the invariant `WF`; a table is read as one chain and the rest up to order.
-/
namespace LlgoVerif.HMap
open LlgoVerif.AssocList

variable {K V : Type}

theorem of_ok1 {α ε : Type} {a : α} {P : α → Prop} {Q : ε → Prop} (h : P a) :
    (∀ x, (Except.ok a : Except ε α) = .ok x → P x) ∧ (∀ e, (Except.ok a : Except ε α) = .error e → Q e) :=
  ⟨fun _ e => by cases e; exact h, nofun⟩

theorem of_error1 {α ε : Type} {e0 : ε} {P : α → Prop} {Q : ε → Prop} (h : Q e0) :
    (∀ x, (Except.error e0 : Except ε α) = .ok x → P x) ∧ (∀ e, (Except.error e0 : Except ε α) = .error e → Q e) :=
  ⟨nofun, fun _ e => by cases e; exact h⟩

theorem of_ok {α β ε : Type} {a : α} {b : β} {P : α → β → Prop} {Q : ε → Prop} (h : P a b) :
    (∀ x y, (Except.ok (a, b) : Except ε (α × β)) = .ok (x, y) → P x y) ∧
    (∀ e, (Except.ok (a, b) : Except ε (α × β)) = .error e → Q e) :=
  ⟨fun x y => (of_ok1 (P := fun p => P p.1 p.2) (Q := Q) h).1 (x, y), (of_ok1 (P := fun p => P p.1 p.2) h).2⟩

theorem of_error {α β ε : Type} {e0 : ε} {P : α → β → Prop} {Q : ε → Prop} (h : Q e0) :
    (∀ x y, (Except.error e0 : Except ε (α × β)) = .ok (x, y) → P x y) ∧
    (∀ e, (Except.error e0 : Except ε (α × β)) = .error e → Q e) :=
  ⟨fun x y => (of_error1 (P := fun p => P p.1 p.2) h).1 (x, y), (of_error1 (P := fun p => P p.1 p.2) h).2⟩

def cellsOf (a : Array (Chain K V)) : List (Cell K V) := a.toList.flatten

theorem cellsOf_split {a : Array (Chain K V)} {i : Nat} (hi : i < a.size) :
    cellsOf a = (a.toList.take i).flatten ++ a[i] ++ (a.toList.drop (i + 1)).flatten := by
  unfold cellsOf
  conv => lhs; rw [← List.take_append_drop i a.toList]
  rw [List.drop_eq_getElem_cons (by simpa using hi)]
  simp

theorem cellsOf_set {a : Array (Chain K V)} {i : Nat} (hi : i < a.size) (c : Chain K V) :
    cellsOf (a.setIfInBounds i c) = (a.toList.take i).flatten ++ c ++ (a.toList.drop (i + 1)).flatten := by
  unfold cellsOf
  rw [Array.toList_setIfInBounds, List.set_eq_take_append_cons_drop]
  simp [hi]

theorem cellsOf_set_perm {a : Array (Chain K V)} {i : Nat} (hi : i < a.size) (c : Chain K V) :
    (chainAbs (cellsOf (a.setIfInBounds i c)) ++ chainAbs a[i]).Perm (chainAbs c ++ chainAbs (cellsOf a)) := by
  rw [cellsOf_set hi, cellsOf_split hi]
  simp only [chainAbs_append]
  generalize chainAbs (a.toList.take i).flatten = P
  generalize chainAbs (a.toList.drop (i + 1)).flatten = S
  have e1 : (P ++ chainAbs c ++ S).Perm (chainAbs c ++ (P ++ S)) :=
    (List.perm_append_comm.append_right S).trans (by rw [List.append_assoc])
  have e2 : (P ++ S ++ chainAbs a[i]).Perm (P ++ chainAbs a[i] ++ S) := by
    rw [List.append_assoc, List.append_assoc]; exact List.perm_append_comm.append_left P
  exact (e1.append_right _).trans (by rw [List.append_assoc]; exact e2.append_left _)

theorem perm_set_of_dead {a : Array (Chain K V)} {i : Nat} (c : Chain K V)
    (hd : ∀ c0, a[i]? = some c0 → chainAbs c0 = []) (hc : a.size ≤ i → chainAbs c = []) :
    (chainAbs (cellsOf (a.setIfInBounds i c))).Perm (chainAbs c ++ chainAbs (cellsOf a)) := by
  by_cases hi : i < a.size
  · simpa [hd _ (Array.getElem?_eq_getElem hi)] using cellsOf_set_perm hi c
  · rw [Array.setIfInBounds_eq_of_size_le (by omega), hc (by omega)]; exact .refl _

theorem mem_cellsOf {a : Array (Chain K V)} {x : Cell K V} : x ∈ cellsOf a ↔ ∃ i, ∃ (hi : i < a.size), x ∈ a[i] := by
  refine ⟨fun h => ?_, fun ⟨i, hi, hx⟩ => List.mem_flatten.2 ⟨a[i], Array.getElem_mem_toList hi, hx⟩⟩
  obtain ⟨c, hc, hx⟩ := List.mem_flatten.1 h
  obtain ⟨i, hi, rfl⟩ := List.getElem_of_mem hc
  exact ⟨i, by simpa using hi, by simpa using hx⟩

theorem absent_cellsOf {eq : K → K → Bool} {k : K} {a : Array (Chain K V)}
    (h : ∀ i (hi : i < a.size), ∀ x ∈ a[i], x.live = true → eq k x.key = false) : Absent eq k (chainAbs (cellsOf a)) := by
  intro p hp
  obtain ⟨x, hx, hl, rfl⟩ := mem_chainAbs hp
  obtain ⟨i, hi, hxi⟩ := mem_cellsOf.1 hx
  exact h i hi x hxi hl

theorem absent_cellsOf_set {eq : K → K → Bool} {k : K} {a : Array (Chain K V)} {b : Nat}
    (h : ∀ i (hi : i < a.size), i ≠ b → ∀ x ∈ a[i], x.live = true → eq k x.key = false) :
    Absent eq k (chainAbs (cellsOf (a.setIfInBounds b []))) := by
  refine absent_cellsOf fun i hi x hx hl => ?_
  have hi' : i < a.size := by simpa using hi
  by_cases hib : i = b
  · subst hib; simp at hx
  · rw [Array.getElem_setIfInBounds_ne hi' (Ne.symm hib)] at hx
    exact h i hi' hib x hx hl

/-- every cell of the table: the current array, then the old one while the map grows -/
def allCells (h : HMap K V) : List (Cell K V) := cellsOf h.buckets ++ cellsOf (h.old.getD #[])

/-- the abstraction function: the association list a table stands for -/
def abs (h : HMap K V) : AList K V := chainAbs (allCells h)

theorem abs_of_old_none {h : HMap K V} (hold : h.old = none) : abs h = chainAbs (cellsOf h.buckets) := by
  unfold abs allCells
  rw [hold]
  exact congrArg chainAbs (List.append_nil _)

theorem abs_of_old_some {h : HMap K V} {oa : Array (Chain K V)} (hold : h.old = some oa) :
    abs h = chainAbs (cellsOf h.buckets) ++ chainAbs (cellsOf oa) := by
  unfold abs allCells
  rw [hold, Option.getD_some, chainAbs_append]

def others (h : HMap K V) (b : Nat) : AList K V :=
  chainAbs (cellsOf (h.buckets.setIfInBounds b [])) ++ chainAbs (cellsOf (h.old.getD #[]))

theorem abs_home {h : HMap K V} {b : Nat} (hb : b < h.buckets.size) :
    (abs h).Perm (chainAbs (h.buckets.getD b []) ++ others h b) := by
  have := cellsOf_set_perm hb []
  rw [chainAbs_nil, List.nil_append, Array.getElem_eq_getD []] at this
  unfold abs allCells others
  rw [chainAbs_append, ← List.append_assoc]
  exact (this.symm.trans List.perm_append_comm).append_right _

theorem abs_home_set {h h' : HMap K V} {b : Nat} (hb : b < h.buckets.size) {c' : Chain K V}
    (hbk : h'.buckets = h.buckets.setIfInBounds b c') (hold : h'.old = h.old) :
    (abs h').Perm (chainAbs c' ++ others h b) := by
  have hb' : b < h'.buckets.size := by rw [hbk]; simpa using hb
  have e : others h' b = others h b := by
    unfold others; rw [hbk, hold, Array.setIfInBounds_setIfInBounds]
  have hc : h'.buckets.getD b [] = c' := by simp [hbk, hb]
  have := abs_home hb'
  rwa [e, hc] at this

def othersOld (h : HMap K V) (oa : Array (Chain K V)) (j : Nat) : AList K V :=
  chainAbs (cellsOf h.buckets) ++ chainAbs (cellsOf (oa.setIfInBounds j []))

theorem abs_home_old {h : HMap K V} {oa : Array (Chain K V)} (hold : h.old = some oa) {j : Nat} (hj : j < oa.size) :
    (abs h).Perm (chainAbs oa[j] ++ othersOld h oa j) := by
  have := cellsOf_set_perm hj []
  rw [chainAbs_nil, List.nil_append] at this
  rw [abs_of_old_some hold, othersOld]
  exact (this.symm.append_left _).trans (by rw [← List.append_assoc]; exact List.perm_append_comm)

/-- old chain `j` is emptied into the chains `i1` and `i2`, which held nothing; `i2` may lie beyond the array: same-size
    growth has no second destination -/
theorem abs_move {h h' : HMap K V} {oa : Array (Chain K V)} {j i1 i2 : Nat} {c1 c2 marked : Chain K V}
    (hold : h.old = some oa) (hj : j < oa.size)
    (hb : h'.buckets = (h.buckets.setIfInBounds i1 c1).setIfInBounds i2 c2)
    (ho : h'.old = some (oa.setIfInBounds j marked)) (hi1 : i1 < h.buckets.size) (hne : i1 ≠ i2)
    (h1 : ∀ c, h.buckets[i1]? = some c → chainAbs c = []) (h2 : ∀ c, h.buckets[i2]? = some c → chainAbs c = [])
    (h2' : h.buckets.size ≤ i2 → chainAbs c2 = [])
    (hm : chainAbs marked = []) (hp : (chainAbs c1 ++ chainAbs c2).Perm (chainAbs oa[j])) :
    (abs h').Perm (abs h) := by
  rw [abs_of_old_some ho, abs_of_old_some hold, hb]
  have p1 := perm_set_of_dead c1 h1 fun hle => absurd hi1 (by omega)
  have p2 := perm_set_of_dead (a := h.buckets.setIfInBounds i1 c1) c2
    (fun c hc => h2 c ((Array.getElem?_setIfInBounds_ne hne).symm.trans hc)) (by rwa [Array.size_setIfInBounds])
  have pO := cellsOf_set_perm hj marked
  rw [hm, List.nil_append] at pO
  have hq : (chainAbs c2 ++ (chainAbs c1 ++ chainAbs (cellsOf h.buckets))).Perm
      (chainAbs (cellsOf h.buckets) ++ chainAbs oa[j]) := by
    rw [← List.append_assoc]
    exact ((List.perm_append_comm.append_right _).trans (hp.append_right _)).trans List.perm_append_comm
  refine ((p2.trans (p1.append_left _)).append_right _).trans
    (.trans ?_ ((List.perm_append_comm.trans pO).append_left _))
  simpa only [List.append_assoc] using hq.append_right _

theorem mem_allCells_new {h : HMap K V} {i : Nat} (hi : i < h.buckets.size) {x : Cell K V} (hx : x ∈ h.buckets[i]) :
    x ∈ allCells h :=
  List.mem_append_left _ (mem_cellsOf.2 ⟨i, hi, hx⟩)

theorem mem_allCells_old {h : HMap K V} {oa : Array (Chain K V)} (ho : h.old = some oa) {j : Nat} (hj : j < oa.size)
    {x : Cell K V} (hx : x ∈ oa[j]) : x ∈ allCells h :=
  List.mem_append_right _ (by rw [ho]; exact mem_cellsOf.2 ⟨j, hj, hx⟩)

theorem bucketIdx_lt (hash : UInt64) (B : Nat) : bucketIdx hash B < 2 ^ B :=
  Nat.mod_lt _ (Nat.pow_pos (by omega))

/-- `n` is the number of chains (`2 ^ B`, `noldbuckets` for the old array): `hash % n` is Go's `hash & mask` -/
def Placed (o : Ops K) (seed : UInt32) (n i : Nat) (c : List (Cell K V)) : Prop :=
  ∀ x ∈ c, x.live = true → o.eq x.key x.key = true →
    x.top = tophash (o.hash seed x.key) ∧ (o.hash seed x.key).toNat % n = i

theorem Placed.tops {o : Ops K} {s : UInt32} {n i : Nat} {c : List (Cell K V)} (h : Placed o s n i c) :
    TopsOK o s c := fun x hx hl hr => (h x hx hl hr).1

/-- the hasher does not panic on the stored keys -/
def Hashable (o : Ops K) (c : List (Cell K V)) : Prop := ∀ x ∈ c, x.live = true → o.unhashable x.key = false

/-- `WF.newOK` as a structure; `WF` and `OldOK` occur in Props/C06.lean and keep their conjunctions: `WF.chain`,
    `wf_intro`, `OldOK.chain`, `oldOK_intro` go between the two forms -/
structure NewChainOK (o : Ops K) (seed : UInt32) (n i : Nat) (c : Chain K V) : Prop where
  marks : NoMarks c
  rest : RestOK c
  placed : Placed o seed n i c
  hashable : Hashable o c
  len8 : Len8 c

def KeyOK (o : Ops K) (s : UInt32) (n i : Nat) (y : Cell K V) : Prop :=
  o.unhashable y.key = false ∧
    (o.eq y.key y.key = true → y.top = tophash (o.hash s y.key) ∧ (o.hash s y.key).toNat % n = i)

theorem NewChainOK.key {o : Ops K} {s : UInt32} {n i : Nat} {c : Chain K V} (hc : NewChainOK o s n i c) {y : Cell K V}
    (hy : y ∈ c) (hl : y.live = true) : KeyOK o s n i y := ⟨hc.hashable y hy hl, hc.placed y hy hl⟩

theorem NewChainOK.of_keys {o : Ops K} {s : UInt32} {n i : Nat} {c : Chain K V} (hN : NoMarks c) (hR : RestOK c)
    (hL : Len8 c) (hk : ∀ y ∈ c, y.live = true → KeyOK o s n i y) : NewChainOK o s n i c :=
  ⟨hN, hR, fun y hy hl => (hk y hy hl).2, fun y hy hl => (hk y hy hl).1, hL⟩

theorem NewChainOK.of_retop {o : Ops K} {s : UInt32} {n i : Nat} {c c' : Chain K V} {A : AList K V} (hN : NoMarks c)
    (hk : ∀ y ∈ c, y.live = true → KeyOK o s n i y) (r : Retop c A c') (hL : Len8 c') : NewChainOK o s n i c' :=
  .of_keys (r.marks hN) r.rest hL fun y hy hl => hk y (r.sub y hy hl) hl

theorem forall_getElem?_set {P : Nat → Chain K V → Prop} {a : Array (Chain K V)} {b : Nat} {c' : Chain K V}
    (h : ∀ i c, a[i]? = some c → P i c) (hc : b < a.size → P b c') :
    ∀ i c, (a.setIfInBounds b c')[i]? = some c → P i c := by
  intro i c hi
  rw [Array.getElem?_setIfInBounds] at hi
  split at hi
  · rename_i e
    split at hi
    · rename_i hb
      cases hi
      exact e ▸ hc hb
    · cases hi
  · exact h i c hi

theorem noldbuckets_congr {h h' : HMap K V} (hB : h'.B = h.B) (hs : h'.sameSizeGrow = h.sameSizeGrow) :
    h'.noldbuckets = h.noldbuckets := by
  simp only [HMap.noldbuckets, hB, hs]

theorem nold_of_ssg {h : HMap K V} (hs : h.sameSizeGrow = true) : h.noldbuckets = 2 ^ h.B := if_pos hs

theorem two_nold {h : HMap K V} (hs : h.sameSizeGrow = false) (hB : 1 ≤ h.B) : 2 ^ h.B = 2 * h.noldbuckets := by
  rw [HMap.noldbuckets, hs, if_neg Bool.false_ne_true, Nat.mul_comm, ← Nat.pow_add_one, Nat.sub_add_cancel hB]

theorem mod_add_of_ge {x n : Nat} (h1 : n ≤ x) (h2 : x < 2 * n) : x % n + n = x := by
  rw [Nat.mod_eq_sub_mod h1, Nat.mod_eq_of_lt (by omega)]; omega

theorem nold_pos (h : HMap K V) : 0 < h.noldbuckets := by
  unfold HMap.noldbuckets; split <;> exact Nat.pow_pos (by omega)

def EvacAt (h : HMap K V) (j : Nat) : Prop := ∀ oa, h.old = some oa → evacuatedChain (oa.getD j []) = true

theorem evacAt_none {h : HMap K V} (hold : h.old = none) (j : Nat) : EvacAt h j :=
  fun _ e => by rw [hold] at e; cases e

theorem evacAt_some {h : HMap K V} {oa : Array (Chain K V)} (hold : h.old = some oa) {j : Nat} :
    EvacAt h j ↔ evacuatedChain (oa.getD j []) = true :=
  ⟨fun e => e oa hold, fun e _ e' => by rw [hold] at e'; cases e'; exact e⟩

theorem growing_of_old_none {h : HMap K V} (hold : h.old = none) : h.growing = false := by
  simp [HMap.growing, hold]

theorem growing_of_old_some {h : HMap K V} {oa : Array (Chain K V)} (hold : h.old = some oa) : h.growing = true := by
  simp [HMap.growing, hold]

/-- the chain `b` of the current array is where a key hashing to `b` lives: its old bucket is evacuated -/
def Home (h : HMap K V) (b : Nat) : Prop := EvacAt h (b % h.noldbuckets)

/-- two headers that agree on all that `abs` and `WF` read (and on `gen`) -/
structure Same (h h' : HMap K V) : Prop where
  buckets : h'.buckets = h.buckets
  old : h'.old = h.old
  B : h'.B = h.B
  ssg : h'.sameSizeGrow = h.sameSizeGrow
  nev : h'.nevacuate = h.nevacuate
  hash0 : h'.hash0 = h.hash0
  count : h'.count = h.count
  gen : h'.gen = h.gen

theorem Same.refl (h : HMap K V) : Same h h := ⟨rfl, rfl, rfl, rfl, rfl, rfl, rfl, rfl⟩

theorem Same.trans {a b c : HMap K V} (h1 : Same a b) (h2 : Same b c) : Same a c :=
  ⟨h2.buckets.trans h1.buckets, h2.old.trans h1.old, h2.B.trans h1.B, h2.ssg.trans h1.ssg, h2.nev.trans h1.nev,
   h2.hash0.trans h1.hash0, h2.count.trans h1.count, h2.gen.trans h1.gen⟩

theorem same_fastrand (h : HMap K V) : Same h h.fastrand.2 := by
  unfold HMap.fastrand; exact ⟨rfl, rfl, rfl, rfl, rfl, rfl, rfl, rfl⟩

theorem same_incr (h : HMap K V) : Same h h.incrnoverflow := by
  unfold HMap.incrnoverflow HMap.fastrand
  split
  · exact ⟨rfl, rfl, rfl, rfl, rfl, rfl, rfl, rfl⟩
  · simp only
    split <;> exact ⟨rfl, rfl, rfl, rfl, rfl, rfl, rfl, rfl⟩

theorem same_fastrands : ∀ (n : Nat) (h : HMap K V), Same h (h.fastrands n).2 := by
  intro n
  induction n with
  | zero => intro h; exact Same.refl h
  | succ n ih => intro h; exact (same_fastrand h).trans (ih _)

theorem same_fastrand64 (h : HMap K V) : Same h (fastrand64 h).2 := by
  unfold fastrand64
  exact same_fastrand h

theorem abs_congr {h h' : HMap K V} (hb : h'.buckets = h.buckets) (hold : h'.old = h.old) : abs h' = abs h := by
  unfold abs allCells; rw [hb, hold]

theorem abs_same {h h' : HMap K V} (hs : Same h h') : abs h' = abs h := abs_congr hs.buckets hs.old

theorem hashKey_ok {o : Ops K} {s : UInt32} {k : K} (h : HMap K V) (hu : o.unhashable k = false) :
    ∃ hash h1, hashKey o s k h = .ok (hash, h1) ∧ Same h h1 ∧ (o.eq k k = true → hash = o.hash s k ∧ h1 = h) := by
  unfold hashKey
  simp only [hu, Bool.false_eq_true, if_false]
  cases hr : o.eq k k with
  | true => exact ⟨_, _, rfl, Same.refl h, fun _ => ⟨rfl, rfl⟩⟩
  | false =>
    simp only [Bool.false_eq_true, if_false]
    exact ⟨_, _, rfl, same_fastrands _ h, fun e => by cases e⟩

theorem hashKey_cases (o : Ops K) (s : UInt32) (k : K) (h : HMap K V) :
    (o.unhashable k = true ∧ hashKey o s k h = .error .unhashable) ∨
    (o.unhashable k = false ∧ ∃ hash h1, hashKey o s k h = .ok (hash, h1) ∧ Same h h1 ∧
      (o.eq k k = true → hash = o.hash s k ∧ h1 = h)) := by
  cases hu : o.unhashable k with
  | true => exact .inl ⟨rfl, by simp [hashKey, hu]⟩
  | false => exact .inr ⟨rfl, hashKey_ok h hu⟩

/-- a header whose bucket array is not allocated yet (`make(map[k]v)` with a small hint) -/
structure Lazy (h : HMap K V) : Prop where
  buckets : h.buckets = #[]
  B : h.B = 0
  count : h.count = 0
  old : h.old = none
  ssg : h.sameSizeGrow = false

theorem abs_lazy {h : HMap K V} (hl : Lazy h) : abs h = [] := by
  unfold abs allCells cellsOf; rw [hl.buckets, hl.old]; rfl

variable [Inhabited K] [Inhabited V]

/-- `bpos`: a table that doubles has `noldbuckets = 2 ^ (B - 1)`, which needs `1 ≤ B` -/
structure OldOK (o : Ops K) (h : HMap K V) (oa : Array (Chain K V)) : Prop where
  size : oa.size = h.noldbuckets
  bpos : h.sameSizeGrow = false → 1 ≤ h.B
  nevac : h.nevacuate < oa.size
  done : ∀ j (hj : j < oa.size), j < h.nevacuate → evacuatedChain oa[j] = true
  chains : ∀ j (hj : j < oa.size),
    (evacuatedChain oa[j] = true → ∀ x ∈ oa[j], x.live = false) ∧
    (evacuatedChain oa[j] = false →
      NoMarks oa[j] ∧ RestOK oa[j] ∧ Placed o h.hash0 h.noldbuckets j oa[j] ∧ Hashable o oa[j] ∧ oa[j] ≠ [] ∧
      h.buckets[j]? = some (freshBucket K V) ∧
      (h.sameSizeGrow = false → h.buckets[j + h.noldbuckets]? = some (freshBucket K V)))

structure WF (o : Ops K) (h : HMap K V) : Prop where
  size : h.buckets.size = 2 ^ h.B
  newOK : ∀ i (hi : i < h.buckets.size),
    NoMarks h.buckets[i] ∧ RestOK h.buckets[i] ∧ Placed o h.hash0 (2 ^ h.B) i h.buckets[i] ∧
      Hashable o h.buckets[i] ∧ Len8 h.buckets[i]
  count : h.count = (abs h).length
  nodup : NoDupKeys o.eq (abs h)
  old : match h.old with
    | none => h.sameSizeGrow = false
    | some oa => OldOK o h oa

theorem WF.oldOK {o : Ops K} {h : HMap K V} (hw : WF o h) {oa : Array (Chain K V)} (hold : h.old = some oa) :
    OldOK o h oa := by
  have := hw.old
  rwa [hold] at this

theorem WF.ssg_of_old_none {o : Ops K} {h : HMap K V} (hw : WF o h) (hold : h.old = none) : h.sameSizeGrow = false := by
  have := hw.old
  rwa [hold] at this

/-- `dstX`, `dstY`: the chains it will be copied to are still zeroed, which is why its keys are nowhere else
    (`absent_others_old`) -/
structure OldSrcOK (o : Ops K) (h : HMap K V) (j : Nat) (c : Chain K V) : Prop where
  marks : NoMarks c
  rest : RestOK c
  placed : Placed o h.hash0 h.noldbuckets j c
  hashable : Hashable o c
  ne : c ≠ []
  dstX : h.buckets[j]? = some (freshBucket K V)
  dstY : h.sameSizeGrow = false → h.buckets[j + h.noldbuckets]? = some (freshBucket K V)

structure OldChainOK (o : Ops K) (h : HMap K V) (j : Nat) (c : Chain K V) : Prop where
  dead : evacuatedChain c = true → ∀ x ∈ c, x.live = false
  src : evacuatedChain c = false → OldSrcOK o h j c

theorem WF.chain {o : Ops K} {h : HMap K V} (hw : WF o h) {i : Nat} (hi : i < h.buckets.size) :
    NewChainOK o h.hash0 (2 ^ h.B) i h.buckets[i] :=
  let ⟨a, b, c, d, e⟩ := hw.newOK i hi
  ⟨a, b, c, d, e⟩

theorem WF.newOK' {o : Ops K} {h : HMap K V} (hw : WF o h) {i : Nat} {c : Chain K V} (hc : h.buckets[i]? = some c) :
    NewChainOK o h.hash0 (2 ^ h.B) i c := by
  obtain ⟨hi, rfl⟩ := getElem_of_getElem? hc
  exact hw.chain hi

theorem WF.chain_getD {o : Ops K} {h : HMap K V} (hw : WF o h) {i : Nat} (hi : i < h.buckets.size) :
    NewChainOK o h.hash0 (2 ^ h.B) i (h.buckets.getD i []) :=
  Array.getElem_eq_getD (h := hi) [] ▸ hw.chain hi

theorem WF.idx_lt {o : Ops K} {h : HMap K V} (hw : WF o h) (hash : UInt64) : bucketIdx hash h.B < h.buckets.size :=
  hw.size ▸ bucketIdx_lt hash h.B

theorem WF.home {o : Ops K} {h : HMap K V} (hw : WF o h) (hash : UInt64) :
    NewChainOK o h.hash0 (2 ^ h.B) (bucketIdx hash h.B) (h.buckets.getD (bucketIdx hash h.B) []) :=
  hw.chain_getD (hw.idx_lt hash)

theorem wf_intro {o : Ops K} {h : HMap K V} (hsize : h.buckets.size = 2 ^ h.B)
    (hnew : ∀ i c, h.buckets[i]? = some c → NewChainOK o h.hash0 (2 ^ h.B) i c)
    (hcount : h.count = (abs h).length) (hnd : NoDupKeys o.eq (abs h))
    (hold : match h.old with
      | none => h.sameSizeGrow = false
      | some oa => OldOK o h oa) : WF o h :=
  ⟨hsize, fun i hi => let c := hnew i _ (Array.getElem?_eq_getElem hi); ⟨c.marks, c.rest, c.placed, c.hashable, c.len8⟩,
    hcount, hnd, hold⟩

theorem OldOK.chain {o : Ops K} {h : HMap K V} {oa : Array (Chain K V)} (hO : OldOK o h oa) {j : Nat} (hj : j < oa.size) :
    OldChainOK o h j oa[j] :=
  ⟨(hO.chains j hj).1, fun e => let ⟨a, b, c, d, e, f, g⟩ := (hO.chains j hj).2 e; ⟨a, b, c, d, e, f, g⟩⟩

theorem oldOK_intro {o : Ops K} {h : HMap K V} {oa : Array (Chain K V)} (hsize : oa.size = h.noldbuckets)
    (hb : h.sameSizeGrow = false → 1 ≤ h.B) (hn : h.nevacuate < oa.size)
    (hdone : ∀ j c, oa[j]? = some c → j < h.nevacuate → evacuatedChain c = true)
    (hch : ∀ j c, oa[j]? = some c → OldChainOK o h j c) : OldOK o h oa :=
  ⟨hsize, hb, hn, fun j hj hjn => hdone j _ (Array.getElem?_eq_getElem hj) hjn, fun j hj =>
    let c := hch j _ (Array.getElem?_eq_getElem hj)
    ⟨c.dead, fun e => let s := c.src e; ⟨s.marks, s.rest, s.placed, s.hashable, s.ne, s.dstX, s.dstY⟩⟩⟩

theorem OldOK.congr {o : Ops K} {h h' : HMap K V} {oa : Array (Chain K V)} (hO : OldOK o h oa) (hB : h'.B = h.B)
    (hs : h'.sameSizeGrow = h.sameSizeGrow) (hn : h'.nevacuate = h.nevacuate)
    (hc : ∀ j (hj : j < oa.size), evacuatedChain oa[j] = false → OldSrcOK o h j oa[j] → OldSrcOK o h' j oa[j]) :
    OldOK o h' oa := by
  apply oldOK_intro
  · rw [noldbuckets_congr hB hs]; exact hO.size
  · rw [hs, hB]; exact hO.bpos
  · rw [hn]; exact hO.nevac
  · intro j c hc' hjn
    obtain ⟨hj, rfl⟩ := getElem_of_getElem? hc'
    exact hO.done j hj (hn ▸ hjn)
  · intro j c hc'
    obtain ⟨hj, rfl⟩ := getElem_of_getElem? hc'
    exact ⟨(hO.chain hj).dead, fun e => hc j hj e ((hO.chain hj).src e)⟩

theorem mod_nold {o : Ops K} {h : HMap K V} (hw : WF o h) {oa : Array (Chain K V)} (ho : h.old = some oa) (a : Nat) :
    a % 2 ^ h.B % h.noldbuckets = a % h.noldbuckets := by
  cases hs : h.sameSizeGrow with
  | true => rw [nold_of_ssg hs, Nat.mod_mod]
  | false => rw [two_nold hs ((hw.oldOK ho).bpos hs), Nat.mod_mul_left_mod]

theorem index_of_eq {o : Ops K} (ho : HashOK o) {h : HMap K V} (hw : WF o h) {k : K} {i : Nat} (hi : i < h.buckets.size)
    {x : Cell K V} (hx : x ∈ h.buckets[i]) (hl : x.live = true) (hk : o.eq k x.key = true) :
    (o.hash h.hash0 k).toNat % 2 ^ h.B = i := by
  rw [ho.hash_eq _ k x.key hk]
  exact ((hw.chain hi).placed x hx hl (ho.eqok.refl_right hk)).2

theorem old_index_of_eq {o : Ops K} (ho : HashOK o) {h : HMap K V} (hw : WF o h) {oa : Array (Chain K V)}
    (hold : h.old = some oa) {k : K} {j : Nat} (hj : j < oa.size) {x : Cell K V} (hx : x ∈ oa[j]) (hl : x.live = true)
    (hk : o.eq k x.key = true) :
    evacuatedChain oa[j] = false ∧ (o.hash h.hash0 k).toNat % h.noldbuckets = j := by
  have hc := (hw.oldOK hold).chain hj
  cases he : evacuatedChain oa[j] with
  | true => rw [hc.dead he x hx] at hl; cases hl
  | false =>
    rw [ho.hash_eq _ k x.key hk]
    exact ⟨rfl, ((hc.src he).placed x hx hl (ho.eqok.refl_right hk)).2⟩

/-- outside its home chain no filled cell holds a key equal to `k` -/
theorem absent_others {o : Ops K} (ho : HashOK o) {h : HMap K V} (hw : WF o h) {k : K} {b : Nat} (hhome : Home h b)
    (hidx : o.eq k k = true → (o.hash h.hash0 k).toNat % 2 ^ h.B = b) : Absent o.eq k (others h b) := by
  refine .append (absent_cellsOf_set fun i hi hne x hx hl => Bool.eq_false_iff.2 fun hk => hne ?_) ?_
  · rw [← hidx (ho.eqok.refl_left hk)]; exact (index_of_eq ho hw hi hx hl hk).symm
  · cases hold : h.old with
    | none => exact nofun
    | some oa =>
      refine absent_cellsOf (a := oa) fun j hj x hx hl => Bool.eq_false_iff.2 fun hk => ?_
      -- an old bucket that still holds the key is the one `b` comes from, and that one is evacuated
      obtain ⟨he, hjk⟩ := old_index_of_eq ho hw hold hj hx hl hk
      have := (evacAt_some hold).1 hhome
      rw [← hidx (ho.eqok.refl_left hk), mod_nold hw hold, hjk, ← Array.getElem_eq_getD (h := hj) [], he] at this
      cases this

/-- the table read from the home chain of `k` -/
theorem home_split {o : Ops K} (ho : HashOK o) {h : HMap K V} (hw : WF o h) {hash : UInt64} {k : K}
    (hhome : Home h (bucketIdx hash h.B)) (hhash : o.eq k k = true → hash = o.hash h.hash0 k) :
    (abs h).Perm (chainAbs (h.buckets.getD (bucketIdx hash h.B) []) ++ others h (bucketIdx hash h.B)) ∧
      Absent o.eq k (others h (bucketIdx hash h.B)) :=
  ⟨abs_home (hw.idx_lt hash), absent_others ho hw hhome fun hr => by rw [← hhash hr]; rfl⟩

theorem fresh_of_not_evacuated {o : Ops K} {h : HMap K V} (hw : WF o h) {oa : Array (Chain K V)}
    (hold : h.old = some oa) {j : Nat} (hj : j < oa.size) (hne : evacuatedChain oa[j] = false) {i : Nat}
    {c : Chain K V} (hc : h.buckets[i]? = some c) (hij : i % h.noldbuckets = j) : c = freshBucket K V := by
  have hO := hw.oldOK hold
  have hsrc := (hO.chain hj).src hne
  have hi : i < 2 ^ h.B := hw.size ▸ (getElem_of_getElem? hc).1
  suffices h.buckets[i]? = some (freshBucket K V) from Option.some.inj (hc.symm.trans this)
  cases hs : h.sameSizeGrow with
  | true =>
    rw [nold_of_ssg hs, Nat.mod_eq_of_lt hi] at hij
    rw [hij]; exact hsrc.dstX
  | false =>
    have h2n := two_nold hs (hO.bpos hs)
    by_cases hlt : i < h.noldbuckets
    · rw [Nat.mod_eq_of_lt hlt] at hij
      rw [hij]; exact hsrc.dstX
    · rw [← mod_add_of_ge (Nat.le_of_not_lt hlt) (h2n ▸ hi), hij]; exact hsrc.dstY hs

/-- while the map grows, a key whose old bucket is not evacuated yet can only sit in that old bucket -/
theorem absent_others_old {o : Ops K} (ho : HashOK o) {h : HMap K V} (hw : WF o h) {oa : Array (Chain K V)}
    (hold : h.old = some oa) {k : K} {j : Nat} (hj : j < oa.size) (hne : evacuatedChain oa[j] = false)
    (hidx : o.eq k k = true → (o.hash h.hash0 k).toNat % h.noldbuckets = j) :
    Absent o.eq k (othersOld h oa j) := by
  refine .append (absent_cellsOf fun i hi x hx hl => Bool.eq_false_iff.2 fun hk => ?_)
    (absent_cellsOf_set fun j' hj' hne' x hx hl => Bool.eq_false_iff.2 fun hk => hne' ?_)
  · have hik := index_of_eq ho hw hi hx hl hk
    rw [fresh_of_not_evacuated hw hold hj hne (Array.getElem?_eq_getElem hi)
      (by rw [← hik, mod_nold hw hold]; exact hidx (ho.eqok.refl_left hk))] at hx
    rw [List.eq_of_mem_replicate hx] at hl
    cases hl
  · exact (old_index_of_eq ho hw hold hj' hx hl hk).2.symm.trans (hidx (ho.eqok.refl_left hk))

theorem oldOK_set {o : Ops K} {h h' : HMap K V} {oa : Array (Chain K V)} {b : Nat} {c' : Chain K V}
    (hO : OldOK o h oa) (hev : evacuatedChain (oa.getD (b % h.noldbuckets) []) = true)
    (hB : h'.B = h.B) (hs : h'.sameSizeGrow = h.sameSizeGrow) (hn : h'.nevacuate = h.nevacuate)
    (h0 : h'.hash0 = h.hash0) (hb : h'.buckets = h.buckets.setIfInBounds b c') : OldOK o h' oa := by
  have hnold := noldbuckets_congr hB hs
  refine hO.congr hB hs hn fun j hj he s => ?_
  have hjn : j < h.noldbuckets := by rw [← hO.size]; exact hj
  -- chain `b` is not a destination of an old chain that is still to be copied
  have hne : b % h.noldbuckets ≠ j := by
    intro e
    rw [e, ← Array.getElem_eq_getD (h := hj) [], he] at hev
    cases hev
  refine { s with placed := by rw [h0, hnold]; exact s.placed, dstX := ?_, dstY := fun hsf => ?_ }
  · rw [hb, Array.getElem?_setIfInBounds_ne (fun e => hne (by rw [e]; exact Nat.mod_eq_of_lt hjn))]
    exact s.dstX
  · rw [hb, hnold, Array.getElem?_setIfInBounds_ne (fun e => hne (by rw [e]; simp [Nat.mod_eq_of_lt hjn]))]
    exact s.dstY (hs ▸ hsf)

theorem wf_set {o : Ops K} {h h1 : HMap K V} (hw : WF o h) {b n : Nat} {c' : Chain K V} (hhome : Home h b)
    (hs : Same h h1) (hc : NewChainOK o h.hash0 (2 ^ h.B) b c')
    (hcount : n = (abs { h1 with buckets := h1.buckets.setIfInBounds b c', count := n }).length)
    (hnd : NoDupKeys o.eq (abs { h1 with buckets := h1.buckets.setIfInBounds b c', count := n })) :
    WF o { h1 with buckets := h1.buckets.setIfInBounds b c', count := n } := by
  apply wf_intro _ _ hcount hnd
  · show match h1.old with
      | none => h1.sameSizeGrow = false
      | some oa => OldOK o { h1 with buckets := h1.buckets.setIfInBounds b c', count := n } oa
    rw [hs.old]
    cases hold : h.old with
    | none => exact hs.ssg.trans (hw.ssg_of_old_none hold)
    | some oa =>
      exact oldOK_set (hw.oldOK hold) ((evacAt_some hold).1 hhome) hs.B hs.ssg hs.nev hs.hash0
        (congrArg (·.setIfInBounds b c') hs.buckets)
  · show (h1.buckets.setIfInBounds b c').size = 2 ^ h1.B
    rw [Array.size_setIfInBounds, hs.buckets, hs.B, hw.size]
  · show ∀ i c, (h1.buckets.setIfInBounds b c')[i]? = some c → NewChainOK o h1.hash0 (2 ^ h1.B) i c
    rw [hs.hash0, hs.B, hs.buckets]
    exact forall_getElem?_set (fun _ _ => hw.newOK') fun _ => hc

def freshCell (K V : Type) [Inhabited K] [Inhabited V] : Cell K V := { top := emptyRest, key := default, val := default }

theorem freshBucket_eq : freshBucket K V = List.replicate 8 (freshCell K V) := rfl

theorem freshCell_dead : (freshCell K V).live = false := dead_of_emptyRest rfl

theorem freshBucket_abs : chainAbs (freshBucket K V) = [] := by
  rw [freshBucket_eq]; exact chainAbs_replicate_dead _ _ freshCell_dead

theorem pad_fresh {ws : List (Cell K V)} (hne : ∀ y ∈ ws, y.top ≠ emptyRest) (m : Nat) :
    Retop ws (chainAbs ws) (ws ++ List.replicate m (freshCell K V)) := by
  refine ⟨(restOK_append_of_ne_emptyRest hne).2 (restOK_replicate_dead _ _ freshCell_dead),
    by rw [chainAbs_append, chainAbs_replicate_dead _ _ freshCell_dead, List.append_nil], fun y hy hl => ?_,
    fun hN y hy => ?_⟩
  · rcases List.mem_append.1 hy with hy | hy
    · exact hy
    · rw [List.eq_of_mem_replicate hy, freshCell_dead] at hl; cases hl
  · rcases List.mem_append.1 hy with hy | hy
    · exact hN y hy
    · left; rw [List.eq_of_mem_replicate hy]; simp [freshCell, emptyRest]

theorem freshArray_get (B i : Nat) (hi : i < 2 ^ B) : (freshArray K V B)[i]? = some (freshBucket K V) := by
  unfold freshArray
  rw [Array.getElem?_replicate]; simp [hi]

theorem freshBucket_ok (o : Ops K) (seed : UInt32) (n i : Nat) : NewChainOK o seed n i (freshBucket K V) := by
  rw [freshBucket_eq]
  exact .of_retop (c := []) nofun (fun _ hy => nomatch hy) (pad_fresh (ws := []) nofun 8) ⟨by simp, by simp⟩

theorem cellsOf_fresh_abs (B : Nat) : chainAbs (cellsOf (freshArray K V B)) = [] := by
  apply chainAbs_eq_nil_iff.2
  intro x hx
  obtain ⟨i, hi, hxi⟩ := mem_cellsOf.1 hx
  exact chainAbs_eq_nil_iff.1 freshBucket_abs x (by simpa [freshArray] using hxi)

theorem freshArray_ok {o : Ops K} {s : UInt32} {n B i : Nat} {c : Chain K V} (hc : (freshArray K V B)[i]? = some c) :
    NewChainOK o s n i c := by
  unfold freshArray at hc
  rw [Array.getElem?_replicate] at hc
  split at hc
  · cases hc; exact freshBucket_ok ..
  · cases hc

def Inv (o : Ops K) (h : HMap K V) : Prop := WF o h ∨ Lazy h

theorem Inv.wf_of_count_ne {o : Ops K} {h : HMap K V} (hi : Inv o h) (hc : h.count ≠ 0) : WF o h :=
  hi.resolve_right fun hl => hc hl.count

theorem inv_count {o : Ops K} {h : HMap K V} (hi : Inv o h) : h.count = (abs h).length := by
  rcases hi with hw | hl
  · exact hw.count
  · rw [abs_lazy hl, hl.count]; rfl

theorem abs_nil_of_count {o : Ops K} {h : HMap K V} (hi : Inv o h) (hc : h.count = 0) : abs h = [] :=
  List.eq_nil_of_length_eq_zero ((inv_count hi).symm.trans hc)

/-- `hash0` matters only through filled cells: mapdelete reseeds an empty table -/
theorem wf_congr {o : Ops K} {h h' : HMap K V} (hw : WF o h) (hb : h'.buckets = h.buckets) (hold : h'.old = h.old)
    (hB : h'.B = h.B) (hs : h'.sameSizeGrow = h.sameSizeGrow) (hn : h'.nevacuate = h.nevacuate)
    (hc : h'.count = h.count) (h0 : h'.hash0 = h.hash0 ∨ h.count = 0) : WF o h' := by
  have habs : abs h' = abs h := abs_congr hb hold
  have hnold : h'.noldbuckets = h.noldbuckets := noldbuckets_congr hB hs
  have hP : ∀ {n i : Nat} {c : Chain K V}, (∀ x ∈ c, x ∈ allCells h) → Placed o h.hash0 n i c →
      Placed o h'.hash0 n i c := by
    intro n i c hsub hp
    rcases h0 with e | e
    · rw [e]; exact hp
    · have hdead := (chainAbs_eq_nil_iff (c := allCells h)).1 (List.eq_nil_of_length_eq_zero (hw.count.symm.trans e))
      intro x hx hl
      rw [hdead x (hsub x hx)] at hl; cases hl
  apply wf_intro
  · rw [hb, hB]; exact hw.size
  · intro i c hi
    obtain ⟨hi', rfl⟩ := getElem_of_getElem? (hb ▸ hi)
    have hc := hw.chain hi'
    rw [hB]
    exact { hc with placed := hP (fun x hx => mem_allCells_new hi' hx) hc.placed }
  · rw [habs, hc]; exact hw.count
  · rw [habs]; exact hw.nodup
  · rw [hold]
    cases hold' : h.old with
    | none => exact hs.trans (hw.ssg_of_old_none hold')
    | some oa =>
      refine (hw.oldOK hold').congr hB hs hn fun j hj _ s => ?_
      exact { s with
        placed := hnold ▸ hP (fun x hx => mem_allCells_old hold' hj hx) s.placed
        dstX := hb ▸ s.dstX
        dstY := fun e => by rw [hb, hnold]; exact s.dstY (hs ▸ e) }

theorem wf_same {o : Ops K} {h h' : HMap K V} (hw : WF o h) (hs : Same h h') : WF o h' :=
  wf_congr hw hs.buckets hs.old hs.B hs.ssg hs.nev hs.count (.inl hs.hash0)

theorem wf_reseed {o : Ops K} {h : HMap K V} (hw : WF o h) (hc : h.count = 0) (s : UInt32) : WF o { h with hash0 := s } :=
  wf_congr hw rfl rfl rfl rfl rfl rfl (.inr hc)

theorem inv_same {o : Ops K} {h h' : HMap K V} (hi : Inv o h) (hs : Same h h') : Inv o h' := by
  rcases hi with hw | hl
  · exact Or.inl (wf_same hw hs)
  · exact .inr ⟨hs.buckets.trans hl.buckets, hs.B.trans hl.B, hs.count.trans hl.count, hs.old.trans hl.old,
      hs.ssg.trans hl.ssg⟩

theorem freshArray_wf (o : Ops K) {h : HMap K V} (hb : h.buckets = freshArray K V h.B) (hold : h.old = none)
    (hs : h.sameSizeGrow = false) (hc : h.count = 0) : WF o h := by
  have habs : abs h = [] := by rw [abs_of_old_none hold, hb, cellsOf_fresh_abs]
  apply wf_intro
  · rw [hb]; simp [freshArray]
  · intro i c hc'
    rw [hb] at hc'
    exact freshArray_ok hc'
  · rw [habs, hc]; rfl
  · rw [habs]; exact List.Pairwise.nil
  · rw [hold]; exact hs

/-- `h.buckets = newobject(t.Bucket)` on first use -/
theorem wf_alloc {o : Ops K} {h : HMap K V} (hl : Lazy h) : WF o { h with buckets := #[freshBucket K V] } :=
  freshArray_wf o (by show #[freshBucket K V] = freshArray K V h.B; rw [hl.B]; rfl) hl.old hl.ssg hl.count

theorem abs_alloc {h : HMap K V} (hl : Lazy h) : abs { h with buckets := #[freshBucket K V] } = abs h :=
  (abs_of_old_none (h := { h with buckets := #[freshBucket K V] }) hl.old).trans
    ((cellsOf_fresh_abs 0).trans (abs_lazy hl).symm)

theorem alloc_spec {o : Ops K} {h : HMap K V} (hi : Inv o h) :
    ∃ h2, (if h.buckets.isEmpty = true then { h with buckets := #[freshBucket K V] } else h) = h2 ∧
      WF o h2 ∧ abs h2 = abs h ∧ h2.hash0 = h.hash0 := by
  rcases hi with hw | hl
  · have : h.buckets.isEmpty = false := by
      rw [← Bool.not_eq_true, Array.isEmpty_iff_size_eq_zero, hw.size]
      exact Nat.ne_of_gt (Nat.pow_pos (by omega))
    exact ⟨h, by simp [this], hw, rfl, rfl⟩
  · exact ⟨_, by simp [hl.buckets], wf_alloc hl, abs_alloc hl, rfl⟩

end LlgoVerif.HMap
