import LlgoVerif.Lemmas.CAbi
/-!
# C09 — lemmas: placement of a parameter list, generic in the classifier (`ClsOK`)
-/

namespace LlgoVerif.CAbi
open LlgoVerif.SysV

theorem ccArg_scalar (r : RegTy) (st : St) :
    ccArg (.scalar r) st = if exhausted (regCls r) st then
      ([.stack (alignUp st.stack 8)], { st with stack := alignUp st.stack 8 + 8 }) else assignRegs [regCls r] st := by
  cases hr : r.isSSE
  · by_cases h : st.gpr < 6 <;> simp [ccArg, regCls, hr, exhausted, assignRegs, h]
  · by_cases h : st.sse < 8 <;> simp [ccArg, regCls, hr, exhausted, assignRegs, h]

theorem fits_cons (r : RegTy) (cs : List Class) (st : St) (h : fits (regCls r :: cs) st = true) :
    exhausted (regCls r) st = false ∧ fits cs (assignRegs [regCls r] st).2 = true := by
  cases hr : r.isSSE <;> simp [regCls, hr, fits, countInt, countSse, exhausted, assignRegs] at h ⊢ <;> omega

theorem assignRegs_cons (c : Class) (cs : List Class) (st : St) :
    assignRegs (c :: cs) st =
      ((assignRegs [c] st).1 ++ (assignRegs cs (assignRegs [c] st).2).1, (assignRegs cs (assignRegs [c] st).2).2) := by
  cases c <;> rfl

theorem ccArgs_of_fits (rs : List RegTy) (st : St) (h : fits (rs.map regCls) st = true) :
    ccArgs (rs.map .scalar) st = assignRegs (rs.map regCls) st := by
  induction rs generalizing st with
  | nil => rfl
  | cons r rs ih =>
    obtain ⟨h1, h2⟩ := fits_cons r _ st h
    rw [List.map_cons, List.map_cons, ccArgs, ccArg_scalar, h1, if_neg Bool.false_ne_true, ih _ h2]
    exact (assignRegs_cons _ _ st).symm

def stackLocs (base n : Nat) (st : St) : List Loc × St :=
  ((List.range n).map fun k => Loc.stack (base + 8 * k), { st with stack := base + 8 * n })

theorem stackLocs_succ (base n : Nat) (st : St) :
    stackLocs base (n + 1) st = (.stack base :: (stackLocs (base + 8) n st).1, (stackLocs (base + 8) n st).2) := by
  simp only [stackLocs, List.range_succ_eq_map, List.map_cons, List.map_map, Nat.mul_zero, Nat.add_zero]
  refine Prod.ext ?_ ?_
  · simp only [List.cons.injEq, true_and]
    apply List.map_congr_left
    intro k _
    simp only [Function.comp]
    congr 1; omega
  · simp only; congr 1; omega

theorem ccArg_of_exhausted (r : RegTy) (st : St) (h : exhausted (regCls r) st = true) :
    ccArg (.scalar r) st = ([.stack (alignUp st.stack 8)], { st with stack := alignUp st.stack 8 + 8 }) := by
  rw [ccArg_scalar, if_pos h]

theorem ccArgs_of_exhausted (r : RegTy) (rs : List RegTy) (st : St) (h : ∀ x ∈ r :: rs, exhausted (regCls x) st = true) :
    ccArgs ((r :: rs).map .scalar) st = stackLocs (alignUp st.stack 8) (rs.length + 1) st := by
  have step := ccArg_of_exhausted r st (h r List.mem_cons_self)
  induction rs generalizing r st with
  | nil => simp [ccArgs, step, stackLocs]
  | cons r' rs ih =>
    have h' : ∀ x ∈ r' :: rs, exhausted (regCls x) { st with stack := alignUp st.stack 8 + 8 } = true :=
      fun x hx => h x (List.mem_cons_of_mem _ hx)
    have := ih r' { st with stack := alignUp st.stack 8 + 8 } h' (ccArg_of_exhausted r' _ (h' r' List.mem_cons_self))
    rw [List.map_cons, ccArgs, step, this, stackLocs_succ (alignUp st.stack 8)]
    have h8 : alignUp (alignUp st.stack 8 + 8) 8 = alignUp st.stack 8 + 8 :=
      alignUp_of_dvd (by decide) (Nat.dvd_add (alignUp_dvd _ 8) (Nat.dvd_refl 8))
    simp only [h8, List.length_cons, List.singleton_append]
    rfl

theorem toStack_eq_stackLocs (size align : Nat) (st : St) (hal : align ≤ 8) :
    toStack size align st = stackLocs (alignUp st.stack 8) ((size + 7) / 8) st := by
  have h1 : max 8 align = 8 := by omega
  have h2 : alignUp size 8 = 8 * ((size + 7) / 8) := by unfold alignUp; omega
  simp only [toStack, stackLocs, h1, h2]

theorem classifyAgg_regs {size : Nat} {elems : List Elem} {cs : List Class} (h : classifyAgg size elems = .regs cs) :
    cs.length = (size + 7) / 8 ∧ 0 < size ∧ size ≤ 16 := by
  unfold classifyAgg at h
  split at h
  · simp at h
  · split at h
    · simp at h
    · simp only [ArgClass.regs.injEq] at h
      rw [← h]; simp; omega

theorem placeArg_regs {v : View} {cs : List Class} (st : St) (hc : classifyAgg v.size v.elems = .regs cs) :
    placeArg v st = if fits cs st then assignRegs cs st else toStack v.size v.align st := by
  unfold placeArg; rw [hc]

theorem argNoSplit_regs {v : View} {cs : List Class} (st : St) (hc : classifyAgg v.size v.elems = .regs cs) :
    argNoSplit v st = (fits cs st || cs.all (exhausted · st)) := by
  unfold argNoSplit; rw [hc]

theorem ccArgs_eq_placeArg (rs : List RegTy) (v : View) (st : St) (hal : v.align ≤ 8)
    (hc : classifyAgg v.size v.elems = .regs (rs.map regCls)) (hns : argNoSplit v st = true) :
    ccArgs (rs.map .scalar) st = placeArg v st := by
  rw [argNoSplit_regs st hc] at hns
  rw [placeArg_regs st hc]
  by_cases hf : fits (rs.map regCls) st = true
  · rw [if_pos hf]; exact ccArgs_of_fits rs st hf
  · rw [Bool.not_eq_true] at hf
    rw [hf, Bool.false_or, List.all_map, List.all_eq_true] at hns
    have hlen := (classifyAgg_regs hc).1
    rw [List.length_map] at hlen
    rw [hf, if_neg Bool.false_ne_true, toStack_eq_stackLocs _ _ _ hal, ← hlen]
    match rs, hlen with
    | r :: rs, _ => exact ccArgs_of_exhausted r rs st hns
    | [], h0 => exact absurd (classifyAgg_regs hc).2.1 (by rw [List.length_nil] at h0; omega)

theorem imageOfClasses_fst (cs : List Class) (k : Nat) : (imageOfClasses cs k).map (·.1) = cs := by
  induction cs generalizing k with
  | nil => rfl
  | cons c r ih => simp only [imageOfClasses, List.map_cons, ih]

theorem classes_of_image {pk : PassKind} {v : View} (h : kindImage pk v = regImage v) (hm : pk ≠ .memory) :
    (classifyAgg v.size v.elems = .none ∧ kindRegs pk v = []) ∨
    classifyAgg v.size v.elems = .regs (((kindRegs pk v).map (·.2)).map regCls) := by
  rw [kindImage_regs hm] at h
  unfold regImage at h
  cases hc : classifyAgg v.size v.elems with
  | none =>
    rw [hc] at h
    exact .inl ⟨rfl, List.map_eq_nil_iff.mp (Image.regs.inj h)⟩
  | memory => rw [hc] at h; cases h
  | regs cs =>
    rw [hc] at h
    have := congrArg (List.map (·.1)) (Image.regs.inj h)
    rw [imageOfClasses_fst, List.map_map] at this
    exact .inr (by rw [← this, List.map_map]; rfl)

theorem memory_of_image {v : View} (h : kindImage .memory v = regImage v) : classifyAgg v.size v.elems = .memory := by
  unfold regImage at h
  cases hc : classifyAgg v.size v.elems <;> rw [hc] at h <;> first | rfl | cases h

theorem ClsOK.types_eq {cls : View → Bool → PassKind} {v : View} (h : ClsOK cls v) (r : Bool) (hk : cls v r = .direct) :
    v.types = v.elems.map (·.2) := by
  rcases h.direct r hk with ⟨he, ht⟩ | ⟨s, he, ht⟩ <;> rw [he, ht] <;> rfl

theorem lowerParamC_eq (cls : View → Bool → PassKind) (v : View) (hm : cls v false ≠ .memory)
    (hd : cls v false = .direct → v.types = v.elems.map (·.2)) :
    lowerParamC cls v = ((kindRegs (cls v false) v).map (·.2)).map .scalar := by
  unfold lowerParamC
  cases hk : cls v false with
  | memory => exact absurd hk hm
  | direct => simp only [kindRegs, hd hk, List.map_map]; rfl
  | _ => rfl

theorem lowerRetC_eq (cls : View → Bool → PassKind) (v : View) (hm : cls v true ≠ .memory)
    (hd : cls v true = .direct → v.types = v.elems.map (·.2)) :
    lowerRetC cls v = .regs ((kindRegs (cls v true) v).map (·.2)) := by
  unfold lowerRetC
  cases hk : cls v true with
  | memory => exact absurd hk hm
  | direct => simp only [kindRegs, hd hk, List.map_map]; rfl
  | _ => rfl

theorem placeArg_eq (cls : View → Bool → PassKind) (v : View) (st : St) (hok : ClsOK cls v)
    (hns : argNoSplit v st = true) :
    ccArgs (lowerParamC cls v) st = placeArg v st := by
  have hs := (hok.sound false).1
  by_cases hm : cls v false = .memory
  · -- both sides are the model's `toStack`: equal by construction
    rw [hm] at hs
    unfold lowerParamC placeArg
    rw [hm, memory_of_image hs]
    simp only [ccArgs, ccArg, List.append_nil]
  · rw [lowerParamC_eq cls v hm (hok.types_eq false)]
    rcases classes_of_image hs hm with ⟨hc, hk⟩ | hc
    · unfold placeArg
      rw [hk, hc]
      rfl
    · exact ccArgs_eq_placeArg _ v st hok.align8 hc hns

theorem placeArgs_eq (cls : View → Bool → PassKind) (vs : List View) (st : St)
    (hn : ∀ v ∈ vs, ClsOK cls v) (hns : noSplitArgs vs st = true) : implPlaceArgsC cls vs st = placeArgs vs st := by
  induction vs generalizing st with
  | nil => rfl
  | cons v r ih =>
    simp only [noSplitArgs, Bool.and_eq_true] at hns
    simp only [implPlaceArgsC, placeArgs]
    rw [placeArg_eq cls v st (hn v List.mem_cons_self) hns.1,
      ih (placeArg v st).2 (fun x hx => hn x (List.mem_cons_of_mem _ hx)) hns.2]

theorem count_le_length (cs : List Class) : countInt cs + countSse cs ≤ cs.length := by
  induction cs with
  | nil => simp [countInt, countSse]
  | cons c r ih => cases c <;> simp [countInt, countSse, List.filter] at ih ⊢ <;> omega

theorem implRet_eq (cls : View → Bool → PassKind) (r : Option View) (hn : ∀ v ∈ r, ClsOK cls v) :
    implRetC cls r = placeRet r := by
  cases r with
  | none => rfl
  | some v =>
    have hok := hn v rfl
    have hs := (hok.sound true).1
    simp only [implRetC, placeRet]
    by_cases hm : cls v true = .memory
    · rw [hm] at hs
      simp only [lowerRetC, hm, memory_of_image hs]
    · rw [lowerRetC_eq cls v hm (hok.types_eq true)]
      rcases classes_of_image hs hm with ⟨hc, hk⟩ | hc
      · rw [hk, hc]; rfl
      · -- at the empty state every register image fits
        have hfit : fits (((kindRegs (cls v true) v).map (·.2)).map regCls) ⟨0, 0, 0⟩ = true := by
          have := (classifyAgg_regs hc).1
          have := (classifyAgg_regs hc).2.2
          have := count_le_length (((kindRegs (cls v true) v).map (·.2)).map regCls)
          simp only [fits, Nat.zero_add, Bool.and_eq_true, decide_eq_true_eq]
          omega
        simp only [hc, ccArgs_of_fits _ _ hfit]

theorem implPlaceC_eq (cls : View → Bool → PassKind) (sig : Sig) (hr : ∀ v ∈ sig.ret.map CType.view, ClsOK cls v)
    (hp : ∀ v ∈ sig.params.map CType.view, ClsOK cls v) (h : noSplit sig = true) : implPlaceC cls sig = place sig := by
  unfold implPlaceC place placeV
  rw [implRet_eq cls _ hr]
  exact congrArg _ (placeArgs_eq cls _ _ hp h)

def St.ok (st : St) : Prop := st.gpr ≤ 6 ∧ st.sse ≤ 8

theorem St.ok_init (p : Prop) [Decidable p] : St.ok ⟨if p then 1 else 0, 0, 0⟩ :=
  ⟨by simp only; split <;> omega, Nat.zero_le _⟩

theorem assignRegs_state (cs : List Class) (st : St) :
    (assignRegs cs st).2 = { gpr := st.gpr + countInt cs, sse := st.sse + countSse cs, stack := st.stack } := by
  induction cs generalizing st with
  | nil => simp [assignRegs, countInt, countSse]
  | cons c r ih =>
    cases c <;> simp only [assignRegs, ih] <;> simp [countInt, countSse, List.filter] <;> omega

theorem fits_ok {cs : List Class} {st : St} (h : fits cs st = true) : (assignRegs cs st).2.ok := by
  rw [assignRegs_state]
  unfold St.ok
  simpa only [fits, Bool.and_eq_true, decide_eq_true_eq] using h

theorem placeArg_ok (v : View) (st : St) (hst : st.ok) : (placeArg v st).2.ok := by
  cases hc : classifyAgg v.size v.elems with
  | none => unfold placeArg; rw [hc]; exact hst
  | memory => unfold placeArg; rw [hc]; exact hst
  | regs cs =>
    rw [placeArg_regs st hc]
    split
    · next hf => exact fits_ok hf
    · exact hst

theorem fits_or_exhausted (c : Class) (st : St) (hst : st.ok) : fits [c] st = true ∨ exhausted c st = true := by
  obtain ⟨hg, hs⟩ := hst
  cases c <;> simp [fits, countInt, countSse, exhausted] <;> omega

theorem argFits_noSplit (v : View) (st : St) (hst : st.ok) (hfew : v.types.length < 2 → (v.size + 7) / 8 ≤ 1)
    (h : argFits v st = true) : argNoSplit v st = true := by
  cases hc : classifyAgg v.size v.elems with
  | none => unfold argNoSplit; rw [hc]
  | memory => unfold argNoSplit; rw [hc]
  | regs cs =>
    unfold argFits at h
    rw [hc] at h
    rw [argNoSplit_regs st hc]
    simp only [Bool.or_eq_true, decide_eq_true_eq] at h ⊢
    rcases h with h | h
    · -- fewer than two leaves: at most one eightbyte
      have hlen : cs.length ≤ 1 := (classifyAgg_regs hc).1 ▸ hfew h
      match cs, hlen with
      | [], _ => exact .inr rfl
      | [c], _ => exact (fits_or_exhausted c st hst).imp id fun h => by rw [List.all_cons, h]; rfl
    · exact .inl h

theorem fitsArgs_noSplit (vs : List View) (st : St) (hst : st.ok)
    (hfew : ∀ v ∈ vs, v.types.length < 2 → (v.size + 7) / 8 ≤ 1) (h : fitsArgs vs st = true) : noSplitArgs vs st = true := by
  induction vs generalizing st with
  | nil => rfl
  | cons v r ih =>
    simp only [fitsArgs, Bool.and_eq_true] at h
    simp only [noSplitArgs, Bool.and_eq_true]
    exact ⟨argFits_noSplit v st hst (hfew v (by simp)) h.1,
      ih (placeArg v st).2 (placeArg_ok v st hst) (fun x hx => hfew x (by simp [hx])) h.2⟩

end LlgoVerif.CAbi
