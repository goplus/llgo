import LlgoVerif.Spec.Embed
/-! C16: written `//go:embed` arguments come back from `SplitArgs` and `strconv.Unquote`.
Bytes: 34 `"`, 92 `\`, 96 back quote, 39 `'`, 10 LF, 13 CR; `< 0x80` = ASCII. -/
namespace LlgoVerif.Embed
open LlgoVerif.Embed.Spec

theorem splitRun_append (out : List Str) (m : Mode) (a b : Str) :
    splitRun out m (a ++ b) = splitRun (splitRun out m a).1 (splitRun out m a).2 b := by
  induction a generalizing out m with
  | nil => rfl
  | cons c rest ih => exact ih _ _

theorem splitRun_dq (out : List Str) (cur a : Str) :
    splitRun out (.quoted 34 cur) (escD a ++ [34]) = (out ++ [cur.reverse ++ escD a ++ [34]], .between) := by
  fun_induction escD a generalizing cur with
  | case1 => simp [splitRun, splitStep]
  | case2 c cs hc ih => simp [splitRun, splitStep, ih]
  | case3 c cs hc ih =>
    simp only [Bool.or_eq_true, decide_eq_true_eq, not_or] at hc
    simp [splitRun, splitStep, ih, hc.1, hc.2]

theorem splitRun_bq (out : List Str) (cur a : Str) (h : a.contains 96 = false) :
    splitRun out (.quoted 96 cur) (a ++ [96]) = (out ++ [cur.reverse ++ a ++ [96]], .between) := by
  induction a generalizing cur with
  | nil => simp [splitRun, splitStep]
  | cons c cs ih =>
    simp only [List.contains_cons, Bool.or_eq_false_iff, beq_eq_false_iff_ne, ne_eq] at h
    simp [splitRun, splitStep, Ne.symm h.1, ih _ h.2]

theorem splitRun_plain (out : List Str) (cur a : Str) (h : a.any isBlank = false) :
    splitRun out (.plain cur) a = (out, .plain (a.reverse ++ cur)) := by
  induction a generalizing cur with
  | nil => rfl
  | cons c cs ih =>
    simp only [List.any_cons, Bool.or_eq_false_iff] at h
    simp [splitRun, splitStep, h.1, ih _ h.2]

theorem plain_ok_iff (a : Str) : (QArg.plain a).ok = true ↔
    ∃ c cs, a = c :: cs ∧ isBlank c = false ∧ cs.any isBlank = false ∧ c ≠ 34 ∧ c ≠ 96 := by
  cases a with
  | nil => simp [QArg.ok]
  | cons c cs => simp [QArg.ok, and_assoc]

theorem splitRun_render (out : List Str) (x : QArg) (hx : x.ok = true) :
    splitRun out .between x.render = (out ++ [x.render], .between) ∨
    splitRun out .between x.render = (out, .plain x.render.reverse) := by
  cases x with
  | dq a => left; simp [QArg.render, splitRun, splitStep, isBlank, splitRun_dq]
  | bq a =>
    simp only [QArg.ok, Bool.not_eq_true'] at hx
    left; simp [QArg.render, splitRun, splitStep, isBlank, splitRun_bq _ _ _ hx]
  | plain a =>
    obtain ⟨c, cs, rfl, hc, hcs, h34, h96⟩ := (plain_ok_iff a).1 hx
    right; simp [QArg.render, splitRun, splitStep, hc, h34, h96, splitRun_plain _ _ _ hcs]

theorem splitRun_join (out : List Str) (l : List QArg) (h : ∀ x ∈ l, x.ok = true) :
    splitFinish (splitRun out .between (joinSp (l.map QArg.render))) = .ok (out ++ l.map QArg.render) := by
  induction l generalizing out with
  | nil => simp [joinSp, splitRun, splitFinish]
  | cons x rest ih =>
    have hx := splitRun_render out x (h x (by simp))
    cases rest with
    | nil => rcases hx with hx | hx <;> simp [joinSp, hx, splitFinish]
    | cons y rest' =>
      have := ih (out ++ [x.render]) (fun z hz => h z (by simp [hz]))
      simp only [List.map_cons, joinSp, splitRun_append] at this ⊢
      rcases hx with hx | hx <;> simpa [hx, splitRun, splitStep, isBlank] using this

theorem escD_ne_nil_or (a : Str) : (escD a ++ [34]) ≠ [] := by simp

theorem mem_escD (a : Str) (x : Nat) (hx : x ≠ 92) : x ∈ escD a ↔ x ∈ a := by
  fun_induction escD a with
  | case1 => rfl
  | case2 c cs hc ih => simp [ih, hx]
  | case3 c cs hc ih => simp [ih]

theorem escD_eq_self (a : Str) (h : (escD a).contains 92 = false) : escD a = a := by
  fun_induction escD a with
  | case1 => rfl
  | case2 c cs hc ih => simp at h
  | case3 c cs hc ih => rw [ih (Bool.or_eq_false_iff.1 h).2]

theorem unquoteBody_escD (a : Str) (h : a.all (fun b => b < 0x80 && b != 10) = true) :
    ∀ fuel, (escD a).length < fuel → unquoteBody fuel (escD a) = .ok a := by
  fun_induction escD a with
  | case1 => intro | f + 1, _ => simp [unquoteBody]
  | case2 c cs hc ih =>
    simp only [List.all_cons, Bool.and_eq_true, decide_eq_true_eq, Bool.or_eq_true] at h hc
    intro
    | f + 1, hf =>
      have := ih h.2 f (Nat.lt_of_succ_lt (Nat.lt_of_succ_lt_succ hf))
      rcases hc with rfl | rfl <;> simp [unquoteBody, this]
  | case3 c cs hc ih =>
    simp only [List.all_cons, Bool.and_eq_true, decide_eq_true_eq, Bool.or_eq_true, not_or] at h hc
    intro
    | f + 1, hf =>
      have := ih h.2 f (Nat.lt_of_succ_lt_succ hf)
      simp [unquoteBody, hc.1, hc.2, h.1.1, this]

theorem unquote_wrap (q : Nat) (body : Str) (hq : q = 34 ∨ q = 96) :
    unquote (q :: (body ++ [q])) =
      if q = 96 then (if body.contains 96 then .bad else .ok (body.filter (· != 13)))
      else if body.contains 10 then .bad
      else if !body.contains 92 && !body.contains 34 && validUtf8 body then .ok body
      else unquoteBody (body.length + 1) body := by
  unfold unquote
  -- `unquote` matches on `q :: r :: rs`: expose the cons, then fold it back
  cases hr : body ++ [q] with
  | nil => simp at hr
  | cons r rs =>
    dsimp only
    rw [← hr]
    rcases hq with rfl | rfl <;> simp

theorem unquote_dq (a : Str) (hu : a.all (fun b => b < 0x80 && b != 10) = true) :
    unquote (34 :: (escD a ++ [34])) = .ok a := by
  have h10 : (escD a).contains 10 = false := by
    rw [Bool.eq_false_iff, Ne, List.contains_iff_mem, mem_escD a 10 (by decide)]
    exact fun hh => by simpa using List.all_eq_true.1 hu 10 hh
  rw [unquote_wrap 34 _ (Or.inl rfl), if_neg (by decide), h10, if_neg (by decide)]
  split
  · rename_i hfast
    simp only [Bool.and_eq_true, Bool.not_eq_true'] at hfast
    rw [escD_eq_self a hfast.1.1]
  · exact unquoteBody_escD a hu _ (Nat.lt_succ_self _)

theorem unquote_bq (a : Str) (hx : a.contains 96 = false) (hu : a.contains 13 = false) :
    unquote (96 :: (a ++ [96])) = .ok a := by
  rw [unquote_wrap 96 _ (Or.inr rfl), if_pos rfl, hx, if_neg (by decide), List.filter_eq_self.2]
  intro b hb
  rw [bne_iff_ne]
  rintro rfl
  simp [hb] at hu

theorem unquote_plain (c : Nat) (cs : Str) (h3 : c ≠ 34) (h4 : c ≠ 96) (h5 : c ≠ 39) :
    unquote (c :: cs) = .bad := by
  cases cs with
  | nil => rfl
  | cons d ds => simp only [unquote, h3, h4, h5, if_false, ite_self]

theorem unquote_render (x : QArg) (hx : x.ok = true) (hu : x.uqOk = true) :
    unquoteField x.render = Parsed.pats [x.value] := by
  unfold unquoteField
  cases x with
  | dq a => simp only [QArg.render, QArg.value, unquote_dq a hu]
  | bq a =>
    simp only [QArg.ok, QArg.uqOk, Bool.not_eq_true'] at hx hu
    simp only [QArg.render, QArg.value, unquote_bq a hx hu]
  | plain a =>
    obtain ⟨c, cs, rfl, _, _, h34, h96⟩ := (plain_ok_iff a).1 hx
    have h39 : c ≠ 39 := by simpa [QArg.uqOk] using hu
    simp [QArg.render, QArg.value, unquote_plain c cs h34 h96 h39, h34, h96]

end LlgoVerif.Embed
