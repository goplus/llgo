import LlgoVerif.Model.Targets
import LlgoVerif.Gen.C18Fields
/-!
# C18 — coverage of the Go struct by the Lean model (over the regenerated `Gen/C18Fields.lean`)

Kept apart from `Props/C18.lean`: when `type Config struct` gains a field that the hand-written model does not have yet,
this obligation is open, but no statement of the property is falsified by that alone.
-/
namespace LlgoVerif.Targets

/-- every field of the Go struct, with its Go type, is a field of the model -/
theorem config_fields_modelled : ∀ f ∈ Gen.C18.configFields, (f.1, f.2.1) ∈ modelFields := by decide +kernel

end LlgoVerif.Targets
