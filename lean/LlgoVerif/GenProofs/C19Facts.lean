import LlgoVerif.Gen.C19Facts
import LlgoVerif.Props.C19
/-!
# C19, tie A: fixed obligations over the table regenerated from llgo's IR (`Gen/C19Facts.lean`)

`progs` holds, for every program generated in this run of `./check C19`, one `InitFact` per package (the
tokens of its `init` function as read from the -O0 IR plus the decomposition the extractor believes in),
the calls of the entry function, and the uses the check performs after initialisation.
The theorems below are re-checked by `lake build` against what the working tree emits: loading the
symbols before the imports' initialisers, importing without the nil test, an import that is not stored,
a symbol load that misses a called function, a `Py_Initialize` that is not first … break one of them.
-/
namespace LlgoVerif.GenProofs.C19
open LlgoVerif.PyGuard LlgoVerif.Gen.C19

/-- everything that is checked about one generated program -/
def progOk (g : GenProg) : Bool :=
  g.wf && g.facts.all okShape && okEntry g.entry &&
  checkB g.prog (fun _ => true) (initOrder g.prog g.main) g.calls

theorem progOk_iff {g : GenProg} : progOk g = true ↔ g.wf = true ∧ (∀ f ∈ g.facts, okShape f = true) ∧
    okEntry g.entry = true ∧ checkB g.prog (fun _ => true) (initOrder g.prog g.main) g.calls = true := by
  simp only [progOk, Bool.and_eq_true, List.all_eq_true, and_assoc]

/-- the table is not empty and every program has binding packages, ordinary users and symbol loads -/
theorem facts_present :
    progs.length ≥ 1 ∧ progs.all (fun g =>
      decide (g.facts.length ≥ 4) && g.facts.any (fun f => f.imp.isSome) &&
      g.facts.any (fun f => !f.loadGroups.isEmpty) && g.facts.any (fun f => !f.initUses.isEmpty)) = true := by
  decide

/-- every emitted `init` has the guarded shape (symbol loads after the imports' initialisers and before the
    body; a binding package ends with the nil-tested, stored import), the entry function starts with
    `Py_Initialize`, and the program satisfies every hypothesis of `import_once_before_use` for the order
    llgo's initialisers produce -/
theorem every_program_ok : progs.all progOk = true := by
  -- `+kernel`: plain `decide` first evaluates the whole table in the elaborator, which is slow
  decide +kernel

/-- every emitted `init` executes exactly as the model's `initBody` -/
theorem every_init_is_model_step :
    ∀ g ∈ progs, ∀ f ∈ g.facts, ∀ (imp : Mod → Bool) (s : St),
      execToks imp f.id f.toks s = initBody g.prog imp s f.id := by
  intro g hg f hf imp s
  obtain ⟨hwf, hshape, _, _⟩ := progOk_iff.1 (List.all_eq_true.1 every_program_ok g hg)
  exact shape_sound f (hshape f hf) g.prog (g.prog_at hwf f hf) imp s

/-- every generated program, started with any `sys.modules`, runs without failure and its trace satisfies `GuardOk`:
    `import_once_before_use` for the order llgo's initialisers produce -/
theorem generated_programs_guarded :
    ∀ g ∈ progs, ∀ pre : List Mod,
      ∃ s, run g.prog (fun _ => true) pre (initOrder g.prog g.main) g.calls = .ok s ∧
        GuardOk g.prog pre (initOrder g.prog g.main) s.trace := by
  intro g hg pre
  exact import_once_before_use_checked g.prog _ pre _ g.calls
    (progOk_iff.1 (List.all_eq_true.1 every_program_ok g hg)).2.2.2

end LlgoVerif.GenProofs.C19
