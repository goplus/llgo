import LlgoVerif.Gen.C12Facts
import LlgoVerif.Props.C12
/-!
# C12, tie A (DESIGN.md §2.2: facts regenerated from llgo's IR): fixed obligations over the table `Gen/C12Facts.lean`

`facts` holds every package initialiser llgo emitted for the generated module trees of this run (and for
the patched std package sync/atomic, first `nStd` entries, and the std packages llgo compiles from source), `entries` every generated entry function.
The theorems below are re-checked by `lake build` against what the working tree emits: moving the
guard store after the import calls, dropping the guard, reordering or dropping import initialisers,
dropping or misplacing the `init$hasPatch` chain call, or reordering the entry sequence breaks one.
-/
namespace LlgoVerif.GenProofs.C12
open LlgoVerif.Init LlgoVerif.Gen.C12

/-- the table is not empty: ordinary packages, the chained patched package (both halves) and entries -/
theorem facts_present :
    (facts.drop nStd).length ≥ 3 ∧ entries.length ≥ 1 ∧
    (facts.take nStd).any (fun f => f.chained && !f.hasPatchFn) = true ∧
    (facts.take nStd).any (fun f => f.chained && f.hasPatchFn) = true := by decide

/-- every emitted initialiser has the guarded shape and calls exactly the imports' initialisers (the set
    `go list` reports, in go/types order) before its own body; a chained patched `init` calls
    `init$hasPatch` first; `init$hasPatch` tests the guard with swapped successors -/
theorem every_init_guarded : facts.all okShape = true := by decide

/-- every generated entry function is `[Py_Initialize] [runtime init] [init$abitypes] runtime.init main.init main.main` -/
theorem every_entry_ordered : entries.all okEntry = true := by decide

/-- hence (by `shape_sound`) every emitted `init` of the table executes exactly as the model's `initStep` -/
theorem every_init_is_model_step (call : Nat → St → St) (oi : List Nat) (s : St) :
    ∀ f ∈ facts, f.hasPatchFn = false →
      execInit call (initHasPatch call oi f.id) f.id false f.toks s =
        some (initStep call { imports := f.imports, kind := if f.chained then .chained oi else .normal } f.id s) := by
  intro f hf hp
  exact shape_sound f hp (List.all_eq_true.1 every_init_guarded f hf) call oi s

/-- … and every emitted `init$hasPatch` as the model's `initHasPatch` -/
theorem every_hasPatch_is_model (call : Nat → St → St) (hp : St → St) (s : St) :
    ∀ f ∈ facts, f.hasPatchFn = true →
      execInit call hp f.id true f.toks s = some (initHasPatch call f.imports f.id s) := by
  intro f hf h
  exact shape_sound_hasPatch f h (List.all_eq_true.1 every_init_guarded f hf) call hp s

end LlgoVerif.GenProofs.C12
