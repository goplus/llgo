import LlgoVerif.Lemmas.LinkName
import LlgoVerif.Lemmas.LinkNameWrappers
import LlgoVerif.Lemmas.LinkNameClosed
/-!
# C14 — link names are unique per entity and consistent across packages

`linkName e` is the symbol llgo gives entity `e` (seen from its declaring package), `linkNameIn cur e` the symbol used
while package `cur` is compiled. NOT covered by the injectivity theorem: channel / func / struct / interface type arguments,
`$bound` / `$thunk` / method wrappers (separate statements below), closure stubs, goroutine routines.

Two variants of `ssa.FuncName` for the synthetic wrappers: `Cfg.legacy` (goplus/llgo without `fixes/C14-1.diff`;
`linkNameIn` is this variant) and `Cfg.fixed` (with it, as `ssa/type.go` under /repo is).
-/
namespace LlgoVerif.LinkName

/-- **Full statement**: two different covered entities of valid Go packages never share a link name (a function and a
    variable of one package with one name — which Go's scoping forbids — are the only exception).
    FALSE: see `linkName_injective_counterexample`. -/
def linkName_injective : Prop :=
  ∀ e₁ e₂ : Entity, e₁.ok pathValid = true → e₂.ok pathValid = true →
    linkName e₁ = linkName e₂ → e₁ = e₂ ∨ e₁.declClash e₂ = true

def cexFunc : Entity := .func "m/a.B".toList "C".toList
def cexMethod : Entity := .method "m/a".toList "B".toList .nil false "C".toList

/-- Package paths are not escaped: function `C` of package `m/a.B` and method `(B).C` of package `m/a` are both
    `m/a.B.C` (replayed on the real compiler by the check: duplicate symbol at link time). -/
theorem linkName_injective_counterexample : ¬ linkName_injective := by
  intro h
  have h1 : cexFunc.ok pathValid = true := by
    rw [pathValid_eq]; decide
  have h2 : cexMethod.ok pathValid = true := by
    rw [pathValid_eq]; decide
  have h3 : linkName cexFunc = linkName cexMethod := by
    unfold cexFunc cexMethod linkName linkNameIn declName funcNameStr; rw [pathOf_eq]; decide
  rcases h cexFunc cexMethod h1 h2 h3 with e | e
  · cases e
  · cases e

/-- **Uniqueness and consistency in one**: the name package `c₁` uses for `e₁` is the name package `c₂` uses for `e₂`
    only if they are the same entity (hypotheses as in `linkName_injective_partial`, its instance). -/
theorem linkNameIn_injective (c₁ c₂ : Str) (e₁ e₂ : Entity) (h₁ : e₁.ok pathOK = true) (h₂ : e₂.ok pathOK = true)
    (h : linkNameIn c₁ e₁ = linkNameIn c₂ e₂) : e₁ = e₂ ∨ e₁.declClash e₂ = true := by
  have k₁ := covered_of_ok e₁ h₁
  have k₂ := covered_of_ok e₂ h₂
  rw [linkNameIn_eq_render c₁ k₁, linkNameIn_eq_render c₂ k₂] at h
  exact flat_inj k₁ k₂ (render_inj (flatOK_of_covered k₁) (flatOK_of_covered k₂) h)

/-- **Uniqueness, proved part.** If no package path involved (of the entities and inside their type arguments) has a
    dot in its last element — `pathOK p = pathValid p && noDotInLastPathElem p` — different covered entities have
    different link names. -/
theorem linkName_injective_partial (e₁ e₂ : Entity) (h₁ : e₁.ok pathOK = true) (h₂ : e₂.ok pathOK = true)
    (h : linkName e₁ = linkName e₂) : e₁ = e₂ ∨ e₁.declClash e₂ = true :=
  linkNameIn_injective e₁.pkg e₂.pkg e₁ e₂ h₁ h₂ h

/-- the hypotheses are satisfiable by a non-trivial pair: a doubly nested literal in a pointer method of an
    instantiated generic type, and an instance of a generic function with a local, a composite and a nested
    generic type argument -/
example :
    (Entity.closure (.closure (.method "github.com/x/y".toList "Box".toList
      (.cons (.named "m/v1.2/c".toList "L".toList .nil [0, 3, 0]) .nil) true "Get".toList) 1) 2).ok pathOK = true ∧
    (Entity.instance (.func "m/a".toList "Gen".toList)
      (.cons (.map (.basic "string".toList) (.ptr (.named "m/b".toList "Box".toList (.cons (.array 3 (.basic "int".toList)) .nil) [])))
        (.cons (.slice (.basic "byte".toList)) .nil))).ok pathOK = true := by
  simp only [pathOK_eq, String.reduceToList]; decide

example :
    String.ofList (linkName (Entity.closure (.closure (.method "github.com/x/y".toList "Box".toList
      (.cons (.named "m/v1.2/c".toList "L".toList .nil [0, 3, 0]) .nil) true "Get".toList) 1) 2))
      = "github.com/x/y.(*Box[m/v1.2/c.L.0.3.0]).Get$1$2[m/v1.2/c.L.0.3.0]" ∧
    String.ofList (linkName (Entity.instance (.func "m/a".toList "Gen".toList)
      (.cons (.map (.basic "string".toList) (.ptr (.named "m/b".toList "Box".toList (.cons (.array 3 (.basic "int".toList)) .nil) [])))
        (.cons (.slice (.basic "byte".toList)) .nil))))
      = "m/a.Gen[map[string]*m/b.Box[[3]int],[]byte]" := by
  refine ⟨congrArg String.ofList ?_, congrArg String.ofList ?_⟩ <;> unfold linkName linkNameIn <;>
    simp only [declName, Entity.pkg, Entity.instArgs, Entity.isMethod, Entity.baseName, Entity.recv, funcNameStr,
      namedName, typeArgs, tyStr, tysStr, Tys.isEmpty, pathOf_eq, ↓reduceIte, Bool.false_eq_true,
      String.reduceToList] <;>
    decide

/-- **Type arguments are a prefix code** (the lemma the uniqueness proof rests on, for lists of covered type
    arguments): equal renderings of `[T₁,…,Tₙ]` mean equal argument lists. -/
theorem typeArgs_injective (ts₁ ts₂ : Tys) (h₁ : ts₁.ok pathOK = true) (h₂ : ts₂.ok pathOK = true)
    (e₁ : ts₁.isEmpty = false) (e₂ : ts₂.isEmpty = false) (h : typeArgs ts₁ = typeArgs ts₂) : ts₁ = ts₂ := by
  simp only [typeArgs, List.cons_append, List.cons.injEq, true_and] at h
  exact (tysStr_inj_prefix ts₁ ts₂ [] [] h₁ h₂ e₁ e₂ h).1

example : (Tys.cons (.named "m/a".toList "T".toList .nil []) (.cons (.ptr (.basic "int".toList)) .nil)).ok pathOK = true := by
  rw [pathOK_eq]; decide

theorem stubNameIn_injective (c₁ c₂ : Str) (e₁ e₂ : Entity) (h₁ : e₁.ok pathOK = true) (h₂ : e₂.ok pathOK = true)
    (h : linkNameIn c₁ (.stub e₁) = linkNameIn c₂ (.stub e₂)) : e₁ = e₂ ∨ e₁.declClash e₂ = true :=
  linkNameIn_injective c₁ c₂ e₁ e₂ h₁ h₂
    (List.append_cancel_left (h : "__llgo_stub.".toList ++ linkNameIn c₁ e₁ = "__llgo_stub.".toList ++ linkNameIn c₂ e₂))

/-- **Closure stubs** of covered entities inherit uniqueness: `__llgo_stub.<name>` differs whenever the names differ.
    (A stub versus a function of a package whose path is literally `__llgo_stub` is NOT covered; the collision is
    recorded in `KNOWN_FINDINGS.jsonl` under `linkname:stub-prefix-vs-package-path`.) -/
theorem stubName_injective_partial (e₁ e₂ : Entity) (h₁ : e₁.ok pathOK = true) (h₂ : e₂.ok pathOK = true)
    (h : linkName (.stub e₁) = linkName (.stub e₂)) : e₁ = e₂ ∨ e₁.declClash e₂ = true :=
  stubNameIn_injective _ _ e₁ e₂ h₁ h₂ h

example : (Entity.func "m/a".toList "F".toList).ok pathOK = true := by
  rw [pathOK_eq]; decide

/-- **Consistency.** The name of every entity that is not one of go/ssa's package-less synthetic functions
    (`$bound`, `$thunk`, method wrappers, and closure stubs of these) does not depend on the package being compiled:
    all referring packages agree on it. -/
theorem linkName_context_free : ∀ (c₁ c₂ : Str) (e : Entity), e.isSynthetic = false →
    linkNameIn c₁ e = linkNameIn c₂ e := by
  intro c₁ c₂ e h
  induction e with
  | stub e ih => exact congrArg ("__llgo_stub.".toList ++ ·) (ih h)
  | bound | thunk | wrapper => cases h
  | _ => rfl

example : (Entity.closure (.method "m/a".toList "T".toList .nil true "P".toList) 1).isSynthetic = false := by decide

/-- Full statement for the synthetic wrappers: within one compiled package, bound-method closures of different
    methods have different names. About `linkNameIn`, i.e. the variant `Cfg.legacy`, and FALSE; for `Cfg.fixed` see
    `boundName_injective_fixed`. -/
def boundName_injective : Prop :=
  ∀ (cur : Str) (m₁ m₂ : Entity), m₁.ok pathOK = true → m₂.ok pathOK = true → m₁.isMethod = true → m₂.isMethod = true →
    linkNameIn cur (.bound m₁) = linkNameIn cur (.bound m₂) → m₁ = m₂

/-- Under `Cfg.legacy` the receiver of a `$bound` (and `$thunk`) wrapper is rendered without the package that declares it. -/
theorem boundName_ignores_pkg (cur p₁ p₂ r : Str) (ta : Tys) (ptr : Bool) (n : Str) :
    linkNameIn cur (.bound (.method p₁ r ta ptr n)) = linkNameIn cur (.bound (.method p₂ r ta ptr n)) := rfl

/-- `a.T.M` and `b.T.M`, both used as method values in package `m`, share the wrapper `m.T.M$bound`
    (replayed on the real compiler by the check: the program calls the wrong method). -/
theorem boundName_injective_counterexample : ¬ boundName_injective := by
  intro h
  have ok : (Entity.method "m/a".toList "T".toList .nil false "M".toList).ok pathOK = true ∧
      (Entity.method "m/b".toList "T".toList .nil false "M".toList).ok pathOK = true := by
    rw [pathOK_eq]; decide
  injection h "m".toList _ _ ok.1 ok.2 rfl rfl (boundName_ignores_pkg ..) with hp
  revert hp; decide

theorem boundName_context (c₁ c₂ : Str) (m : Entity) (h : linkNameIn c₁ (.bound m) = linkNameIn c₂ (.bound m)) :
    pathOf c₁ = pathOf c₂ := by
  unfold linkNameIn at h
  rw [funcNameStr_eq, funcNameStr_eq] at h
  exact List.append_cancel_right h

/-- the name of a `$bound` wrapper depends on the package being compiled (no `linkName_context_free` for it) -/
theorem wrapper_context_dependent :
    linkNameIn "m".toList (.bound (.method "m/a".toList "T".toList .nil false "M".toList))
      ≠ linkNameIn "m/b".toList (.bound (.method "m/a".toList "T".toList .nil false "M".toList)) :=
  fun h => absurd (boundName_context _ _ _ h) (by rw [pathOf_eq]; decide)

/-- **Proved part for the wrappers**: bound-method closures and method-expression thunks of two methods whose
    receiver types are declared in the SAME package never collide. (`linkNameIn cur (.bound m)` is this `funcNameStr` with
    `sfx = "$bound"` by `rfl`, `.thunk m` with `"$thunk"`.) -/
theorem boundName_injective_partial (cur p : Str) (r₁ r₂ : Str) (ta₁ ta₂ : Tys) (ptr₁ ptr₂ : Bool) (n₁ n₂ : Str) (sfx : Str)
    (hr₁ : identOK r₁ = true) (hr₂ : identOK r₂ = true) (ht₁ : ta₁.ok pathOK = true) (ht₂ : ta₂.ok pathOK = true)
    (h : funcNameStr cur (n₁ ++ sfx) (some ⟨p, r₁, ta₁, ptr₁⟩) false = funcNameStr cur (n₂ ++ sfx) (some ⟨p, r₂, ta₂, ptr₂⟩) false) :
    Entity.method p r₁ ta₁ ptr₁ n₁ = Entity.method p r₂ ta₂ ptr₂ n₂ := by
  obtain ⟨rfl, rfl, rfl, d⟩ := funcNameStr_recv_inj hr₁ hr₂ ht₁ ht₂ h
  rw [List.append_cancel_right d]

example : identOK "T".toList = true ∧ (Tys.cons (.basic "int".toList) .nil).ok pathOK = true := by decide

theorem linkNameInC_legacy : ∀ (cur : Str) (e : Entity), linkNameInC Cfg.legacy cur e = linkNameIn cur e := by
  intro cur e
  induction e with
  | bound m | thunk m => exact synthName_legacy cur _ m.recv
  | wrapper m => exact synthName_legacy (wrapperPkg cur m) _ m.recv
  | stub e ih => exact congrArg ("__llgo_stub.".toList ++ ·) ih
  | _ => rfl

/-- **Bound-method closures and method-expression thunks under `Cfg.fixed`**: within one
    compiled package the wrappers of different methods have different names — also when the receiver types are
    declared in different packages. (`linkNameInC Cfg.fixed cur (.bound m)` is this `wrapperName` by `rfl`.) -/
theorem boundName_injective_fixed (cur p₁ p₂ r₁ r₂ : Str) (ta₁ ta₂ : Tys) (ptr₁ ptr₂ : Bool) (n₁ n₂ sfx : Str)
    (hp₁ : pathOK p₁ = true) (hp₂ : pathOK p₂ = true) (hr₁ : identOK r₁ = true) (hr₂ : identOK r₂ = true)
    (ht₁ : ta₁.ok pathOK = true) (ht₂ : ta₂.ok pathOK = true)
    (h : wrapperName Cfg.fixed cur (n₁ ++ sfx) ⟨p₁, r₁, ta₁, [], ptr₁⟩ = wrapperName Cfg.fixed cur (n₂ ++ sfx) ⟨p₂, r₂, ta₂, [], ptr₂⟩) :
    Entity.method p₁ r₁ ta₁ ptr₁ n₁ = Entity.method p₂ r₂ ta₂ ptr₂ n₂ := by
  obtain ⟨a, b, c, d, e⟩ := wrapperName_fixed_inj hp₁ hp₂ hr₁ hr₂ ht₁ ht₂ h
  rw [a, b, c, d, List.append_cancel_right e]

example : pathOK "m/a".toList = true ∧ pathOK "m/b".toList = true ∧ identOK "T".toList = true ∧ Tys.nil.ok pathOK = true := by
  rw [pathOK_eq]; decide

example :
    String.ofList (linkNameInC Cfg.fixed "m".toList (.bound (.method "m/a".toList "T".toList .nil false "M".toList))) = "m.(m/a.T).M$bound" ∧
    String.ofList (linkNameInC Cfg.fixed "m".toList (.bound (.method "m".toList "T".toList .nil false "M".toList))) = "m.T.M$bound" ∧
    String.ofList (linkNameInC Cfg.fixed "m".toList (.thunk (.method "m/b".toList "T".toList .nil true "M".toList))) = "m.(*m/b.T).M$thunk" := by
  refine ⟨congrArg String.ofList ?_, congrArg String.ofList ?_, congrArg String.ofList ?_⟩ <;>
    unfold linkNameInC synthName wrapperName <;> rw [pathOf_eq] <;> decide

/-- Full statement for function-local receiver types: promoted-method wrappers of two local types of package `cur` with the
    same identifier `r` (declared in the scopes `s₁`, `s₂`) have different names. False for `Cfg.legacy`, true
    for `Cfg.fixed`. -/
def localWrapperName_injective (cfg : Cfg) : Prop :=
  ∀ (cur r : Str) (s₁ s₂ : List Nat) (ptr : Bool) (n : Str),
    wrapperName cfg cur n ⟨cur, r, .nil, s₁, ptr⟩ = wrapperName cfg cur n ⟨cur, r, .nil, s₂, ptr⟩ → s₁ = s₂

theorem wrapperName_legacy_scope (cur n p r : Str) (ta : Tys) (s₁ s₂ : List Nat) (ptr : Bool) :
    wrapperName Cfg.legacy cur n ⟨p, r, ta, s₁, ptr⟩ = wrapperName Cfg.legacy cur n ⟨p, r, ta, s₂, ptr⟩ := rfl

/-- `Cfg.legacy` drops the scope indices: `type L struct{A}` in `f` and `type L struct{B}` in `g` both get the wrapper
    `m.L.M` (replayed on the real compiler by the check: `f().M(), g().M()` prints `1 1`). -/
theorem localWrapperName_injective_counterexample : ¬ localWrapperName_injective Cfg.legacy := by
  intro h
  cases h "m".toList "L".toList [3, 0] [4, 0] false "M".toList (wrapperName_legacy_scope ..)

theorem localWrapperName_injective_fixed : localWrapperName_injective Cfg.fixed := by
  intro cur r s₁ s₂ ptr n h
  have key : ∀ A B : Str, A ++ (scopeStr s₁ ++ B) = A ++ (scopeStr s₂ ++ B) → s₁ = s₂ := by
    intro A B h
    have h2 := List.append_cancel_right (List.append_cancel_left h)
    exact (scopeStr_inj_prefix s₁ s₂ [] [] rfl rfl (by simpa using h2)).1
  cases ptr
  · apply key (pathOf cur ++ '.' :: r) ('.' :: n)
    simpa [wrapperName, Cfg.fixed, namedName, Tys.isEmpty] using h
  · apply key (pathOf cur ++ '.' :: '(' :: '*' :: r) (')' :: '.' :: n)
    simpa [wrapperName, Cfg.fixed, namedName, Tys.isEmpty] using h

/-- A go/ssa method wrapper and a declared method with the same receiver and method name get the same symbol. Go allows
    the pair when the names are unexported and belong to different packages (`type T struct{ b.U }` with its own `m`
    and the promoted `b.U.m`): the model, like the code, has no package qualifier for unexported method names
    (replayed by the check: `b.Call(t)` runs `a`'s method). -/
theorem wrapper_vs_method_counterexample :
    linkName (.wrapper (.method "s/a".toList "T".toList .nil false "m".toList))
      = linkName (.method "s/a".toList "T".toList .nil false "m".toList) ∧
    Entity.wrapper (.method "s/a".toList "T".toList .nil false "m".toList)
      ≠ Entity.method "s/a".toList "T".toList .nil false "m".toList := by
  constructor
  · rfl
  · intro h; cases h

/-- `//go:linkname f C.sym` binds exactly the declared external symbol: a reference to `f` resolves to `sym`,
    whatever package is being compiled. -/
theorem linkname_binds_declared (t : LinkTable) (cur : Str) (e : Entity) (sym : Str)
    (h : t.lookup (origName e) = some ("C.".toList ++ sym)) : symbolIn t cur e = sym := by
  simp [symbolIn, h]

theorem no_directive_keeps_name (t : LinkTable) (cur : Str) (e : Entity) (h : t.lookup (origName e) = none) :
    symbolIn t cur e = linkNameIn cur e := by
  simp [symbolIn, h]

example : LinkTable.lookup [("m.mystrlen".toList, "C.strlen".toList)] (origName (.func "m".toList "other".toList)) = none := by
  simp only [origName, funcNameStr, pathOf_eq, String.reduceToList]; decide

example : LinkTable.lookup [("m.mystrlen".toList, "C.strlen".toList)] (origName (.func "m".toList "mystrlen".toList))
    = some ("C.".toList ++ "strlen".toList) := by
  simp only [origName, funcNameStr, pathOf_eq, String.reduceToList]; decide

end LlgoVerif.LinkName
