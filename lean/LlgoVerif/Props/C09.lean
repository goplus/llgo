import LlgoVerif.Lemmas.CAbiArm64
import LlgoVerif.Lemmas.CAbiLayout
import LlgoVerif.Lemmas.CAbiPlace
import LlgoVerif.Lemmas.CAbiCall
import LlgoVerif.Lemmas.CgoStr
/-!
# C09 — values cross the Go/C boundary intact (x86-64; arm64 for the classifier only)
-/
namespace LlgoVerif.CAbi
open LlgoVerif.SysV LlgoVerif.CAbiCall LlgoVerif.CgoStr

/-! ## Classification of one aggregate -/

/-- **Classification soundness of `classify` (`Cfg.repaired`), for EVERY type of the universe** — structs of any
    number of fields, any nesting, arrays of structs, any padding (only zero-length arrays are excluded, `wf`): the pass
    kind is `SysV.Sound`, for parameters and for results. -/
theorem amd64_classify_sound_repaired (t : CType) (h : t.wf = true) (isRet : Bool) :
    Sound (classify t isRet) t.view :=
  classifyV_sound_good t.view (goodView_of_wf t h) isRet

theorem amd64_classify_sound_flat (fs : List Scalar) (isRet : Bool) :
    Sound (classify (.struct (fs.map .sc)) isRet) (CType.struct (fs.map .sc)).view :=
  amd64_classify_sound_repaired _ (wf_flat fs) isRet

/-- the statement for ALL value types of the universe passed as a parameter, per configuration -/
def Amd64ClassifySoundFull (c : Cfg) : Prop := ∀ t : CType, t.wf = true → Sound (classifyC c t.view false) t.view

theorem amd64_classify_sound_full : Amd64ClassifySoundFull .repaired :=
  fun t h => amd64_classify_sound_repaired t h false

/-- false for `Cfg.legacy`: `struct { int8 a,b,c,d,e; struct { int8 x; int32 y; } i; }` (16 bytes; `i.x` at
    8, `i.y` at 12): the legacy split loop runs on the flattened list with a running offset that ignores the padding
    before the nested struct, the second half becomes `i32` loaded from byte 8, and `i.y` never crosses the boundary. -/
theorem amd64_classify_counterexample : ¬ Amd64ClassifySoundFull .legacy := by
  intro h
  exact absurd (h (.struct [.sc .i8, .sc .i8, .sc .i8, .sc .i8, .sc .i8, .struct [.sc .i8, .sc .i32]]) (by decide)) (by decide)

/-- (legacy) `struct { int8 x; struct { int8 a; int32 b; } i; }`: the second half is the integer type of width 0,
    which LLVM cannot generate code for -/
theorem amd64_classify_illformed :
    (classifyLegacy (.struct [.sc .i8, .struct [.sc .i8, .sc .i32]]) false).wellFormed = false := by decide

/-- (legacy) sound on every type whose flattened scalar list, laid out naturally, reproduces its real layout: there the
    split loop's running offset is the real one -/
theorem amd64_classify_sound_legacy (t : CType) (h : t.view.natural) (isRet : Bool) :
    Sound (classifyLegacy t isRet) t.view :=
  classifyLegacyV_sound t.view h isRet

/-- the two variants classify every naturally laid out shape alike (in particular every flat struct) -/
theorem amd64_repair_conservative (t : CType) (h : t.view.natural) (isRet : Bool) :
    classify t isRet = classifyLegacy t isRet :=
  classifyV_eq_legacy_of_natural t.view h isRet

example : (CType.struct [.sc .f32, .array 3 (.sc .i16), .struct [.sc .i16], .sc .f32]).view.natural := by decide
example : ¬ (CType.struct [.sc .i8, .struct [.sc .i8, .sc .i32]]).view.natural := by decide
example : (CType.struct [.sc .i8, .array 2 (.struct [.sc .i16, .sc .i8]), .struct [.struct [], .sc .f32]]).wf = true := by decide

/-- objects of more than 16 bytes with ≥ 2 leaves go to memory (byval / sret) on both sides, whatever their nesting -/
theorem amd64_large_memory (t : CType) (h16 : 16 < t.size) (hn : 2 ≤ t.flatten.length) (isRet : Bool) :
    classify t isRet = .memory ∧ classifyAgg t.size t.elems = .memory :=
  ⟨classifyV_large t.view h16 hn isRet, classifyAgg_large t.elems h16⟩

/-! ## Placement of a whole parameter list -/

def sigWf (sig : Sig) : Prop := (∀ t ∈ sig.ret, t.wf = true) ∧ ∀ t ∈ sig.params, t.wf = true

instance (sig : Sig) : Decidable (sigWf sig) := by unfold sigWf; infer_instance

/-- **Placement soundness, full statement**: llgo's per-parameter classification followed by the x86-64
    convention for the resulting scalar list puts every eightbyte of every argument (and the result) where the
    psABI's sequential assignment puts it.  FALSE. -/
def amd64_placement_sound : Prop := ∀ sig : Sig, sigWf sig → implPlace sig = place sig

/-- six `int64` then `struct { double d; int8 b; }`: the psABI passes the struct in memory as a whole (no
    INTEGER register is left for its second eightbyte); llgo passes `d` in XMM0 and `b` on the stack. -/
theorem amd64_placement_counterexample : ¬ amd64_placement_sound := by
  intro h
  exact absurd (h ⟨none, [.sc .i64, .sc .i64, .sc .i64, .sc .i64, .sc .i64, .sc .i64,
    .struct [.sc .f64, .sc .i8]]⟩ (by decide)) (by decide)

theorem clsOK_sig (sig : Sig) (hn : sigWf sig) :
    (∀ v ∈ sig.ret.map CType.view, ClsOK classifyV v) ∧ ∀ v ∈ sig.params.map CType.view, ClsOK classifyV v := by
  have ok : ∀ t : CType, t.wf = true → ClsOK classifyV t.view := fun t h => clsOK_good _ (goodView_of_wf t h)
  refine ⟨fun v hv => ?_, fun v hv => ?_⟩
  · simp only [Option.mem_def, Option.map_eq_some_iff] at hv
    obtain ⟨t, ht, rfl⟩ := hv
    exact ok t (hn.1 t ht)
  · obtain ⟨t, ht, rfl⟩ := List.mem_map.mp hv
    exact ok t (hn.2 t ht)

/-- **Placement, sharp form**: equal placement whenever no argument is *split* (all its eightbytes get
    registers, or none of them could) — for every signature over the universe. -/
theorem amd64_placement_nosplit (sig : Sig) (hn : sigWf sig) (h : noSplit sig = true) :
    implPlace sig = place sig :=
  implPlaceC_eq classifyV sig (clsOK_sig sig hn).1 (clsOK_sig sig hn).2 h

/-- **Placement, partial**: under `fitsInRegs sig` — every aggregate that the psABI passes in registers still
    finds all the registers its eightbytes need — the placements agree. -/
theorem amd64_placement_partial (sig : Sig) (hn : sigWf sig) (h : fitsInRegs sig = true) :
    implPlace sig = place sig :=
  amd64_placement_nosplit sig hn
    (fitsArgs_noSplit _ _ (St.ok_init _) (fun v hv => ((clsOK_sig sig hn).2 v hv).few) h)

/-- the hypotheses are satisfiable by a non-trivial signature: a 24-byte result (sret), scalars of both classes,
    a mixed two-eightbyte struct, a nested struct with padding, a three-float struct and a large struct -/
example :
    let sig : Sig := ⟨some (.struct [.sc .i64, .sc .i64, .sc .i64]),
      [.sc .i32, .struct [.sc .f64, .sc .i8], .sc .f32, .struct [.sc .i8, .struct [.sc .i8, .sc .i32]],
       .struct [.sc .f32, .sc .f32, .sc .f32], .struct [.sc .i64, .sc .i64, .sc .i64], .sc .ptr]⟩
    sigWf sig ∧ fitsInRegs sig = true := by decide

/-- not every register-exhausted signature is affected: both eightbytes INTEGER and no INTEGER register left -/
example :
    let sig : Sig := ⟨none, [.sc .i64, .sc .i64, .sc .i64, .sc .i64, .sc .i64, .sc .i64,
      .struct [.sc .i64, .sc .i64]]⟩
    fitsInRegs sig = false ∧ noSplit sig = true ∧ implPlace sig = place sig := by decide

/-! ## arm64 (model and specification only: nothing executes on the host) -/

/-- **arm64 classification soundness**: for every type of the universe `TypeInfoArm64.GetTypeInfo` chooses what
    AAPCS64 prescribes — a homogeneous floating-point aggregate of 1–4 members stays an aggregate of floats (SIMD
    registers), two pointer/`i64` leaves stay two general registers, any other composite of ≤ 16 bytes becomes
    `i64` / `[2 x i64]` (results ≤ 8 bytes: the integer of the object's width), and anything larger is passed
    through a pointer (results: `sret`, i.e. `x8`). -/
theorem arm64_classify_sound (t : CType) (h : t.wf = true) (isRet : Bool) :
    AAPCS64.Sound (classifyArm64 t isRet) t.view :=
  -- only `.sc s` has `isAgg = false`, and it flattens to one leaf
  arm64_sound_good _ (goodView_of_wf t h) _ _ (by cases t <;> first | (intro _; rfl) | (intro h; cases h))

example : classifyArm64 (.struct [.sc .f32, .array 2 (.sc .f32)]) false = .direct ∧
    classifyArm64 (.struct [.sc .f64, .sc .i8]) false = .coerceI64x2 ∧
    classifyArm64 (.struct [.sc .i8, .struct [.sc .i8, .sc .i32]]) true = .coerceI64x2 ∧
    classifyArm64 (.struct [.sc .i16, .sc .i8]) true = .coerceInt 4 := by decide

/-! ## C strings -/

/-- **C-string round trip.** Copying a Go string into any (dirty) memory region that has room for it plus
    the terminator (`CStrCopy`, used by `AllocaCStr`, `AllocCStr`, `CString`) and reading it back with
    `StringFromCStr` (`strlen` + copy) yields the original bytes, provided the string contains no NUL byte;
    the write stays inside `[dest, dest+len]`. -/
theorem cstr_roundtrip (m : Mem) (dest : Nat) (s : List UInt8)
    (hroom : dest + s.length + 1 ≤ m.length) (hnul : (0 : UInt8) ∉ s) :
    ∃ m', cstrCopy m dest s = some m' ∧ stringFromCStr m' dest = some s ∧
      m'.length = m.length ∧ m'.take dest = m.take dest ∧
      m'.drop (dest + s.length + 1) = m.drop (dest + s.length + 1) := by
  have hA : (m.take dest).length = dest := List.length_take_of_le (by omega)
  refine ⟨_, cstrCopy_eq m dest s hroom, ?_, ?_, List.take_left' hA, ?_⟩
  · unfold stringFromCStr strlen
    rw [if_pos (by rw [List.length_append, hA]; omega), List.drop_left' hA, strlenFrom_append s _ hnul]
    exact congrArg some (List.take_left' rfl)
  · simp only [List.length_append, List.length_cons, List.length_drop, hA]; omega
  · rw [← List.append_assoc, ← List.singleton_append, ← List.append_assoc]
    exact List.drop_left' (by simp only [List.length_append, List.length_singleton, hA])

example : (2 + [104, 105].length + 1 ≤ (List.replicate 8 (0xAA : UInt8)).length) ∧ (0 : UInt8) ∉ ([104, 105] : List UInt8) := by
  decide

/-- the round trip for EVERY byte string — false: C strings cannot carry a NUL -/
def CStrRoundtripFull : Prop :=
  ∀ (m : Mem) (dest : Nat) (s : List UInt8), dest + s.length + 1 ≤ m.length →
    ∀ m', cstrCopy m dest s = some m' → stringFromCStr m' dest = some s

/-- `"A\x00B"` comes back as `"A"` -/
theorem cstr_roundtrip_counterexample : ¬ CStrRoundtripFull := by
  intro h
  have := h (List.replicate 6 0xAA) 1 [65, 0, 66] (by decide) [0xAA, 65, 0, 66, 0, 0xAA] (by decide)
  revert this
  decide

/-! ## Call sites: result and by-value parameter objects (`transformCallInstr`, model `Model/CAbiCall.lean`) -/

/-- any placing of the result object (`slot`), any filling of the by-value objects (`bs`); the destination cells included -/
theorem call_sound (slot : Slot) (bs : ByvalSlot) (frame : Frame) (f : Prog) (c : CallSite) (m : Cells)
    (hl : bs = .source → ArgsLoaded c m) (hd : Disjoint (placement slot frame c))
    (hs : Safe (placement slot frame c) f (initA (fun off => m ((placement slot frame c).base 0 + off)) c m))
    (x : Nat) (hx : (c.dst ≤ x ∧ x < c.dst + c.nres) ∨ ¬ InRanges (placement slot frame c) x) :
    implCall slot bs frame f c m x = specCall (fun off => m ((placement slot frame c).base 0 + off)) f c m x := by
  have hbs : initC bs frame c m = initC .temp frame c m := by
    cases bs
    · rfl
    · simp only [initC, bvContents_temp, bvContents_source m _ (hl rfl)]
  have hsim := run_sim _ hd f _ _ (init_sim slot frame c m hd) hs
  have hres : readCells _ ((placement slot frame c).base 0) c.nres = privCells _ 0 0 c.nres :=
    hsim.readCells 0 (Nat.lt_of_lt_of_le Nat.zero_lt_one (Nat.le_add_right _ _))
  -- both sides write the result value over the destination; elsewhere the two final memories agree
  unfold specCall implCall
  rw [← hres, hbs, writeCells_congr _ _ (runC (placement slot frame c) f (initC .temp frame c m)).mem c.dst x fun h =>
    hsim.out x (hx.resolve_left (by rwa [readCells_length] at h))]
  cases slot with
  | temp => rfl
  | dest => exact (writeCells_readCells_self _ _ _ x).symm

theorem call_temp_sound (frame : Frame) (f : Prog) (c : CallSite) (m : Cells)
    (hd : Disjoint (temps frame c))
    (hs : Safe (temps frame c) f (initA (fun off => m (frame 0 + off)) c m)) :
    ∀ x, ¬ InRanges (temps frame c) x →
      implCall .temp .temp frame f c m x = specCall (fun off => m (frame 0 + off)) f c m x :=
  fun x hx => call_sound .temp .temp frame f c m (fun h => nomatch h) hd hs x (.inr hx)

/-- **passing the destination as `sret`, partial**: right when the callee cannot reach the destination through any
    other name (what LLVM's call-slot optimisation proves before it does the same) -/
theorem call_dest_partial (frame : Frame) (f : Prog) (c : CallSite) (m : Cells)
    (hd : Disjoint (placement .dest frame c))
    (hs : Safe (placement .dest frame c) f (initA (fun off => m (c.dst + off)) c m)) :
    ∀ x, (∀ k, 1 ≤ k → k < (temps frame c).n → ¬ ((temps frame c).base k ≤ x ∧ x < (temps frame c).base k + (temps frame c).size k)) →
      implCall .dest .temp frame f c m x = specCall (fun off => m (c.dst + off)) f c m x := by
  intro x hx
  refine call_sound .dest .temp frame f c m (fun h => nomatch h) hd hs x (Decidable.or_iff_not_imp_left.mpr fun hin => ?_)
  rintro ⟨k, hk, h1, h2⟩
  rcases Nat.eq_zero_or_pos k with rfl | hk0
  · exact hin ⟨h1, h2⟩
  · -- the parameter objects lie where they do under `temps`
    have hb : (temps frame c).base k = (placement .dest frame c).base k :=
      (if_neg (Nat.ne_of_gt hk0)).trans (if_neg (Nat.ne_of_gt hk0)).symm
    exact hx k hk0 hk (hb ▸ ⟨h1, h2⟩)

/-- the hypotheses of `call_dest_partial` are satisfiable: `b = rotate(&a)` with `b` elsewhere -/
example : Disjoint (placement .dest frame1000 ⟨3, [.word 100], 200⟩) ∧
    Safe (placement .dest frame1000 ⟨3, [.word 100], 200⟩) rotate (initA (fun off => mem123 (200 + off)) ⟨3, [.word 100], 200⟩ mem123) := by
  decide

/-- **Call-site soundness, full statement** for a configuration of `transformCallInstr`: whatever the callee does
    (any program that stays inside its private objects and does not reach into the caller's fresh, unpublished
    temporaries), whatever the destination of the result, whatever the memory and whatever happened to the memory
    the by-value arguments were loaded from — after the rewritten call every cell outside the dead temporaries holds
    what the Go-level meaning of `*dst = f(args…)` says.  `Safe` and `junk` are those of `temps` also where the result object
    sits at `c.dst` (`.elideIntoStore`); the counterexample does not turn on it: `rotate` writes every cell of its result. -/
def CallSiteSound (rc : RetCfg) (bc : ByvalCfg) : Prop :=
  ∀ (u : ResultUse) (a : ArgDef) (frame : Frame) (f : Prog) (c : CallSite) (m : Cells),
    Disjoint (temps frame c) →
    Safe (temps frame c) f (initA (fun off => m (frame 0 + off)) c m) →
    ∀ x, ¬ InRanges (temps frame c) x →
      implCallCfg rc bc u a frame f c m x = specCall (fun off => m (frame 0 + off)) f c m x

/-- `.temp`/`.copy` is `transformCallInstr`: a fresh temporary for the result object, the argument values for the by-value
    parameter objects; `u`, `a` are not looked at -/
theorem callsite_sound : CallSiteSound .temp .copy :=
  fun _ _ => call_temp_sound

/-- **false when the destination of the following store is passed as `sret`**: `v = rotate(&v)` with `rotate`
    filling its result object while it reads `*p` — (1,2,3) must become (2,3,1), the third cell comes out as 2 -/
theorem callsite_elide_counterexample : ¬ CallSiteSound .elideIntoStore .copy := by
  intro h
  have := h ⟨true⟩ ⟨true⟩ frame1000 rotate ⟨3, [.word 100], 100⟩ mem123 (by decide) (by decide) 102 (by decide)
  revert this
  decide

/-- **false when the address a by-value argument was loaded from is passed instead of the loaded value**:
    `t := *p; p.X = 7; f(t)` — the callee must see `t.X = 1`, it sees 7 -/
theorem callsite_reuse_counterexample : ¬ CallSiteSound .temp .reuseLoadSource := by
  intro h
  have := h ⟨true⟩ ⟨true⟩ frame1000 leakParam ⟨0, [.byval [1, 2, 3] 100], 200⟩ mem723 (by decide) (by decide) 300 (by decide)
  revert this
  decide

/-- passing the load's source address is right when nothing was stored to that memory between the load and the call -/
theorem callsite_reuse_partial (u : ResultUse) (a : ArgDef) (frame : Frame) (f : Prog) (c : CallSite) (m : Cells)
    (hl : ArgsLoaded c m) (hd : Disjoint (temps frame c))
    (hs : Safe (temps frame c) f (initA (fun off => m (frame 0 + off)) c m)) :
    ∀ x, ¬ InRanges (temps frame c) x →
      implCallCfg .temp .reuseLoadSource u a frame f c m x = specCall (fun off => m (frame 0 + off)) f c m x :=
  fun x hx => call_sound .temp (lowerByval .reuseLoadSource a) frame f c m (fun _ => hl) hd hs x (.inr hx)

/-- the hypotheses of `call_temp_sound` / `callsite_sound` hold for `v = rotate(&v)` (destination = what `p` points to),
    those of `callsite_reuse_partial` for a by-value argument whose source was not touched since the load -/
example :
    (Disjoint (temps frame1000 ⟨3, [.word 100], 100⟩) ∧
      Safe (temps frame1000 ⟨3, [.word 100], 100⟩) rotate (initA (fun off => mem123 (frame1000 0 + off)) ⟨3, [.word 100], 100⟩ mem123)) ∧
    (ArgsLoaded ⟨0, [.byval [1, 2, 3] 100], 200⟩ mem123 ∧ Disjoint (temps frame1000 ⟨0, [.byval [1, 2, 3] 100], 200⟩) ∧
      Safe (temps frame1000 ⟨0, [.byval [1, 2, 3] 100], 200⟩) leakParam
        (initA (fun off => mem123 (frame1000 0 + off)) ⟨0, [.byval [1, 2, 3] 100], 200⟩ mem123)) := by
  decide

/-! ## cgo conversion helpers: copies, not windows (`z_cgo.go`, model `Model/CgoStr.lean`) -/

/-- **A Go string made from C memory keeps its bytes**, full statement per configuration: whatever C stores
    afterwards into memory it owns (anything but the Go allocator's new object), the string still reads as the `n`
    bytes C held at `p` when `GoStringN(p, n)` was called. -/
def GoStringNStable (cfg : CopyCfg) : Prop :=
  ∀ (s : Heap) (p : Nat) (n : Int) (ws : List (Nat × Nat)), Avoids s.brk n.toNat ws →
    readCells (applyWrites (goStringN cfg s p n).2.mem ws) (goStringN cfg s p n).1.data (goStringN cfg s p n).1.len
      = readCells s.mem p n.toNat

theorem gostringn_stable : GoStringNStable .copy := by
  intro s p n ws h
  unfold goStringN
  by_cases hn : n ≤ 0
  · rw [if_pos hn]
    have : n.toNat = 0 := by omega
    simp [this, readCells]
  · rw [if_neg hn]
    exact copy_stable s.mem s.brk p n.toNat ws h

/-- `unsafe.String(p, n)` instead of the copying conversion: C overwrites its buffer and the Go string changes -/
theorem gostringn_alias_counterexample : ¬ GoStringNStable .alias := by
  intro h
  have := h ⟨fun a => if a = 10 then 102 else if a = 11 then 105 else 0, 20⟩ 10 2 [(10, 90)] (by decide)
  revert this
  decide

/-- `GoString(p)` (`strlen` + `GoStringN`): the same for the bytes before the first NUL -/
theorem gostring_stable (s : Heap) (p : Nat) (hp : p ≠ 0) (r : GoStr × Heap) (h : goString .copy s p = some r) :
    ∃ n, strlenB s.mem p (s.brk - p) = some n ∧ r.1.len = n ∧
      ∀ ws, Avoids s.brk n ws → readCells (applyWrites r.2.mem ws) r.1.data r.1.len = readCells s.mem p n := by
  unfold goString at h
  rw [if_neg hp] at h
  cases hl : strlenB s.mem p (s.brk - p) with
  | none => rw [hl] at h; simp at h
  | some n =>
    rw [hl] at h
    simp only [Option.some.injEq] at h
    subst h
    refine ⟨n, rfl, ?_, ?_⟩
    · exact goStringN_copy_len s p n
    · intro ws hws
      have := gostringn_stable s p n ws ((Int.toNat_natCast n).symm ▸ hws)
      simpa using this

/-- hypotheses of `gostring_stable`: "fi\0" at 10, frontier 20; C later overwrites its own buffer -/
example : (∃ r, goString .copy ⟨fun a => if a = 10 then 102 else if a = 11 then 105 else 0, 20⟩ 10 = some r ∧ r.1.len = 2) ∧
    Avoids 20 2 [(10, 90), (11, 90), (12, 90)] := ⟨⟨_, rfl, rfl⟩, by decide⟩

/-- **A Go byte slice made from C memory keeps its bytes**, full statement per configuration -/
def GoBytesStable (cfg : CopyCfg) : Prop :=
  ∀ (s : Heap) (p n : Nat) (ws : List (Nat × Nat)), Avoids s.brk n ws →
    readCells (applyWrites (goBytes cfg s p n).2.mem ws) (goBytes cfg s p n).1.data (goBytes cfg s p n).1.len
      = readCells s.mem p n

theorem gobytes_stable_copy : GoBytesStable .copy := by
  intro s p n ws h
  exact copy_stable s.mem s.brk p n ws h

/-- `(*[1<<30]byte)(p)[:n:n]` returned as is: the slice is a window onto C's buffer -/
theorem gobytes_alias_counterexample : ¬ GoBytesStable .alias := by
  intro h
  have := h ⟨fun a => if a = 10 then 102 else if a = 11 then 105 else 0, 20⟩ 10 2 [(11, 90)] (by decide)
  revert this
  decide

/-- `C.CBytes(b)` is a copy: later stores to the Go slice (or anywhere else outside the new C object) do not show -/
theorem cbytes_stable (guard : Bool) (s : Heap) (h : GoSlice) (r : Nat × Heap) (hr : cBytes guard s h = some r)
    (ws : List (Nat × Nat)) (hw : Avoids s.brk h.len ws) :
    readCells (applyWrites r.2.mem ws) r.1 h.len = readCells s.mem h.data h.len := by
  unfold cBytes at hr
  split at hr
  · simp at hr
  · simp only [Option.some.injEq] at hr
    subst hr
    exact copy_stable s.mem s.brk h.data h.len ws hw

example : (∃ r, cBytes false ⟨fun a => a, 40⟩ ⟨16, 3, 3⟩ = some r ∧ r.1 = 40) ∧
    Avoids 40 3 [(16, 0), (17, 0), (18, 0)] := ⟨⟨_, rfl, rfl⟩, by decide⟩

/-- every byte slice can be handed to C — full statement per configuration -/
def CBytesTotal (guard : Bool) : Prop := ∀ (s : Heap) (h : GoSlice), (cBytes guard s h).isSome = true

theorem cbytes_total_guarded : CBytesTotal true := by
  intro s h
  simp [cBytes]

/-- `&b[0]` of the empty slice: index out of range -/
theorem cbytes_empty_counterexample : ¬ CBytesTotal false := by
  intro h
  have := h ⟨fun _ => 0, 16⟩ ⟨16, 0, 0⟩
  revert this
  decide

/-- without the guard `CBytes` is total on non-empty slices -/
theorem cbytes_total_partial (s : Heap) (h : GoSlice) (hl : 0 < h.len) : (cBytes false s h).isSome = true := by
  simp [cBytes]; omega

example : (0 : Nat) < (GoSlice.mk 16 3 3).len := by decide

/-- **Go string → `C.CString` → `C.GoString`** gives back the bytes of a NUL-free string, and that result is again
    independent of what happens to the C copy afterwards (`free`, reuse).  `hb`: the copy is carved at `s.brk`, and
    `goString` takes address 0 for nil. -/
theorem cgo_string_roundtrip (s : Heap) (h : GoStr) (hb : 0 < s.brk)
    (hnul : ∀ i, i < h.len → s.mem (h.data + i) ≠ 0) :
    ∃ r, goString .copy (cString s h).2 (cString s h).1 = some r ∧ r.1.len = h.len ∧
      ∀ ws, Avoids (cString s h).2.brk h.len ws →
        readCells (applyWrites r.2.mem ws) r.1.data r.1.len = s.str h := by
  have hg : goString .copy (cString s h).2 (cString s h).1 = some (goStringN .copy (cString s h).2 s.brk h.len) := by
    unfold goString
    rw [show (cString s h).1 = s.brk from rfl, if_neg (by omega), strlenB_cString s h hnul]
  refine ⟨_, hg, goStringN_copy_len _ _ _, fun ws hws => ?_⟩
  have := gostringn_stable (cString s h).2 s.brk h.len ws ((Int.toNat_natCast h.len).symm ▸ hws)
  rw [this]
  simpa [Heap.str] using cString_bytes s h

/-- hypotheses of `cgo_string_roundtrip`: the Go string "hi" at 16, frontier 24 -/
example : (0 : Nat) < (Heap.mk (fun a => if a = 16 then 104 else if a = 17 then 105 else 0) 24).brk ∧
    ∀ i, i < (GoStr.mk 16 2).len → (Heap.mk (fun a => if a = 16 then 104 else if a = 17 then 105 else 0) 24).mem ((GoStr.mk 16 2).data + i) ≠ 0 := by
  decide

end LlgoVerif.CAbi
