import LlgoVerif.Lemmas.Bounds
import LlgoVerif.Lemmas.BoundsCall
/-!
# C03 — every run-time panic Go mandates is raised, recoverable, and raised only then.  The per-shape index obligations
(`f len i = idxSpec (GoArith.val s i) len`) and the bound-operand obligations (their statements are described in
`Model/BoundsCall.lean`) are regenerated from the compiler's IR into `Gen/C03_idx.lean` / `Gen/C03_bnd.lean` on every run.
The theorems on bound operands apply the run-time routines to the operands those obligations show the compiler hands over
(`(fit s a).toInt`); no Lean function maps an `RtCall` to its routine (`handle` in `Driver/C03.lean` runs the routines per
source form): the two halves meet operand for operand in the reader's eye.
-/
namespace LlgoVerif.C03
open LlgoVerif LlgoVerif.LLVM LlgoVerif.Bounds

theorem idxSpec_panics_iff (v : Int) (len : BitVec 64) :
    idxSpec v len = .error .indexRange ↔ ¬ (0 ≤ v ∧ v < len.toInt) :=
  ite_else_error_iff nofun

theorem idxSpec_in_range (v : Int) (len : BitVec 64) (h0 : 0 ≤ v) (h1 : v < len.toInt) :
    ∃ c : BitVec 64, idxSpec v len = .ok c ∧ c.toInt = v := by
  refine ⟨BitVec.ofInt 64 v, ?_, ?_⟩
  · simp [idxSpec, h0, h1]
  · have hl := BoundsCall.toInt_lt len
    exact BitVec.toInt_ofInt_eq_self (by decide) (by omega) (by omega)

/-- no other trap and no undefined behaviour can come out of `idxSpec`, hence (Gen/C03_idx.lean) of an emitted index check -/
theorem idxSpec_total (v : Int) (len : BitVec 64) :
    (∃ c, idxSpec v len = .ok c) ∨ idxSpec v len = .error .indexRange := by
  unfold idxSpec; split
  · exact Or.inl ⟨_, rfl⟩
  · exact Or.inr rfl

example : (0 : Int) ≤ 2 ∧ (2 : Int) < (BitVec.ofNat 64 3).toInt := by decide

/-! ## nil dereference: the SIGSEGV handler and `sigsetjmp(jb, 0)`

`z_signal.go` installs a SIGSEGV handler that panics; the panic unwinds by `siglongjmp` to the frame's
`sigsetjmp(jb, savemask = 0)`.  While a handler runs the kernel blocks its signal; a jump out of the handler with
`savemask = 0` does not restore the mask.  The model below is that protocol; `second_fault_fatal` is the reason the
check lists "second recovered nil dereference in one thread kills the process" as a known finding. -/

/-- one kind of event: a list of events is a count of faults -/
inductive SigEv where
  | fault        -- a hardware fault (nil dereference)
deriving DecidableEq, Repr

structure SigState where
  blocked : Bool := false     -- SIGSEGV blocked in the thread's signal mask
  dead    : Bool := false     -- process killed by the kernel
  recovered : Nat := 0        -- faults turned into recoverable Go panics
deriving DecidableEq, Repr

/-- one fault: delivered to the handler if unblocked (which leaves it blocked after the longjmp, savemask = 0),
    fatal if the signal is blocked -/
def sigStep (savemask : Bool) (s : SigState) (_ : SigEv) : SigState :=
  if s.dead then s
  else if s.blocked then { s with dead := true }
  else { s with blocked := !savemask, recovered := s.recovered + 1 }

def sigRun (savemask : Bool) (evs : List SigEv) : SigState := evs.foldl (sigStep savemask) {}

theorem sigFold_dead (m : Bool) (l : List SigEv) (s : SigState) (h : s.dead = true) :
    (l.foldl (sigStep m) s).dead = true := by
  induction l generalizing s with
  | nil => exact h
  | cons e es ih => exact ih _ (by simp [sigStep, h])

theorem sigFold_restored (l : List SigEv) (s : SigState) (h1 : s.dead = false) (h2 : s.blocked = false) :
    (l.foldl (sigStep true) s).dead = false ∧ (l.foldl (sigStep true) s).recovered = s.recovered + l.length := by
  induction l generalizing s with
  | nil => exact ⟨h1, rfl⟩
  | cons e es ih =>
    have := ih (sigStep true s e) (by simp [sigStep, h1, h2]) (by simp [sigStep, h1, h2])
    refine ⟨this.1, ?_⟩
    rw [List.foldl_cons, this.2]; simp [sigStep, h1, h2]; omega

theorem sigRun_false_dead_iff (evs : List SigEv) : (sigRun false evs).dead = true ↔ 2 ≤ evs.length := by
  match evs with
  | [] | [.fault] => decide
  | .fault :: .fault :: rest => exact iff_of_true (sigFold_dead false rest _ rfl) (Nat.le_add_left 2 _)

/-- with the code as it is (`savemask = 0`) the second fault of a thread is fatal, however the first was recovered -/
theorem second_fault_fatal (evs : List SigEv) (h : 2 ≤ evs.length) : (sigRun false evs).dead = true :=
  (sigRun_false_dead_iff evs).2 h

/-- the property's demand ("as many times as it happens in one goroutine") holds of the protocol with the mask restored -/
theorem every_fault_recovered_if_mask_restored (evs : List SigEv) :
    (sigRun true evs).dead = false ∧ (sigRun true evs).recovered = evs.length := by
  simpa [sigRun] using sigFold_restored evs {} rfl rfl

/-! ## bound operands ∘ run-time checks: slice expressions, make, conversions

`a : BitVec w` is the operand as the program computed it (type of width `w ≤ 64`, signedness `s`), `GoArith.val s a` its
value, `fit s a` what the generated obligations show the compiler hands over, `.toInt` how the runtime reads it. -/

open LlgoVerif.BoundsCall LlgoVerif.Slice

/-- Go's rule for `a[i:j:k]` (2-index forms: `k = cap`; omitted `i`: 0; omitted `j`: `len`) -/
def slice3OK (cap i j k : Int) : Prop := 0 ≤ i ∧ i ≤ j ∧ j ≤ k ∧ k ≤ cap

instance (cap i j k : Int) : Decidable (slice3OK cap i j k) := by unfold slice3OK; infer_instance

/-- **no truncation, right extension** (every bound operand of every form): what the runtime reads is the source value
    whenever that value is an `int` at all; otherwise (a 64-bit unsigned operand `≥ 2^63`) it reads a negative number -/
theorem operand_handed (s : Bool) (a : BitVec w) (hw : w ≤ 64) :
    (fit s a).toInt = GoArith.val s a ∨ ((fit s a).toInt < 0 ∧ 2 ^ 63 ≤ GoArith.val s a) :=
  handed_fit s a hw

/-- for every operand that does fit an `int` (all signed types, all unsigned types narrower than 64 bits, and 64-bit
    unsigned values below `2^63`) the handed value is EXACTLY the source value -/
theorem operand_exact (s : Bool) (a : BitVec w) (hw : w ≤ 64) (hfit : GoArith.val s a < 2 ^ 63) :
    (fit s a).toInt = GoArith.val s a :=
  (handed_fit s a hw).eq_of_lt hfit

example : GoArith.val false (200#8) < 2 ^ 63 ∧ (fit false (200#8)).toInt = 200 ∧ (fit true (200#8)).toInt = -56 := by decide

/-- **`x[i:j:k]` end to end** (slice, array pointer, array; every operand type): the compiled expression panics iff the
    SOURCE values violate `0 ≤ i ≤ j ≤ k ≤ cap`, and otherwise yields exactly `len = j-i`, `cap = k-i`, data `i` elements
    into the base (base kept for an empty capacity window).  Omitted / constant bounds are the instances
    `si = true, ai = len | cap | constant` (`fit true x = x`, `GoArith.val true x = x.toInt`). -/
theorem slice_expr_spec (base : Nat) (esz : Int) (cap : BitVec 64)
    (si sj sk : Bool) (ai : BitVec wi) (aj : BitVec wj) (ak : BitVec wk) (hi : wi ≤ 64) (hj : wj ≤ 64) (hk : wk ≤ 64) :
    NewSlice3 base esz cap.toInt (fit si ai).toInt (fit sj aj).toInt (fit sk ak).toInt =
      if slice3OK cap.toInt (GoArith.val si ai) (GoArith.val sj aj) (GoArith.val sk ak) then
        .ok { data := if GoArith.val sk ak - GoArith.val si ai > 0 then advance base (GoArith.val si ai * esz) else base,
              len := GoArith.val sj aj - GoArith.val si ai, cap := GoArith.val sk ak - GoArith.val si ai }
      else .error .panic :=
  newSlice3_handed base esz cap _ _ _ _ _ _ (handed_fit si ai hi) (handed_fit sj aj hj) (handed_fit sk ak hk)

theorem slice_expr_panics_iff (base : Nat) (esz : Int) (cap : BitVec 64)
    (si sj sk : Bool) (ai : BitVec wi) (aj : BitVec wj) (ak : BitVec wk) (hi : wi ≤ 64) (hj : wj ≤ 64) (hk : wk ≤ 64) :
    NewSlice3 base esz cap.toInt (fit si ai).toInt (fit sj aj).toInt (fit sk ak).toInt = .error .panic ↔
      ¬ slice3OK cap.toInt (GoArith.val si ai) (GoArith.val sj aj) (GoArith.val sk ak) := by
  rw [slice_expr_spec base esz cap si sj sk ai aj ak hi hj hk]; exact ite_else_error_iff nofun

example : slice3OK (BitVec.ofNat 64 300).toInt (GoArith.val false (200#8)) (GoArith.val false (250#8)) (GoArith.val true (299#16)) := by
  decide

/-- the 2-index form on a slice `s[i:j]` (operands of the generated `Sij_slice_*`): bound by the CAPACITY -/
theorem slice2_spec (base : Nat) (esz : Int) (cap : BitVec 64) (si sj : Bool) (ai : BitVec wi) (aj : BitVec wj)
    (hi : wi ≤ 64) (hj : wj ≤ 64) :
    NewSlice3 base esz cap.toInt (fit si ai).toInt (fit sj aj).toInt cap.toInt = .error .panic ↔
      ¬ (0 ≤ GoArith.val si ai ∧ GoArith.val si ai ≤ GoArith.val sj aj ∧ GoArith.val sj aj ≤ cap.toInt) := by
  have h := slice_expr_panics_iff base esz cap si sj true ai aj cap hi hj (Nat.le_refl _)
  rw [fit_64] at h
  exact h.trans (not_congr ⟨fun h => ⟨h.1, h.2.1, h.2.2.1⟩, fun h => ⟨h.1, h.2.1, h.2.2, Int.le_refl _⟩⟩)

/-- `s[i:]` (`Si_slice_*`): bound by the LENGTH; the result keeps the rest of the capacity -/
theorem slice_low_spec (base : Nat) (esz : Int) (len cap : BitVec 64) (hl : 0 ≤ len.toInt ∧ len.toInt ≤ cap.toInt)
    (si : Bool) (ai : BitVec wi) (hi : wi ≤ 64) :
    NewSlice3 base esz cap.toInt (fit si ai).toInt len.toInt cap.toInt =
      if 0 ≤ GoArith.val si ai ∧ GoArith.val si ai ≤ len.toInt then
        .ok { data := if cap.toInt - GoArith.val si ai > 0 then advance base (GoArith.val si ai * esz) else base,
              len := len.toInt - GoArith.val si ai, cap := cap.toInt - GoArith.val si ai }
      else .error .panic := by
  have h := slice_expr_spec base esz cap si true true ai len cap hi (Nat.le_refl _) (Nat.le_refl _)
  rw [fit_64, fit_64] at h
  exact h.trans (ite_congr (propext ⟨fun h => ⟨h.1, h.2.1⟩, fun h => ⟨h.1, h.2, hl.2, Int.le_refl _⟩⟩) (fun _ => rfl) fun _ => rfl)

example : (0 : Int) ≤ (BitVec.ofNat 64 3).toInt ∧ (BitVec.ofNat 64 3).toInt ≤ (BitVec.ofNat 64 5).toInt := by decide

/-- `s[:j]` (`Sj_slice_*`) -/
theorem slice_high_spec (base : Nat) (esz : Int) (cap : BitVec 64) (sj : Bool) (aj : BitVec wj) (hj : wj ≤ 64) :
    NewSlice3 base esz cap.toInt (BitVec.ofInt 64 0).toInt (fit sj aj).toInt cap.toInt =
      if 0 ≤ GoArith.val sj aj ∧ GoArith.val sj aj ≤ cap.toInt then
        .ok { data := if cap.toInt > 0 then advance base 0 else base, len := GoArith.val sj aj, cap := cap.toInt }
      else .error .panic := by
  have h := slice_expr_spec base esz cap true sj true (BitVec.ofInt 64 0) aj cap (Nat.le_refl _) hj (Nat.le_refl _)
  rw [fit_64, fit_64, show GoArith.val true (BitVec.ofInt 64 0) = 0 by decide] at h
  refine h.trans (ite_congr (propext ⟨fun h => ⟨h.2.1, h.2.2.1⟩, fun h => ⟨Int.le_refl _, h.1, h.2, Int.le_refl _⟩⟩) (fun _ => ?_) fun _ => rfl)
  rw [Int.sub_zero, Int.sub_zero, Int.zero_mul]; rfl

/-- the elements of an in-range `x[i:j:k]` are the elements `i … j-1` of the operand's capacity window -/
theorem slice_expr_window (m : Mem) (base : Nat) (esz : Int) (hesz : 0 ≤ esz) (cap : BitVec 64)
    (si sj sk : Bool) (ai : BitVec wi) (aj : BitVec wj) (ak : BitVec wk) (hi : wi ≤ 64) (hj : wj ≤ 64) (hk : wk ≤ 64)
    (hok : slice3OK cap.toInt (GoArith.val si ai) (GoArith.val sj aj) (GoArith.val sk ak)) :
    ∃ s, NewSlice3 base esz cap.toInt (fit si ai).toInt (fit sj aj).toInt (fit sk ak).toInt = .ok s ∧
      view m s esz = ((m.read base (cap.toInt * esz).toNat).drop (GoArith.val si ai * esz).toNat).take
        ((GoArith.val sj aj - GoArith.val si ai) * esz).toNat :=
  ⟨_, (slice_expr_spec base esz cap si sj sk ai aj ak hi hj hk).trans (if_pos hok),
    slice3_window' m base esz cap.toInt _ _ _ hesz hok⟩

/-- **`str[i:j]` end to end**: panics iff NOT `0 ≤ i ≤ j ≤ len(str)` on the SOURCE values; otherwise the bytes `i … j-1` -/
theorem string_slice_spec (str : List Nat) (len : BitVec 64) (hlen : len.toInt = str.length)
    (si sj : Bool) (ai : BitVec wi) (aj : BitVec wj) (hi : wi ≤ 64) (hj : wj ≤ 64) :
    StringSlice str (fit si ai).toInt (fit sj aj).toInt =
      if 0 ≤ GoArith.val si ai ∧ GoArith.val si ai ≤ GoArith.val sj aj ∧ GoArith.val sj aj ≤ str.length then
        .ok ((str.drop (GoArith.val si ai).toNat).take (GoArith.val sj aj - GoArith.val si ai).toNat)
      else .error .panic :=
  stringSlice_handed str len _ _ _ _ hlen (handed_fit si ai hi) (handed_fit sj aj hj)

example : (BitVec.ofNat 64 3).toInt = ([97, 98, 99] : List Nat).length := by decide

/-- **`make([]T, n, m)` end to end**: panics iff NOT (`0 ≤ n ≤ m`, `m` an `int`, `m * sizeof(T) ≤ maxAlloc`) on the SOURCE
    values (`make([]T, n)`: the same operand twice); `maxAlloc = 1 << heapAddrBits = 2^48` (runtime `stubs.go`) -/
theorem make_slice_spec (m : Mem) (esz : Int) (hesz : 0 ≤ esz ∧ esz < 2 ^ 63)
    (sl sc : Bool) (al : BitVec wl) (ac : BitVec wc) (hl : wl ≤ 64) (hc : wc ≤ 64) :
    MakeSlice m (fit sl al).toInt (fit sc ac).toInt esz = .error .panic ↔
      ¬ (0 ≤ GoArith.val sl al ∧ GoArith.val sl al ≤ GoArith.val sc ac ∧ GoArith.val sc ac < 2 ^ 63 ∧
         GoArith.val sc ac * esz ≤ 2 ^ 48) :=
  makeSlice_handed m esz _ _ _ _ hesz (handed_fit sl al hl) (handed_fit sc ac hc)

example : (0 : Int) ≤ 4 ∧ (4 : Int) < 2 ^ 63 := by decide

/-- in range `make` returns exactly a fresh zeroed block of `m` elements with `len = n`, `cap = m` -/
theorem make_slice_in_range (m : Mem) (esz : Int) (hesz : 0 ≤ esz ∧ esz < 2 ^ 63)
    (sl sc : Bool) (al : BitVec wl) (ac : BitVec wc) (hl : wl ≤ 64) (hc : wc ≤ 64)
    (hok : 0 ≤ GoArith.val sl al ∧ GoArith.val sl al ≤ GoArith.val sc ac ∧ GoArith.val sc ac < 2 ^ 63 ∧
      GoArith.val sc ac * esz ≤ 2 ^ 48) :
    ∃ m', MakeSlice m (fit sl al).toInt (fit sc ac).toInt esz = .ok (m', ⟨m.next, GoArith.val sl al, GoArith.val sc ac⟩) ∧
      (∀ i, i < (GoArith.val sc ac * esz).toNat → m'.bytes (m.next + i) = 0) := by
  rw [operand_exact sl al hl (Int.lt_of_le_of_lt hok.2.1 hok.2.2.1), operand_exact sc ac hc hok.2.2.1]
  obtain ⟨m', h1, h2, _⟩ := makeSlice_ok m _ _ esz ⟨hok.1, hok.2.1⟩ hesz.1 ⟨hok.2.2.1, hesz.2⟩ hok.2.2.2
  exact ⟨m', h1, h2⟩

example : (0 : Int) ≤ GoArith.val false (3#8) ∧ GoArith.val false (3#8) ≤ GoArith.val true (5#16) ∧
    GoArith.val true (5#16) < 2 ^ 63 ∧ GoArith.val true (5#16) * 4 ≤ 2 ^ 48 := by decide

def MakeChanFull (cfg : BCfg) : Prop :=
  ∀ esz n : Int, 0 ≤ esz ∧ esz < 2 ^ 63 → -2 ^ 63 ≤ n ∧ n < 2 ^ 63 →
    (NewChan cfg esz n = .error .panic ↔ ¬ chanOK esz n)

theorem makeChanFull_iff (cfg : BCfg) : MakeChanFull cfg ↔ cfg.chanSizeFix = true := by
  refine ⟨fun h => Decidable.by_contra fun hf => ?_, fun hf esz n h1 h2 => newChan_fix_panics_iff cfg hf esz n h1 h2.2⟩
  have := (h 8 (2 ^ 62) (by decide) (by decide)).2 (by decide)
  rw [newChan_nofix_panics_iff cfg (Bool.eq_false_iff.2 hf)] at this
  exact absurd this (by decide)

theorem makeChan_fixed : MakeChanFull BCfg.fixed := (makeChanFull_iff _).2 rfl

/-- `MakeChanFull` is FALSE on the unfixed tree: `make(chan int64, 1<<62)` does not panic (the byte size wraps to 0); the check
    replays this input on the compiled program (finding `panic:make-chan-oversize`) -/
theorem makeChan_counterexample : ¬ MakeChanFull BCfg.current := fun h => Bool.false_ne_true ((makeChanFull_iff _).1 h)

/-- what does hold on the unfixed tree: exact for every size whose buffer fits the allocation limit (and every negative one) -/
theorem makeChan_partial (esz n : Int) (h : n < 0 ∨ n * esz ≤ 2 ^ 48) :
    NewChan BCfg.current esz n = .error .panic ↔ ¬ chanOK esz n := by
  rw [newChan_nofix_panics_iff _ rfl]
  unfold chanOK
  omega

example : (3 : Int) < 0 ∨ (3 : Int) * 8 ≤ 2 ^ 48 := by decide

/-- in range both configurations build the channel Go specifies: capacity `n`, room for `n` elements -/
theorem make_chan_in_range (cfg : BCfg) (esz : Int) (hesz : 0 ≤ esz ∧ esz < 2 ^ 63) (s : Bool) (a : BitVec w) (hw : w ≤ 64)
    (hok : chanOK esz (GoArith.val s a)) (hint : GoArith.val s a < 2 ^ 63) :
    NewChan cfg esz (fit s a).toInt = .ok ⟨GoArith.val s a, (GoArith.val s a * esz).toNat⟩ := by
  rw [operand_exact s a hw hint]
  exact newChan_in_range cfg esz _ hesz hok

example : chanOK 4 (GoArith.val false (200#8)) ∧ GoArith.val false (200#8) < 2 ^ 63 := by decide

/-- a negative or non-`int` size always panics, through the compiler's operand, in both configurations -/
theorem make_chan_negative (cfg : BCfg) (esz : Int) (s : Bool) (a : BitVec w) (hw : w ≤ 64)
    (hbad : GoArith.val s a < 0 ∨ 2 ^ 63 ≤ GoArith.val s a) :
    NewChan cfg esz (fit s a).toInt = .error .panic := by
  rw [newChan_eq, if_pos (Or.inr ((handed_fit s a hw).neg_of_bad hbad))]

example : GoArith.val true (255#8) < 0 ∨ 2 ^ 63 ≤ GoArith.val true (255#8) := by decide

/-- **slice → array(-pointer) conversion**: panics iff the slice is shorter than the array; otherwise the data pointer -/
theorem slice_to_array_spec (len : BitVec 64) (n : Int) (data : Nat) :
    (sliceToArray len.toInt n data = .error .panic ↔ len.toInt < n) ∧
    (n ≤ len.toInt → sliceToArray len.toInt n data = .ok data) :=
  ⟨ite_error_iff nofun, fun h => if_neg (Int.not_lt.2 h)⟩

/-- Go dereferences the array pointer it slices -/
def NilArraySliceFull (cfg : BCfg) : Prop := ∀ p : Nat, p = 0 → nilArrayCheck cfg p = .error .panic

/-! these three read the flag of `nilArrayCheck` off; what the compiler emits is in the regenerated obligations: an
    `S*_aptr_*_spec` goes through `nil_core` exactly when the IR has the test -/

theorem nilArraySliceFull_iff (cfg : BCfg) : NilArraySliceFull cfg ↔ cfg.nilArrayFix = true :=
  ⟨fun h => by simpa [nilArrayCheck] using h 0 rfl, fun hf p hp => by simp [nilArrayCheck, hf, hp]⟩

theorem nilArraySlice_fixed : NilArraySliceFull BCfg.fixed := (nilArraySliceFull_iff _).2 rfl

/-- false of `BCfg.current` by its definition (no test is emitted); the evidence is the replayed input: `(*[10]int32)(nil)[:]`,
    `[1:2]`, `[0:0]` return a slice (finding `panic:nil-array-pointer-slice`, replayed on the compiled program by the check) -/
theorem nilArraySlice_counterexample : ¬ NilArraySliceFull BCfg.current :=
  fun h => Bool.false_ne_true ((nilArraySliceFull_iff _).1 h)

theorem nilArraySlice_partial (cfg : BCfg) (p : Nat) (hp : p ≠ 0) : nilArrayCheck cfg p = .ok () := by
  simp [nilArrayCheck, hp]

example : (4096 : Nat) ≠ 0 := by decide

end LlgoVerif.C03
