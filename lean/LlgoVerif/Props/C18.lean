import LlgoVerif.Lemmas.Targets
import LlgoVerif.Gen.C18Fields
/-!
# C18 — every target description resolves to one well-defined configuration

All statements quantify over **every** directory `fs` (any number of files, any `inherits` graph — forests, diamonds,
cycles, dangling parents, unparsable files), every name and every stack budget `fuel`.
-/
namespace LlgoVerif.Targets

/-! ## Precedence: what a resolved configuration contains -/

/-- **Refinement.** The loader computes exactly the specification: the field-wise combination (`specConfig`) of the
    depth-first inheritance order (`lineage`), the same error when the lineage cannot be read, and it diverges exactly
    when the walk does. -/
theorem resolve_eq_spec (fs : FS) (fuel : Nat) (name : String) :
    load fs fuel name = specResolve fs fuel name :=
  load_eq_spec fs fuel name

/-- A successful resolution has a lineage, and it ends with the description's own settings
    (the property's wording: "… followed by its own"). -/
theorem resolve_lineage (fs : FS) (fuel : Nat) (name : String) (cfg : Config)
    (h : load fs fuel name = .ok cfg) :
    ∃ ds raw, lineage fs fuel name = .ok (ds ++ [(name, raw.config)]) ∧ loadRaw fs name = .ok raw := by
  obtain ⟨ds, hds, _⟩ := load_ok_spec h
  obtain ⟨ds', raw, rfl, hr⟩ := lineage_ok_snoc hds
  exact ⟨ds', raw, hds, hr⟩

/-- **Scalar precedence**: every string setting of the resolved configuration is the value given by
    the *last* description, in depth-first inheritance order, that sets it (`""` when none does). -/
theorem resolve_scalar (fs : FS) (fuel : Nat) (name : String) (cfg : Config) (ds : List (String × Config))
    (h : load fs fuel name = .ok cfg) (hl : lineage fs fuel name = .ok ds) (f : SField) :
    cfg.str f = lastSet (ds.map fun d => d.2.str f) := by
  rw [load_ok_eq h hl]; exact build_str ..

/-- `resolve_scalar`, spelled out: if `(n, c)` sets `f` and no later description of the lineage does, the resolved
    value is `c`'s. -/
theorem resolve_scalar_last (fs : FS) (fuel : Nat) (name : String) (cfg : Config)
    (pre post : List (String × Config)) (n : String) (c : Config) (f : SField)
    (h : load fs fuel name = .ok cfg) (hl : lineage fs fuel name = .ok (pre ++ (n, c) :: post))
    (hset : c.str f ≠ "") (hpost : ∀ d ∈ post, d.2.str f = "") : cfg.str f = c.str f := by
  rw [resolve_scalar fs fuel name cfg _ h hl f]
  simp only [List.map_append, List.map_cons]
  exact lastSet_last _ _ _ hset (List.forall_mem_map.2 hpost)

/-- A setting that no description of the lineage sets stays unset. -/
theorem resolve_scalar_unset (fs : FS) (fuel : Nat) (name : String) (cfg : Config) (ds : List (String × Config))
    (f : SField) (h : load fs fuel name = .ok cfg) (hl : lineage fs fuel name = .ok ds)
    (hun : ∀ d ∈ ds, d.2.str f = "") : cfg.str f = "" := by
  rw [resolve_scalar fs fuel name cfg _ h hl f]
  exact lastSet_all_unset _ (List.forall_mem_map.2 hun)

example : ∃ (c : Config), c.str .cpu ≠ "" ∧ ∀ d ∈ [("x", ({} : Config))], d.2.str .cpu = "" :=
  ⟨{ cpu := "cortex-m0" }, by decide, by decide⟩

/-- The one boolean setting (`rp2040-boot-patch`; Go's "unset" is `false`): set iff some description sets it. -/
theorem resolve_flag (fs : FS) (fuel : Nat) (name : String) (cfg : Config) (ds : List (String × Config))
    (h : load fs fuel name = .ok cfg) (hl : lineage fs fuel name = .ok ds) :
    cfg.rp2040BootPatch = ds.any fun d => d.2.rp2040BootPatch := by
  rw [load_ok_eq h hl]; rfl

/-- **List concatenation**: every list setting of the resolved configuration is the concatenation
    of the descriptions' own lists in depth-first inheritance order (ancestors first, own list last). -/
theorem resolve_list (fs : FS) (fuel : Nat) (name : String) (cfg : Config) (ds : List (String × Config))
    (h : load fs fuel name = .ok cfg) (hl : lineage fs fuel name = .ok ds) (l : LField) :
    cfg.list l = (ds.map fun d => d.2.list l).flatten := by
  rw [load_ok_eq h hl]; exact build_list ..

/-- The resolved configuration carries the requested name (never a parent's). -/
theorem resolve_name (fs : FS) (fuel : Nat) (name : String) (cfg : Config)
    (h : load fs fuel name = .ok cfg) : cfg.name = name := by
  obtain ⟨ds, _, rfl⟩ := load_ok_spec h
  rfl

/-- **"Nearest description"**, read on the parents' *resolved* configurations: a description's own value wins; a
    setting it leaves unset comes from the last-listed parent whose resolved configuration has it; lists are the
    parents' resolved lists, in `inherits` order, followed by the own list. -/
theorem resolve_nearest (fs : FS) (fuel : Nat) (name : String) (cfg : Config)
    (h : load fs (fuel + 1) name = .ok cfg) :
    ∃ (raw : RawConfig) (cs : List Config), loadRaw fs name = .ok raw ∧
      raw.inherits.map (load fs fuel) = cs.map Outcome.ok ∧
      (∀ f, cfg.str f = if raw.config.str f ≠ "" then raw.config.str f else lastSet (cs.map fun c => c.str f)) ∧
      (∀ l, cfg.list l = (cs.map fun c => c.list l).flatten ++ raw.config.list l) := by
  rw [load_succ] at h
  obtain ⟨raw, cs, hr, hcs, rfl⟩ := loadStep_ok_fold fs _ name cfg h
  refine ⟨raw, cs, hr, hcs, fun f => ?_, fun l => ?_⟩
  · rw [mergeConfig_str, mergeAll_str, empty_str, ite_ne_empty_self]
  · rw [mergeConfig_list, mergeAll_list, empty_list, List.nil_append]

/-- The hypotheses of the precedence theorems are satisfiable: a diamond `a → {b, c} → d`. -/
def diamondFS : FS :=
  [("a", .good { inherits := ["b", "c"], config := { cFlags := ["-a"] } }),
   ("b", .good { inherits := ["d"], config := { cpu := "b-cpu", cFlags := ["-b"] } }),
   ("c", .good { inherits := ["d"], config := { features := "c-feat" } }),
   ("d", .good { inherits := [], config := { cpu := "d-cpu", features := "d-feat", cFlags := ["-d"] } })]

example : ∃ cfg ds, load diamondFS 3 "a" = .ok cfg ∧ lineage diamondFS 3 "a" = .ok ds
    ∧ ds.map (·.1) = ["d", "b", "d", "c", "a"]
    ∧ cfg.cpu = "d-cpu" ∧ cfg.features = "c-feat" ∧ cfg.cFlags = ["-d", "-b", "-d", "-a"] :=
  ⟨_, _, rfl, rfl, by decide, by decide, by decide, by decide⟩

/-! ## Determinism -/

/-- **Determinism in the stack budget**: once a result (configuration or error) is produced, every larger budget
    produces the same result. -/
theorem resolve_deterministic (fs : FS) (fuel fuel' : Nat) (name : String) (r : Outcome Config)
    (h : load fs fuel name = r) (hr : r ≠ .diverge) (hle : fuel ≤ fuel') : load fs fuel' name = r := by
  subst h
  exact (load_le fs hle name).eq hr

example : load diamondFS 3 "a" ≠ .diverge := by decide

/-- **Independence of the directory representation**: two directories that give the same content for every file
    name resolve every name identically (the loader reads the directory only through name → content). -/
theorem resolve_deterministic_fs (fs fs' : FS) (h : ∀ n, fs.lookup n = fs'.lookup n) (fuel : Nat)
    (name : String) : load fs fuel name = load fs' fuel name :=
  load_congr_fs fs fs' h fuel name

/-- In particular any reordering of the directory listing resolves every name identically (file names being unique). -/
theorem resolve_deterministic_perm (fs fs' : FS) (hp : fs.Perm fs') (hnd : (fs.map Prod.fst).Nodup)
    (fuel : Nat) (name : String) : load fs fuel name = load fs' fuel name :=
  load_congr_fs fs fs' (lookup_perm hp hnd) fuel name

example : (diamondFS.map Prod.fst).Nodup ∧ diamondFS.Perm diamondFS.reverse :=
  ⟨by decide, (List.reverse_perm _).symm⟩

/-! ## Missing and unreadable parents -/

/-- A name whose file is missing or unparsable is an error (with any non-zero budget). -/
theorem resolve_missing (fs : FS) (fuel : Nat) (name : String) (e : Err) (h : loadRaw fs name = .error e) :
    load fs (fuel + 1) name = .error e := by
  rw [load_succ, loadStep_error h]

/-- **Missing parent**: if any description reachable through `inherits` is missing or unparsable, no budget makes
    the loader return a configuration. -/
theorem resolve_missing_parent (fs : FS) (name q : String) (e : Err) (hq : Reach fs name q)
    (he : loadRaw fs q = .error e) (fuel : Nat) (cfg : Config) : load fs fuel name ≠ .ok cfg := by
  intro h
  obtain ⟨raw, hr⟩ := load_ok_reach fs fuel name q cfg h hq
  rw [he] at hr; cases hr

example : ∃ raw, loadRaw [("a", .good { inherits := ["gone"] })] "a" = .ok raw ∧ "gone" ∈ raw.inherits
    ∧ loadRaw [("a", .good { inherits := ["gone"] })] "gone" = .error (.missing "gone") :=
  ⟨_, rfl, by decide, rfl⟩

/-! ## Totality — and the finding: a cyclic `inherits` never terminates -/

/-- The full statement the property asks for: resolution always ends (with a configuration or an error). -/
def ResolveTotal : Prop := ∀ (fs : FS) (name : String), ∃ fuel, load fs fuel name ≠ .diverge

/-- the smallest cyclic directory: `a.json = {"inherits": ["a"]}` -/
def selfCycleFS : FS := [("a", .good { inherits := ["a"] })]

/-- `a.json = {"inherits": ["b"]}`, `b.json = {"inherits": ["a"]}` -/
def twoCycleFS : FS := [("a", .good { inherits := ["b"] }), ("b", .good { inherits := ["a"] })]

theorem selfCycle_diverges (fuel : Nat) : load selfCycleFS fuel "a" = .diverge := by
  induction fuel with
  | zero => rfl
  | succ fuel ih =>
    have hr : loadRaw selfCycleFS "a" = .ok { inherits := ["a"], config := { name := "a" } } := rfl
    rw [load_succ, loadStep_ok hr, mergeParents, ih]; rfl

theorem twoCycle_diverges (fuel : Nat) :
    load twoCycleFS fuel "a" = .diverge ∧ load twoCycleFS fuel "b" = .diverge := by
  induction fuel with
  | zero => exact ⟨rfl, rfl⟩
  | succ fuel ih =>
    have ha : loadRaw twoCycleFS "a" = .ok { inherits := ["b"], config := { name := "a" } } := rfl
    have hb : loadRaw twoCycleFS "b" = .ok { inherits := ["a"], config := { name := "b" } } := rfl
    constructor
    · rw [load_succ, loadStep_ok ha, mergeParents, ih.2]; rfl
    · rw [load_succ, loadStep_ok hb, mergeParents, ih.1]; rfl

/-- **Finding.** `ResolveTotal` is false for the loader without `fixes/C18-1.diff` (`load`): it keeps no visited set, so on
    `a.json = {"inherits": ["a"]}` every stack budget is exhausted (the Go process dies with
    "fatal error: stack overflow"; replayed on the real code by `./check C18`). -/
theorem resolve_total_counterexample : ¬ ResolveTotal := by
  intro h
  obtain ⟨fuel, hf⟩ := h selfCycleFS "a"
  exact hf (selfCycle_diverges fuel)

/-- More generally, a description that lies on an inheritance cycle never resolves to a configuration, whatever
    the budget (it diverges, or fails earlier on some other unreadable parent). -/
theorem resolve_cycle_never_ok (fs : FS) (name : String) (hc : OnCycle fs name) (fuel : Nat) (cfg : Config) :
    load fs fuel name ≠ .ok cfg :=
  load_cycle_not_ok fs fuel name hc cfg

example : OnCycle twoCycleFS "a" :=
  ⟨{ inherits := ["b"], config := { name := "a" } }, "b", rfl, by decide,
   .step (raw := { inherits := ["a"], config := { name := "b" } }) rfl (by decide) (.refl "a")⟩

/-- **Totality on acyclic forests** (the part of `ResolveTotal` that holds): if the decidable depth-first test finds
    no name repeated on its own inheritance path, resolution ends — with a configuration or an error — within
    `fs.length + 1` nested loads, and every larger budget gives that same result.  (Why `fs.length + 1`: `PathOK`.) -/
theorem resolve_total_partial (fs : FS) (name : String) (h : acyclic fs name = true) :
    ∃ r, r ≠ Outcome.diverge ∧ ∀ fuel, fs.length + 1 ≤ fuel → load fs fuel name = r := by
  have hnd : load fs (fs.length + 1) name ≠ .diverge :=
    loadV_eq_load fs _ [] name h ▸ loadV_ne_diverge fs _ [] name (PathOK.nil fs)
  exact ⟨load fs (fs.length + 1) name, hnd, fun fuel hle => (load_le fs hle name).eq hnd⟩

example : acyclic diamondFS "a" = true := by decide
example : acyclic selfCycleFS "a" = false := by decide
example : acyclic twoCycleFS "b" = false := by decide

/-- The decidable test accepts every DAG: if some rank decreases strictly along every `inherits` edge, the test
    succeeds for every name (so `resolve_total_partial` covers all acyclic forests, of any size and depth). -/
theorem acyclic_of_ranked (fs : FS) (rank : String → Nat) (hr : Ranked fs rank) (name : String) :
    acyclic fs name = true :=
  acyclicFrom_of_ranked fs rank hr (fs.length + 1) [] name (fun _ h => nomatch h) (PathOK.nil fs)

example : Ranked diamondFS (fun n => if n = "a" then 2 else if n = "d" then 0 else 1) :=
  ranked_of_rankedB _ _ (by decide)

/-- On an acyclic forest a missing / unparsable ancestor makes the result an **error** (not a hang, not a
    configuration). -/
theorem resolve_missing_parent_error (fs : FS) (name q : String) (e : Err) (h : acyclic fs name = true)
    (hq : Reach fs name q) (he : loadRaw fs q = .error e) :
    ∃ e', ∀ fuel, fs.length + 1 ≤ fuel → load fs fuel name = .error e' := by
  obtain ⟨r, hr, hall⟩ := resolve_total_partial fs name h
  cases r with
  | ok cfg => exact absurd (hall _ (Nat.le_refl _)) (resolve_missing_parent fs name q e hq he _ cfg)
  | error e' => exact ⟨e', hall⟩
  | diverge => exact absurd rfl hr

example : acyclic [("a", .good { inherits := ["gone"] })] "a" = true
    ∧ Reach [("a", .good { inherits := ["gone"] })] "a" "gone"
    ∧ loadRaw [("a", .good { inherits := ["gone"] })] "gone" = .error (.missing "gone") :=
  ⟨by decide, .step (raw := { inherits := ["gone"], config := { name := "a" } }) rfl (by decide) (.refl _), rfl⟩

/-! ## The repaired loader (`fixes/C18-1.diff`: visited path) -/

/-- With the visited path the loader is total on **every** directory: `fs.length + 1` nested loads always suffice. -/
theorem fixed_total (fs : FS) (name : String) : loadV fs (fs.length + 1) [] name ≠ .diverge :=
  loadV_ne_diverge fs (fs.length + 1) [] name (PathOK.nil fs)

/-- At this budget the repair changes nothing on acyclic forests (diamonds included: the path is a stack, not a global
    set). -/
theorem fixed_agrees (fs : FS) (name : String) (h : acyclic fs name = true) :
    loadV fs (fs.length + 1) [] name = load fs (fs.length + 1) name :=
  loadV_eq_load fs (fs.length + 1) [] name h

/-- A description on an inheritance cycle resolves to an error. -/
theorem fixed_cycle_error (fs : FS) (name : String) (hc : OnCycle fs name) :
    ∃ e, loadV fs (fs.length + 1) [] name = .error e :=
  loadV_cycle_error name (PathOK.nil fs) hc

example : loadV selfCycleFS 2 [] "a" = .error (.cycle "a") := by decide
example : loadV twoCycleFS 3 [] "b" = .error (.cycle "b") := by decide

/-! ## The field lists of the Go source (`Gen/C18Fields.lean`, regenerated from the checked tree) -/

/-- Every field of `type Config struct` (as declared in the checked tree), other than the identifying `Name`, is
    written by `mergeConfig` (as written in the checked tree).  Adding a
    field to `Config` without merging it makes this theorem false. -/
theorem mergeConfig_complete :
    ∀ f ∈ Gen.C18.configFields, f.1 ≠ "Name" → f.1 ∈ Gen.C18.mergedFields := by decide +kernel

/-- `mergeConfig` writes nothing but declared fields, and never the name. -/
theorem mergeConfig_sound :
    ∀ m ∈ Gen.C18.mergedFields, m ≠ "Name" ∧ m ∈ Gen.C18.configFields.map (·.1) := by decide +kernel

/-- Every field of the Lean model is a field of the Go struct, with the same Go type (the model speaks about no
    setting that does not exist).  The converse — every field of the struct is in the model — is
    `GenProofs/C18Coverage.lean` `config_fields_modelled`. -/
theorem model_fields_declared :
    ∀ m ∈ modelFields, m ∈ Gen.C18.configFields.map fun f => (f.1, f.2.1) := by decide +kernel

/-- `RawConfig` is `Inherits []string` (JSON key `inherits`) plus the embedded `Config`. -/
theorem rawConfig_shape :
    Gen.C18.rawConfigFields = [("Inherits", "[]string", "inherits"), ("Config", "Config", "")] := rfl

end LlgoVerif.Targets
