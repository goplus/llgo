import LlgoVerif.Lemmas.TypeStr
import LlgoVerif.Lemmas.TypeDesc
/-!
# C15 — reflect describes types as Go does: the COMPILER-EMITTED half

`reflectString env t` is what `(*abi.Type).String()` returns for the descriptor llgo emits for `t`
(`ssa/abi/type.go` `Str`/`TFlag`/`Kind`, the table builders of `ssa/abitype.go`).

NOT covered: `runtime/internal/lib/reflect`, `fmt` (no model of them).
-/
namespace LlgoVerif.Types

/-- **Full statement**: the emitted type string is Go's `reflect.Type.String()` for every type.
    FALSE: see the counterexamples below. -/
def typeString_grammar (q : Str → Str) : Prop :=
  ∀ (env : Env) (t : GoType), reflectString env t = goStr q env t

/-- an environment in which declaration `1` is `type Ptr *T` (its underlying type carries `ExtraStar`) -/
def envPtr : Env :=
  { pkgName := fun _ => ['p'], underStar := fun d => d == 1, underKind := fun _ => .pointer,
    underVariadic := fun _ => false, underClosure := fun _ => false }

theorem namedPointer_star (q : Str → Str) (env : Env) (d : Nat) (pkg : Option Str) (name : Str) (sc : Scope)
    (h : env.underStar d = true) :
    reflectString env (.named d pkg name sc .nil) = '*' :: goStr q env (.named d pkg name sc .nil) := by
  cases pkg <;> simp [reflectString, star, extraStar, strC, goStr, h, TList.isNil]

/-- **Counterexample (named pointer types).** For `type Ptr *T` the flag `TFlagExtraStar` is inherited
    from the underlying type and `String()` prepends a star: `*p.Ptr` instead of `p.Ptr`.  Replayed
    on the real `ssa/abi` and on llgo's emitted IR by the check (finding `reflect:string:named-pointer-type`). -/
theorem typeString_grammar_counterexample (q : Str → Str) : ¬ typeString_grammar q := fun h =>
  List.cons_ne_self _ _ ((namedPointer_star q envPtr 1 (some ['p']) ['P', 't', 'r'] .pkg rfl).symm.trans (h envPtr _))

/-- further witnesses outside the fragment: a pointer map key loses its star, `chan (<-chan int)` is
    not parenthesised — each for an arbitrary environment -/
theorem typeString_grammar_more_counterexamples (q : Str → Str) (env : Env) :
    reflectString env (.map (.pointer (.basic .int)) (.basic .string)) ≠ goStr q env (.map (.pointer (.basic .int)) (.basic .string)) ∧
    reflectString env (.chan .both (.chan .recv (.basic .int))) ≠ goStr q env (.chan .both (.chan .recv (.basic .int))) := by
  constructor
  · intro h
    have := congrArg List.length h
    simp [reflectString, star, extraStar, strC, goStr] at this
  · intro h
    have := congrArg List.length h
    simp [reflectString, star, extraStar, strC, goStr, chanParen, isRecvChan, unalias] at this
    omega

/-- **Partial theorem** (`typeString_grammar` on the fragment `strOk`, whose docstring lists what it excludes): the
    string `String()` computes from the emitted `Str_` and `TFlagExtraStar` is exactly Go's rendering — i.e. llgo's
    inverted star bookkeeping (`**` in `Str` of a pointer to a pointer, star added by flag) is consistent through every
    nesting the fragment admits. -/
theorem typeString_grammar_partial (q : Str → Str) (env : Env) (t : GoType) (h : strOk env t = true) :
    reflectString env t = goStr q env t := real_eq_go q env t h

/-- the hypothesis is satisfiable by a deeply nested type:
    `map[string][]**func(int, ...*p.T) (chan<- p.G[*vm/p.T], error)` -/
example :
    let env : Env := { pkgName := fun _ => ['p'], underStar := fun _ => false, underKind := fun _ => .struct,
                       underVariadic := fun _ => false, underClosure := fun _ => false }
    let pT : GoType := .named 1 (some ['v', 'm', '/', 'p']) ['T'] .pkg .nil
    strOk env (.map (.basic .string) (.slice (.pointer (.pointer (.func
      (.cons (.basic .int) (.cons (.slice (.pointer pT)) .nil))
      (.cons (.chan .send (.named 2 (some ['v', 'm', '/', 'p']) ['G'] .pkg (.cons (.pointer pT) .nil)))
        (.cons (.named 3 none ['e', 'r', 'r', 'o', 'r'] .pkg .nil) .nil)) true))))) = true := by decide

/-- **The method table is sorted** (what C07's `newItab_scan_correct` / `findMethod` presuppose): under the hypotheses
    the emitted names are the `Id`s by which go/types sorts a method set. Not proved: that `strLt` is irreflexive
    ("duplicate-free"), and that it agrees with `bytesLt` on UTF-8 bytes, in which C07's precondition `sortedNames` is
    stated. -/
theorem methods_sorted_unique (ms : List MethodIn) (hs : SortedById ms) (hp : noPatchPkg ms = true) :
    (methodTable ms).Pairwise fun a b => strLt a.1 b.1 = true := by
  rw [methodTable, List.pairwise_map]
  exact hs.imp_of_mem fun ha hb h => by rwa [emittedName_eq_id hp ha, emittedName_eq_id hp hb]

example : SortedById [⟨['M'], none, []⟩, ⟨['k'], some ['v', 'm', '/', 'p'], []⟩] ∧
    noPatchPkg [⟨['M'], none, []⟩, ⟨['k'], some ['v', 'm', '/', 'p'], []⟩] = true := by
  unfold SortedById noPatchPkg; rw [patchPrefix_eq]; decide

/-- **The patch-prefix hypothesis matters**: two promoted unexported methods, one from a patched
    package, are in `Id` order but their emitted names (`PathOf` strips the prefix) are not sorted. -/
theorem methods_sorted_counterexample :
    ∃ ms : List MethodIn, SortedById ms ∧ ¬ (methodTable ms).Pairwise fun a b => strLt a.1 b.1 = true := by
  refine ⟨[⟨['m'], some (patchPrefix ++ ['s', 'y', 'n', 'c']), []⟩, ⟨['x'], some ['i', 'o'], []⟩], ?_, ?_⟩
  · unfold SortedById; rw [patchPrefix_eq]; decide
  · simp only [methodTable, List.map, emittedName, pathOf, patchPrefix_eq]; decide

theorem xcount_le (ms : List MethodIn) : xcount ms ≤ (methodTable ms).length := by
  rw [xcount, methodTable, List.length_map]; exact List.length_filter_le _ _

/-- **Field tables**: the entry `abiStructFields` emits for the first field carries its declared name, tag and
    embedding flag and is followed by the table of the remaining fields; the table has one entry per field
    (what it cannot do is give two tag variants different tables: they share a symbol — C07 `samename:tag`). -/
theorem fields_faithful (name : Str) (pkg : Option Str) (emb : Bool) (tag : Str) (t : GoType) (r : FList) :
    fieldTable (.cons name pkg emb tag t r) = (name, tag, emb) :: fieldTable r ∧
    (fieldTable (.cons name pkg emb tag t r)).length = (FList.cons name pkg emb tag t r).length := by
  exact ⟨rfl, fieldTable_length _⟩

/-! ## where the run-time library looks for what the compiler wrote (`Model/TypeDesc.lean`) -/

/-- **The uncommon part is found where it was put**: for every type, `(*abi.Type).Uncommon()` (which only sees
    `Kind()`) assumes exactly the header `abiType` emitted in front of `uncommonType` — the same descriptor type, hence
    the same byte offset, for all nine layouts (a chantype is one word longer than a ptrtype / slicetype, an arraytype
    two, maptype / functype five).  `NumMethod`, `Method(i)`, `PkgPath`, `Implements`, `NewItab` all start here. -/
theorem uncommon_found_where_emitted (env : Env) (uh : Nat → Header) (hu : ∀ d, uh d = emitHeader (env.underKind d))
    (t : GoType) :
    readHeader (kindOf env t) = runtimeNameC uh t ∧ readUncommonOffset (kindOf env t) = emitUncommonOffset uh t := by
  have h : readHeader (kindOf env t) = runtimeNameC uh t := by
    rw [runtimeName_by_kind env uh hu t]; cases kindOf env t <;> rfl
  exact ⟨h, by simp [readUncommonOffset, emitUncommonOffset, h]⟩

/-- the hypothesis is satisfiable: declaration 1 = `type Done chan struct{}`; its uncommon part sits 88 bytes in,
    8 bytes further than behind a ptrtype -/
example :
    let env : Env := { pkgName := fun _ => ['p'], underStar := fun _ => false, underKind := fun _ => .chan,
                       underVariadic := fun _ => false, underClosure := fun _ => false }
    (∀ d, (fun _ => Header.chan) d = emitHeader (env.underKind d)) ∧
    emitUncommonOffset (fun _ => Header.chan) (.named 1 (some ['p']) ['D', 'o', 'n', 'e'] .pkg .nil) = 88 ∧
    readUncommonOffset .pointer = 80 := by
  refine ⟨fun _ => rfl, by decide, by decide⟩

/-- **The receiver word of an interface method call**: for every type, `DirectIfaceData` (a kind list in the run-time
    library) answers "box the data word" exactly when the compiler stored the value IN the data word
    (`directIfaceType`, recursive through one-element arrays and one-field structs) and the value is not itself the
    pointer receiver.  In particular every kind the compiler can mark direct is on the run-time list: `[1]*T`,
    `[1]chan T`, `struct{ p *T }`, `[1]struct{ m map[K]V }` …  Otherwise a value-receiver method called through an
    interface is handed the POINTEE as its receiver. -/
theorem directIfaceData_spec (env : Env) (ud : Nat → Bool) (hd : ∀ d, ud d = true → directKind (env.underKind d) = true)
    (t : GoType) :
    directIfaceData (kindOf env t) (directIfaceTypeC ud t) = needsBoxedReceiver (kindOf env t) (directIfaceTypeC ud t) := by
  cases hdir : directIfaceTypeC ud t with
  | false => simp [directIfaceData, needsBoxedReceiver]
  | true => exact directIfaceData_of_directKind _ (direct_kinds env ud hd t hdir)

/-- satisfiable and not vacuous: `type Cell [1]*node` (declaration 1) is direct, of kind array, and must be boxed -/
example :
    let env : Env := { pkgName := fun _ => ['p'], underStar := fun _ => false, underKind := fun _ => .array,
                       underVariadic := fun _ => false, underClosure := fun _ => false }
    let ud : Nat → Bool := fun _ => directIfaceTypeC (fun _ => false) (.array 1 (.pointer (.basic .int)))
    (∀ d, ud d = true → directKind (env.underKind d) = true) ∧
    directIfaceData (kindOf env (.named 1 (some ['p']) ['C'] .pkg .nil)) (directIfaceTypeC ud (.named 1 (some ['p']) ['C'] .pkg .nil)) = true := by
  refine ⟨fun _ _ => rfl, by decide⟩

/-- **Field visibility is what Go reports**: for every struct type written in a package `P` (go/types: each field with
    a non-exported name — embedded ones are named after their type: `base`, `*base`, `error`, an alias — belongs to
    `P`), the `StructField.PkgPath` reflect derives from the emitted `StructType.PkgPath_` is Go's for EVERY field —
    provided reflect's test of the name (`exported`) is the one go/types used.  So `IsExported()` is false exactly
    for the non-exported names, also when the only such fields are embedded ones. -/
theorem field_pkgpath_faithful (exported : Str → Bool) (P : Str) (fs : FList) (h : fieldsOfPkg exported P fs = true) :
    reflectFieldPkgPaths exported fs = goFieldPkgPaths fs := by
  unfold reflectFieldPkgPaths
  -- either the emitted path is `P`, or the path does not matter: both rewrite the goal to `derive_of_pkg`
  rcases structPkgPath_cases exported P fs h with hp | hp <;> rw [hp] <;> exact derive_of_pkg exported P fs h

/-- satisfiable by `struct{ base; Addr string }` of package `vm` (the only non-exported field is the embedded one) -/
example : fieldsOfPkg asciiExported ['v', 'm']
    (.cons ['b', 'a', 's', 'e'] (some ['v', 'm']) true [] (.named 1 (some ['v', 'm']) ['b', 'a', 's', 'e'] .pkg .nil)
      (.cons ['A', 'd', 'd', 'r'] none false [] (.basic .string) .nil)) = true := by decide

/-- `field_pkgpath_faithful` with llgo's own test `abi.IsExported` (it looks at one ASCII byte) where go/types' test
    calls `Ä…` exported. FALSE: -/
def field_pkgpath_ascii : Prop :=
  ∀ (goExported : Str → Bool) (P : Str) (fs : FList), goExported ['Ä'] = true → fieldsOfPkg goExported P fs = true →
    reflectFieldPkgPaths asciiExported fs = goFieldPkgPaths fs

/-- **The hypothesis on `exported` matters**: a field whose exported name starts with a non-ASCII upper-case letter
    (`Ä`) is given the struct's package path, i.e. reflect calls it unexported. -/
theorem field_pkgpath_ascii_counterexample : ¬ field_pkgpath_ascii := by
  intro h
  have := h (fun s => s == ['Ä']) ['v', 'm']
    (.cons ['Ä'] none false [] (.basic .int) (.cons ['b'] (some ['v', 'm']) false [] (.basic .int) .nil)) (by decide) (by decide)
  revert this
  decide

end LlgoVerif.Types
