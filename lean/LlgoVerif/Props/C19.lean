import LlgoVerif.Lemmas.PyGuard
import LlgoVerif.Lemmas.PyInitOrder
import LlgoVerif.Lemmas.PySyms
import LlgoVerif.Lemmas.PyCache
/-!
# C19 — Go and Python exchange values and calls without loss

What the theorems cover: the **import guard** (module variables, `PyImport_ImportModule` in the binding
package's `init`, symbol variables loaded in the using package's `init`, `Py_Initialize` first) for EVERY
program, EVERY initialisation order consistent with the import graph and EVERY sequence of later uses;
and the **argument order** of calls and of `py.List` / `py.Tuple` for EVERY arity.

What they do not cover: the *values*.  `PyLong_FromLongLong`, `PyFloat_FromDouble`,
`PyUnicode_FromStringAndSize`, … are CPython's; in any pure model a round trip through them is the
identity (section "Values" below says exactly that and nothing more).  Their substance is the
differential execution of compiled programs against libpython and `python3` (checks/c19.py).

Two hypotheses of `import_once_before_use` do not follow from the others (`guard_full_without_…_counterexample`;
the check runs both programs on the real code): `declOnlyPkg`, which llgo does not ensure, and `needPyInit`, the
entry rule of `Model/PyGuard.lean` (ordinary packages only; build.go's `buildOne` takes the flag from binding
packages too, `Model/PyCache.lean`: that counterexample is about the model's rule, not about a linked program).

The soundness of the IR shape check (tie A) is `shape_sound` in `Spec/PyShape.lean`.
-/
namespace LlgoVerif.PyGuard

/-- What the guard guarantees about the trace `t` of a whole run. -/
structure GuardOk (P : Prog) (pre : List Mod) (order : List Nat) (t : List Ev) : Prop where
  /-- the guarded import of a bound module is executed by the first package (in initialisation order)
      that binds it — "in whichever package first needs it" … -/
  first_imports : ∀ p m, FirstBinder P order p m → Ev.importCall p m ∈ t
  /-- … by no other package … -/
  only_first : ∀ p m, Ev.importCall p m ∈ t → FirstBinder P order p m
  /-- … and exactly once per module for the whole program, however many packages bind or use it
      (the module variable `__llgo_py.<m>` is one `linkonce` variable per program). -/
  import_once : ∀ m, (∃ q ∈ order, (P q).binds = some m) → t.countP (isImport m) = 1
  /-- CPython executes a module body at most once (sys.modules), whatever mixture of guarded and
      user-written imports the program makes … -/
  body_at_most_once : ∀ m, t.count (.modBody m) ≤ 1
  /-- … and exactly once for a bound module that start-up had not imported already. -/
  body_once : ∀ m, (∃ q ∈ order, (P q).binds = some m) → t.count (.modBody m) = if m ∈ pre then 0 else 1
  /-- every event is preceded by what it needs (`Req`): `Py_Initialize` before any C-API call; the guarded
      import of `m` and the existence of the module object before any symbol load, call or variable read
      of `m`; the symbol load before a call through the symbol variable. -/
  before_use : Safe pre t
  /-- each symbol variable is stored at most once … -/
  load_at_most_once : ∀ y, t.countP (isLoad y) ≤ 1
  /-- … and exactly once if any initialised ordinary package calls the symbol. -/
  load_once : ∀ p ∈ order, (P p).binds = none → ∀ y ∈ (P p).pyobjs, t.countP (isLoad y) = 1

theorem guardOk_of_dinv {P : Prog} {pre : List Mod} {order : List Nat} {s : St} (hd : DInv P pre order s) :
    GuardOk P pre order s.trace := by
  have ha := hd.inv.a
  have hbound : ∀ m, (∃ q ∈ order, (P q).binds = some m) → m ∈ s.modVar := fun m h => (hd.modDone m).2 h
  refine ⟨fun p m => (hd.impFirst p m).2, fun p m => (hd.impFirst p m).1, ?_, ?_, ?_, ha.safe, ?_, ?_⟩
  · intro m hm
    exact (hd.inv.impCount m).trans (if_pos (hbound m hm))
  · intro m
    rw [ha.bodyCount m]
    split <;> omega
  · intro m hm
    have h2 := (ha.modImp m (hbound m hm)).2
    rw [ha.bodyCount m]
    by_cases hp : m ∈ pre <;> simp [h2, hp]
  · intro y
    rw [ha.loadCount y]
    split <;> omega
  · intro p hp hb y hy
    exact (ha.loadCount y).trans (if_pos (hd.symDone p hp hb y hy))

/-- **Import guard.**  For every program `P`, every set `imp` of importable modules, every start-up content
    `pre` of `sys.modules`, every initialisation order consistent with the import graph and every later
    sequence of uses: the run does not fail and its trace satisfies `GuardOk`.

    Hypotheses (all decidable on a finite program, see `checkB`): Go's scoping (`scopedPkg`: a package
    names `q.F` only if it imports `q`), `pyLoadModSyms` loads what the package calls (`loadsOkPkg`), every
    bound module is importable, the uses come from packages of
    the program — and the two that llgo does NOT ensure: binding packages contain declarations only
    (`declOnlyPkg`), and some ordinary package needs the interpreter (`needPyInit`). -/
theorem import_once_before_use (P : Prog) (imp : Mod → Bool) (pre : List Mod) (order : List Nat)
    (calls : List (Nat × Use))
    (hc : Consistent P order) (hok : ∀ p ∈ order, PkgOk P imp p)
    (hpy : needPyInit P order = true) (hcalls : callsOk P order calls = true) :
    ∃ s, run P imp pre order calls = .ok s ∧ GuardOk P pre order s.trace := by
  obtain ⟨s, hs, hd⟩ := run_spec imp pre order calls hc.2 hok hpy hcalls
  exact ⟨s, hs, guardOk_of_dinv hd⟩

/-- the same with all hypotheses as one executable check (used on the regenerated facts and in examples) -/
theorem import_once_before_use_checked (P : Prog) (imp : Mod → Bool) (pre : List Mod) (order : List Nat)
    (calls : List (Nat × Use)) (h : checkB P imp order calls = true) :
    ∃ s, run P imp pre order calls = .ok s ∧ GuardOk P pre order s.trace := by
  simp only [checkB, Bool.and_eq_true] at h
  obtain ⟨⟨⟨h1, h2⟩, h3⟩, h4⟩ := h
  exact import_once_before_use P imp pre order calls (consistent_of_B h1) (pkgOk_of_B h2) h3 h4

/-- **The import guard for the order llgo's initialisers produce.**  go/ssa's guarded initialiser, as compiled by llgo
    (`initPkg`: test the guard, set it, call the imports' `init` in order, run the body), started from
    `main.init`, visits the packages in an order that is consistent with the import graph — for every
    acyclic import graph (numbered topologically) with any number of packages and importers. -/
theorem import_once_before_use_dfs (P : Prog) (hT : Topo P) (imp : Mod → Bool) (pre : List Mod) (main : Nat)
    (calls : List (Nat × Use))
    (hok : ∀ p ∈ initOrder P main, PkgOk P imp p)
    (hpy : needPyInit P (initOrder P main) = true) (hcalls : callsOk P (initOrder P main) calls = true) :
    ∃ s, run P imp pre (initOrder P main) calls = .ok s ∧ GuardOk P pre (initOrder P main) s.trace :=
  import_once_before_use P imp pre _ calls (initOrder_consistent P hT main).1 hok hpy hcalls

/-- the reading of `before_use` for a call: everything it needs happened strictly earlier -/
theorem call_after_import_and_load {pre : List Mod} {t : List Ev} (h : Safe pre t)
    {l₁ l₂ : List Ev} {p : Nat} {y : Sym} (e : t = l₁ ++ Ev.call p y :: l₂) :
    Ev.pyInit ∈ l₁ ∧ Imported y.1 l₁ ∧ Live pre y.1 l₁ ∧ Loaded y l₁ := h l₁ _ l₂ e

/-- the reading of `before_use` for a Python variable read -/
theorem var_after_import {pre : List Mod} {t : List Ev} (h : Safe pre t)
    {l₁ l₂ : List Ev} {p : Nat} {y : Sym} (e : t = l₁ ++ Ev.getVar p y :: l₂) :
    Ev.pyInit ∈ l₁ ∧ Imported y.1 l₁ ∧ Live pre y.1 l₁ := h l₁ _ l₂ e

/-- modules 0,1; packages: 0 and 1 both bind module 0, 2 binds module 1, 3 and 4 are users, 5 = main -/
def exProg : Prog := ofList [
  { binds := some 0 }, { binds := some 0 }, { binds := some 1 },
  { imports := [1, 2], initUses := [.call (0, 0)], uses := [.call (1, 0), .var (0, 1)], loads := [(0, 0), (1, 0)] },
  { imports := [0], uses := [.call (0, 0), .explicitImport 1], loads := [(0, 0)] },
  { imports := [3, 4, 2], initUses := [.explicitImport 0], uses := [.var (1, 7)], intrinsics := true }]

example : checkB exProg (fun _ => true) [1, 2, 3, 0, 4, 5]
    [(5, .var (1, 7)), (3, .call (1, 0)), (4, .explicitImport 1), (4, .call (0, 0)), (3, .var (0, 1))] = true := by
  decide

example : Topo exProg := by
  intro p
  match p with
  | 0 | 1 | 2 | 3 | 4 | 5 => decide
  | n+6 => intro q h; cases h

example : initOrder exProg 5 = [1, 2, 3, 0, 4, 5] := by decide

/-- the guard statement without the hypothesis that an ordinary package needs the interpreter -/
def GuardFullWithoutPyInit : Prop :=
  ∀ (P : Prog) (imp : Mod → Bool) (pre : List Mod) (order : List Nat) (calls : List (Nat × Use)),
    Consistent P order → (∀ p ∈ order, PkgOk P imp p) → callsOk P order calls = true →
    ∃ s, run P imp pre order calls = .ok s ∧ GuardOk P pre order s.trace

/-- the guard statement without the hypothesis that binding packages are declaration-only -/
def GuardFullWithoutDeclOnly : Prop :=
  ∀ (P : Prog) (imp : Mod → Bool) (pre : List Mod) (order : List Nat) (calls : List (Nat × Use)),
    Consistent P order →
    (∀ p ∈ order, scopedPkg P p = true ∧ boundImportable P imp p = true ∧ loadsOkPkg P p = true) →
    needPyInit P order = true → callsOk P order calls = true →
    ∃ s, run P imp pre order calls = .ok s ∧ GuardOk P pre order s.trace

/-- program: a binding package and a `main` that imports it but uses nothing of Python itself
    (`import _ "…/binding"`): under `needPyInit` (ordinary packages only) the entry function has no
    `Py_Initialize`, and the import in the binding package's `init` hits an uninitialised interpreter. -/
def cexNoPyInit : Prog := ofList [{ binds := some 0 }, { imports := [0] }]

theorem cexNoPyInit_fails : run cexNoPyInit (fun _ => true) [] [0, 1] [] = .error .notInitialized := by rfl

theorem guard_full_without_pyinit_counterexample : ¬ GuardFullWithoutPyInit := by
  intro h
  have hc : Consistent cexNoPyInit [0, 1] := consistent_of_B (by decide)
  have hok : ∀ p ∈ [0, 1], PkgOk cexNoPyInit (fun _ => true) p := pkgOk_of_B (by decide)
  obtain ⟨s, hs, _⟩ := h cexNoPyInit (fun _ => true) [] [0, 1] [] hc hok (by decide)
  rw [cexNoPyInit_fails] at hs
  cases hs

/-- program: a binding package with a Go helper that calls its own Python function (`func Helper(x) =
    F(x)`), a `main` that calls `Helper` and reads a Python variable of the module (so `Py_Initialize` is
    there): no package loads the symbol variable of `F` (`AfterInit` is skipped for binding packages),
    the call goes through NULL. -/
def cexHelper : Prog := ofList [
  { binds := some 0, uses := [.call (0, 0)] },
  { imports := [0], uses := [.var (0, 1)] }]

theorem cexHelper_fails :
    run cexHelper (fun _ => true) [] [0, 1] [(0, .call (0, 0))] = .error (.nilSym (0, 0)) := by rfl

theorem guard_full_without_declonly_counterexample : ¬ GuardFullWithoutDeclOnly := by
  intro h
  have hc : Consistent cexHelper [0, 1] := consistent_of_B (by decide)
  obtain ⟨s, hs, _⟩ := h cexHelper (fun _ => true) [] [0, 1] [(0, .call (0, 0))] hc
    (by decide) (by decide) (by decide)
  rw [cexHelper_fails] at hs
  cases hs

/-! ## Which symbols a package loads, and how (ssa/python.go `pyLoadModSyms`, cl/compile.go rounds)

`import_once_before_use` takes the list of `llgoLoadPyModSyms` pairs of a package as given (`Pkg.loads`) and
ASSUMES it covers the functions the package calls (`loadsOkPkg`).  The theorems below are about the compiler
code that produces that list — for arbitrary dotted module names (a module and its submodules used side by
side) and arbitrary compile rounds (bodies that exist only because another body mentions them).  The sorted order
enters none of the statements: they are about the SET of emitted pairs (`mem_sortNames` is all that is used of
`sortNames`); what the order does to the grouping is shown by the example on `exNames`. -/

/-- **Symbol loads are exact.**  For EVERY set of symbol names `pyLoadModSyms` accepts: each emitted pair
    `(attr, &var)` of a call on module variable `M` satisfies `var = M.attr` with a dot-free `attr` — the C helper's
    `PyObject_GetAttrString(M, attr)` is the plain attribute lookup CPython itself performs for `M.attr`, on the
    module the name says (never the parent of a submodule) — the variable is one of the package's symbols, and
    every symbol of the package is in some call. -/
theorem loadSyms_exact (pyobjs : List Name) (calls : List LoadCall) (h : pyLoadModSyms pyobjs = some calls) :
    (∀ c ∈ calls, ∀ p ∈ c.pairs, p.2 = c.modVar ++ '.' :: p.1 ∧ '.' ∉ p.1 ∧ p.2 ∈ pyobjs) ∧
    (∀ n ∈ pyobjs, ∃ c ∈ calls, ∃ attr, (attr, n) ∈ c.pairs) := by
  rw [pyLoadModSyms_eq, Option.map_eq_some_iff] at h
  obtain ⟨acc, hf, rfl⟩ := h
  obtain ⟨h1, h2⟩ := group_fold_exact _ acc hf
  exact ⟨fun c hc p hp => (h1 c hc p hp).imp_right (.imp_right mem_sortNames.1), fun n hn => h2 n (mem_sortNames.2 hn)⟩

theorem loadSyms_total_of_modOf (pyobjs : List Name) (h : ∀ n ∈ pyobjs, (modOf n).isSome = true) :
    (pyLoadModSyms pyobjs).isSome = true := by
  rw [pyLoadModSyms_eq, Option.isSome_map]
  exact group_fold_total (sortNames pyobjs) {} fun n hn => h n (mem_sortNames.1 hn)

/-- `pyLoadModSyms` does not panic on llgo's names: each is `__llgo_py.<module>.<attr>`, in particular
    `<non-empty prefix>.<rest>` -/
theorem loadSyms_total (pyobjs : List Name) (h : ∀ n ∈ pyobjs, ∃ p r, p ≠ [] ∧ n = p ++ '.' :: r) :
    (pyLoadModSyms pyobjs).isSome = true :=
  loadSyms_total_of_modOf pyobjs fun n hn => by
    obtain ⟨p, r, hp, e⟩ := h n hn
    rw [e]; exact modOf_isSome_of_dotted p r hp

/-- a module, its submodule and a sibling with the same textual prefix, with symbols of the parent before AND
    after the submodule's in sorted order (`os.getcwd < os.path.join < os.uname < oss.f`) -/
def exNames : List Name :=
  ["__llgo_py.os.uname".toList, "__llgo_py.os.path.join".toList, "__llgo_py.oss.f".toList, "__llgo_py.os.getcwd".toList]

example : (pyLoadModSyms exNames).isSome = true :=
  loadSyms_total exNames (by
    intro n hn
    refine ⟨"__llgo_py".toList, n.drop 10, ?_, ?_⟩
    · simp only [String.reduceToList]
      exact List.cons_ne_nil _ _
    · simp only [exNames, String.reduceToList, List.mem_cons, List.not_mem_nil, or_false] at hn ⊢
      rcases hn with h | h | h | h <;> rw [h] <;> rfl)

example : pyLoadModSyms exNames = some [
    ⟨"__llgo_py.os".toList, [("getcwd".toList, "__llgo_py.os.getcwd".toList), ("uname".toList, "__llgo_py.os.uname".toList)]⟩,
    ⟨"__llgo_py.os.path".toList, [("join".toList, "__llgo_py.os.path.join".toList)]⟩,
    ⟨"__llgo_py.os".toList, [("getcwd".toList, "__llgo_py.os.getcwd".toList), ("uname".toList, "__llgo_py.os.uname".toList)]⟩,
    ⟨"__llgo_py.oss".toList, [("f".toList, "__llgo_py.oss.f".toList)]⟩] := by
  -- `String.reduceToList` turns the literals into character lists first, so that `decide` does not evaluate `String.toList` on them
  simp only [exNames, String.reduceToList]
  decide

/-- `loadSyms_exact` for `Package.AfterInit` (which emits nothing for a package without Python symbols) -/
theorem afterInit_exact (pyobjs : List Name) (calls : List LoadCall) (h : afterInit pyobjs = some calls) :
    (∀ c ∈ calls, ∀ p ∈ c.pairs, p.2 = c.modVar ++ '.' :: p.1 ∧ '.' ∉ p.1 ∧ p.2 ∈ pyobjs) ∧
    (∀ n ∈ pyobjs, ∃ c ∈ calls, ∃ attr, (attr, n) ∈ c.pairs) := by
  unfold afterInit at h
  split at h
  · next he =>
    cases h
    rw [List.isEmpty_iff.1 he]
    exact ⟨fun _ hc => (nomatch hc), fun _ hn => (nomatch hn)⟩
  · exact loadSyms_exact pyobjs calls h

/-- **Every round counts.**  For EVERY package (any bodies, any "this body makes that body exist" relation, any
    number of rounds): when `NewPackageEx` is done, the symbol loads emitted into `init` contain — as an exact
    pair, see `loadSyms_exact` — every Python function mentioned by ANY compiled body, whether the body was
    queued by `processPkg` or came into existence in a later round (generic instances, wrappers), and nothing
    that no compiled body mentions. -/
theorem package_loads_cover_every_round (B : Nat → Body) (roots : List Nat) (fuel : Nat) (calls : List LoadCall)
    (h : newPackageLoads B roots fuel = some (some calls)) :
    (∀ i, Reach B roots i → ∀ n ∈ (B i).pyRefs,
      ∃ c ∈ calls, ∃ attr, (attr, n) ∈ c.pairs ∧ n = c.modVar ++ '.' :: attr ∧ '.' ∉ attr) ∧
    (∀ c ∈ calls, ∀ p ∈ c.pairs, ∃ i, Reach B roots i ∧ p.2 ∈ (B i).pyRefs) := by
  unfold newPackageLoads at h
  cases hr : rounds B fuel (roots.foldl enqueue {}) with
  | none => simp [hr] at h
  | some st =>
    simp only [hr] at h
    injection h with h
    obtain ⟨h1, h2⟩ := afterInit_exact st.pyobjs calls h
    constructor
    · intro i hi n hn
      obtain ⟨c, hc, attr, hp⟩ := h2 n ((rounds_pyobjs hr n).2 ⟨i, hi, hn⟩)
      obtain ⟨e1, e2, _⟩ := h1 c hc (attr, n) hp
      exact ⟨c, hc, attr, hp, e1, e2⟩
    · intro c hc p hp
      exact (rounds_pyobjs hr p.2).1 (h1 c hc p hp).2.2

/-- a plain function (0) mentions `m.f` and instantiates a generic (1) that mentions `m.sub.g` and instantiates
    another generic (2, third round) that mentions `m.h`; body 3 is never referred to -/
def exBodies : Nat → Body
  | 0 => { pyRefs := ["__llgo_py.m.f".toList], spawns := [1] }
  | 1 => { pyRefs := ["__llgo_py.m.sub.g".toList], spawns := [2, 1] }
  | 2 => { pyRefs := ["__llgo_py.m.h".toList] }
  | _ => { pyRefs := ["__llgo_py.m.unused".toList] }

example : newPackageLoads exBodies [0] 4 = some (some [
    ⟨"__llgo_py.m".toList, [("f".toList, "__llgo_py.m.f".toList), ("h".toList, "__llgo_py.m.h".toList)]⟩,
    ⟨"__llgo_py.m.sub".toList, [("g".toList, "__llgo_py.m.sub.g".toList)]⟩]) := by
  unfold exBodies
  simp only [String.reduceToList]
  decide

/-- **The interpreter is started whatever the cache holds.**  For EVERY content of the cache directory and every
    program: if some compiled (ordinary or binding) package needs the interpreter, `linkMainPkg` asks for
    `Py_Initialize` — `buildOne` takes the flag from the package compiled NOW, hit or miss. -/
theorem pyInit_whatever_the_cache (c : Cache) (pkgs : List BPkg) (h : progNeedsPy pkgs = true) :
    (build c pkgs).2.pyInit = true := by
  simp only [build, linkMain]
  exact buildAll_needPy pkgs c h

/-- **… in every build of every history.**  Successive builds (the same program rebuilt with a warm cache,
    edited, other programs sharing packages …) over one cache directory that starts in ANY state. -/
theorem pyInit_every_build_of_history : ∀ (hist : List (List BPkg)) (c : Cache),
    ∀ pe ∈ hist.zip (buildHistory c hist), progNeedsPy pe.1 = true → pe.2.pyInit = true := by
  intro hist c pe h hn
  obtain ⟨c', e⟩ := buildHistory_mem hist c pe h
  exact e ▸ pyInit_whatever_the_cache c' pe.1 hn

example : progNeedsPy [{ id := 0, needPy := true }, { id := 1, isMain := true }] = true := by decide

/-- a helper package that needs ONLY the interpreter (no runtime, no link arguments) and a `main` that does
    not: cold build, warm rebuild, rebuild after the helper's manifest lost its metadata section -/
example : buildHistory [((0, 7), none)]
    [[{ id := 0, fp := 5, needPy := true }, { id := 1, isMain := true }],
     [{ id := 0, fp := 5, needPy := true }, { id := 1, isMain := true }],
     [{ id := 0, fp := 7, needPy := true }, { id := 1, isMain := true }]] =
    [⟨false, true, []⟩, ⟨false, true, []⟩, ⟨false, true, []⟩] := by decide

/-- **What is stored comes back.**  `saveToCache` followed by `tryLoadFromCache` of the same (package,
    fingerprint) restores exactly the link arguments and both flags — in particular a package whose ONLY
    non-default property is `NeedPyInit` keeps it (the metadata section is dropped only when all three are
    default). -/
theorem cache_roundtrip (c : Cache) (k : BPkg) (a a0 : APkg) (hm : k.isMain = false) :
    tryLoadFromCache (saveToCache c k a) k a0 =
      { a0 with linkArgs := a.linkArgs, needRt := a.needRt, needPyInit := a.needPyInit, cacheHit := true } := by
  unfold tryLoadFromCache
  rw [lookup_saved c k a hm]
  simp only [metaOf_getD]

example : tryLoadFromCache (saveToCache [] { id := 3, fp := 9 } { needPyInit := true }) { id := 3, fp := 9 } {} =
    { needPyInit := true, cacheHit := true } := by decide

/-- a hit restores the flags `buildOne` recomputes.  Ordinary packages only: for a binding package `needRt` is restored
    and not recomputed; `restored_flags` (`Lemmas/PyCache.lean`) is the statement for every kind. -/
theorem restored_flags_agree (F : Nat × Nat → Bool × Bool) (c : Cache) (k : BPkg) (h : CacheOk F c)
    (hk : k.kind = .ordinary) (hd : Describes F k) (hit : (tryLoadFromCache c k {}).cacheHit = true) :
    (tryLoadFromCache c k {}).needRt = k.needRt ∧ (tryLoadFromCache c k {}).needPyInit = k.needPy := by
  unfold Describes at hd
  rw [hk] at hd
  exact Prod.mk.inj ((restored_flags k h hit).trans hd)

/-- **The cache stays truthful.**  If every entry of the cache carries the flags compiling that (package,
    fingerprint) yields (`F`), a build of packages described by `F` leaves such a cache — so the flags a hit
    restores always equal the flags `buildOne` recomputes (`restored_flags_agree`), build after build. -/
theorem cache_stays_truthful (F : Nat × Nat → Bool × Bool) (c : Cache) (pkgs : List BPkg) (h : CacheOk F c)
    (hd : ∀ k ∈ pkgs, Describes F k) : CacheOk F (build c pkgs).1 :=
  buildAll_cacheOk pkgs c h hd

example : CacheOk (fun _ => (false, true)) [((0, 5), some { needPyInit := true })] := by
  intro key md h
  simp only [List.lookup_cons, List.lookup_nil] at h
  split at h
  · injection h with h; subst h; exact ⟨rfl, rfl⟩
  · cases h

example : Describes (fun _ => (false, true)) { id := 0, fp := 5, needPy := true } := rfl

example : (tryLoadFromCache [((0, 5), some { needPyInit := true })] { id := 0, fp := 5, needPy := true } {}).cacheHit = true := by
  decide

/-- CPython's convention: a NULL among the arguments ends the list (a nil `*py.Object`
    passed from Go silently drops itself and everything after it). -/
theorem null_arg_truncates {α : Type} (fn : α) (l : List α) (r : List (Option α)) :
    (CCall.objArgs fn (l.map some ++ none :: r)).received = l := by
  have h : ∀ a ∈ l.map some, Option.isSome a = true := fun a ha => by
    obtain ⟨x, _, rfl⟩ := List.mem_map.1 ha; rfl
  rw [CCall.received, List.takeWhile_append_of_pos h, List.takeWhile_cons_of_neg Bool.false_ne_true,
    List.append_nil, List.filterMap_map]
  exact List.filterMap_some

/-- **Calls.**  For every arity and every argument list: the callable that `pyCall`'s C call invokes is
    the loaded symbol, and the positional arguments CPython hands to it are exactly the Go arguments, in
    source order.  (`nparams` = declared parameters; a variadic Python function is declared with a final
    `__llgo_va_list ...any`, so `nparams ≥ 1` and the call site has any number of arguments.) -/
theorem args_in_order {α : Type} (nparams : Nat) (variadic : Bool) (fn : α) (args : List α)
    (hwt : if variadic then 1 ≤ nparams else args.length = nparams) :
    ∃ c, pyCall nparams variadic fn args = some c ∧ c.received = args ∧ c.callee = fn := by
  match nparams, variadic, hwt with
  | 0, false, h =>
    simp only [Bool.false_eq_true, if_false, List.length_eq_zero_iff] at h
    subst h
    exact ⟨_, rfl, rfl, rfl⟩
  | 0, true, h => simp at h
  | 1, false, h =>
    simp only [Bool.false_eq_true, if_false] at h
    match args, h with
    | [a], _ => exact ⟨_, rfl, rfl, rfl⟩
  | 1, true, _ => exact ⟨_, rfl, null_arg_truncates fn args [], rfl⟩
  | n+2, _, _ => exact ⟨_, rfl, null_arg_truncates fn args [], rfl⟩

example : (if true then 1 ≤ 1 else [10, 20, 30].length = 1) := by decide
example : pyCall 3 false "f" ["a", "b", "c"] = some (.objArgs "f" [some "a", some "b", some "c", none]) := rfl

/-- **`py.Tuple` / `py.List`.**  `New(n)` followed by `SetItem(i, PyVal(argᵢ))` for `i = 0 … n-1` fills every
    slot, and slot `i` holds the converted `i`-th argument — for every `n`. -/
theorem seq_in_order {α β : Type} (conv : α → β) (args : List α) :
    buildSeq conv args = args.map (fun a => some (conv a)) := by
  have := buildSeq_aux conv args []
  rw [List.map_nil, List.nil_append, List.nil_append, List.map_map] at this
  exact this

theorem seq_complete {α β : Type} (conv : α → β) (args : List α) :
    (buildSeq conv args).length = args.length ∧ none ∉ buildSeq conv args := by
  rw [seq_in_order]; simp

/-! ## Values

`PyVal`'s only own decisions are the extension of narrow integers (signed kinds are sign-extended, unsigned
kinds zero-extended to 64 bits) — these two are real statements about `ssa/python.go`.  The round trips
below are identities by construction of the model (CPython's conversion functions are modelled as exact);
they are stated so that the claim is explicit, and carry no information about CPython. -/

theorem pyVal_int_exact (w : Nat) (hw : w ≤ 64) (v : BitVec w) : pyVal (.int w v) = .long v.toInt := by
  simp only [pyVal, BitVec.toInt_signExtend_of_le hw]

theorem pyVal_uint_exact (w : Nat) (hw : w ≤ 64) (v : BitVec w) : pyVal (.uint w v) = .long v.toNat := by
  simp only [pyVal, BitVec.toNat_setWidth]
  have h1 : v.toNat < 2 ^ w := v.isLt
  have h2 : 2 ^ w ≤ 2 ^ 64 := Nat.pow_le_pow_right (by omega) hw
  rw [Nat.mod_eq_of_lt (by omega)]

theorem roundtrip_int_model (w : Nat) (hw : w ≤ 64) (v : BitVec w) :
    asInt64 (pyVal (.int w v)) = some (v.signExtend 64) := by
  rw [pyVal_int_exact w hw]
  have h1 := BitVec.le_toInt v
  have h2 := @BitVec.toInt_lt w v
  have hp : (2 : Int) ^ (w - 1) ≤ 2 ^ 63 := by
    exact_mod_cast Nat.pow_le_pow_right (n := 2) (by omega) (show w - 1 ≤ 63 by omega)
  simp only [asInt64]
  rw [if_pos ⟨by omega, by omega⟩]
  rfl

theorem roundtrip_uint_model (w : Nat) (hw : w ≤ 64) (v : BitVec w) :
    asUint64 (pyVal (.uint w v)) = some (v.setWidth 64) := by
  rw [pyVal_uint_exact w hw]
  have h1 : v.toNat < 2 ^ w := v.isLt
  have h2 : 2 ^ w ≤ 2 ^ 64 := Nat.pow_le_pow_right (by omega) hw
  simp only [asUint64]
  rw [if_pos ⟨by omega, by omega⟩]
  simp

theorem roundtrip_int64_model (v : BitVec 64) : asInt64 (pyVal (.int 64 v)) = some v := by
  rw [roundtrip_int_model 64 (Nat.le_refl _), BitVec.signExtend_eq]

theorem roundtrip_uint64_model (v : BitVec 64) : asUint64 (pyVal (.uint 64 v)) = some v := by
  rw [roundtrip_uint_model 64 (Nat.le_refl _), BitVec.setWidth_eq]

theorem roundtrip_float64_model (b : BitVec 64) : asFloat64 (pyVal (.f64 b)) = some b := rfl

end LlgoVerif.PyGuard
