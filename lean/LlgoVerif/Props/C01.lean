import LlgoVerif.Lemmas.CoreGo
import LlgoVerif.Lemmas.OrderFix
import LlgoVerif.Lemmas.Blocks
import LlgoVerif.Lemmas.IfaceEq
import LlgoVerif.Lemmas.StrRange
import LlgoVerif.Lemmas.TypeCvt
import LlgoVerif.Model.EfaceEq
/-!
# C01 — compiled programs behave as the Go language specifies (core language)

The property itself ("for every program of the fragment, the executable llgo produces behaves like the reference
semantics") would be compiler correctness; it is NOT proved.  It is checked by translation validation: generated programs
are run through llgo (-O0, -O2, 1–4 packages), through the reference Go toolchain and through the reference evaluator
`CoreGo.run` (checks/c01.py).  The theorems below are about the oracle (the fuel-indexed evaluator has at most one finished
result per program, whatever the fuel: "the" reference output exists) and about self-contained pieces of llgo: the
operand-order fix-up of `internal/build/ssa_order_fix.go`, the validator the check runs on the real output of `cl/blocks`,
the type lowering of `ssa/type_cvt.go`, `EfaceEqual` / `nilinterequal`, `for range` over a string.
-/
namespace LlgoVerif.C01
open LlgoVerif.CoreGo LlgoVerif.OrderFix LlgoVerif.Blocks LlgoVerif.TypeCvt LlgoVerif.EfaceEq

/-- more fuel never changes a finished result: for every task (expression, statement, loop, call), state and fuel -/
theorem eval_fuel_mono (P : Program) {n m : Nat} (h : n ≤ m) (t : Task) (s : State) (r : RawRes) :
    eval P n t s = some r → eval P m t s = some r :=
  eval_le_extends P h t s r

/-- two finished evaluations of the same task from the same state agree, whatever fuel each was given -/
theorem eval_deterministic (P : Program) (n m : Nat) (t : Task) (s : State) (r₁ r₂ : RawRes)
    (h₁ : eval P n t s = some r₁) (h₂ : eval P m t s = some r₂) : r₁ = r₂ :=
  det_of_fuel_mono (f := fun k => eval P k t s) (fun _ _ h r => eval_fuel_mono P h t s r) h₁ h₂

/-- whole programs: output and termination kind do not depend on the fuel once the run finishes -/
theorem run_fuel_mono (P : Program) {n m : Nat} (h : n ≤ m) (o : Except String Outcome) :
    run P n = some o → run P m = some o := by
  unfold run
  intro hn
  cases hr : eval P n (initTask P) {} with
  | none => rw [hr] at hn; cases hn
  | some r => rw [eval_fuel_mono P h _ _ r hr]; rw [hr] at hn; exact hn

theorem run_deterministic (P : Program) (n m : Nat) (o₁ o₂ : Except String Outcome)
    (h₁ : run P n = some o₁) (h₂ : run P m = some o₂) : o₁ = o₂ :=
  det_of_fuel_mono (fun _ _ h o => run_fuel_mono P h o) h₁ h₂

theorem eval_zero (P : Program) (t : Task) (s : State) : eval P 0 t s = none := rfl

/-- `func main() { if int8(100)+int8(100) < int8(0) { println("ok") } }` prints `ok` and terminates normally -/
def demo : Program :=
  { types := #[], methods := [], rbodies := #[], globals := [], main := 0,
    funcs := #[{ name := "main", params := [], results := [], resultInit := [],
                 body := [.ite [] (.bin .lt (.bin .add (.intLit .i8 100) (.intLit .i8 100)) (.intLit .i8 0))
                            [.print true [.strLit [111, 107]]] []] }] }

def finished (r : Option (Except String Outcome)) : Option Outcome :=
  match r with
  | some (.ok o) => some o
  | _ => none

example : finished (run demo 10) = some ⟨#[111, 107, 10], .normal⟩ := by decide
example : run demo 3 = none := by decide

def sideEffect (i : Instr) : Bool :=
  match i.kind with
  | .call _ | .store _ | .effect | .ret => true
  | _ => false

/-- the pass only performs permitted moves: each move delays a load of a local alloc that is a result of the block's
    `Return` past instructions that neither store through that alloc nor use the loaded value -/
theorem fixOrder_moves (b : List Instr) : Steps (retResults b) b (fixBlock b) := fixBlock_steps b

theorem fixOrder_perm (b : List Instr) : (fixBlock b).Perm b := (fixBlock_steps b).perm

/-- only the designated loads move: with them removed, the block is unchanged -/
theorem fixOrder_others_fixed (b : List Instr) :
    (fixBlock b).filter (fun i => !designated (retResults b) i) = b.filter (fun i => !designated (retResults b) i) :=
  (fixBlock_steps b).filter_eq _ (by intro i h; simp [h])

/-- no two side-effecting instructions change their relative order -/
theorem fixOrder_effects (b : List Instr) : (fixBlock b).filter sideEffect = b.filter sideEffect :=
  (fixBlock_steps b).filter_eq _ fun i h => by
    unfold designated at h
    split at h
    · rename_i hk
      simp only [sideEffect, hk]
    · cases h

/-- every value is still defined before it is used (in particular every moved load still precedes its use) -/
theorem fixOrder_def_before_use (b : List Instr) (h : DefBeforeUse b) : DefBeforeUse (fixBlock b) :=
  (fixBlock_steps b).defBeforeUse h

/-- for ALL blocks: the pass performs only permitted moves (last conjunct, `fixOrder_moves`); the other four hold of every
    sequence of permitted moves -/
theorem fixOrder_safe (b : List Instr) :
    (fixBlock b).Perm b ∧
    (fixBlock b).filter (fun i => !designated (retResults b) i) = b.filter (fun i => !designated (retResults b) i) ∧
    (fixBlock b).filter sideEffect = b.filter sideEffect ∧
    (DefBeforeUse b → DefBeforeUse (fixBlock b)) ∧
    Steps (retResults b) b (fixBlock b) :=
  ⟨fixOrder_perm b, fixOrder_others_fixed b, fixOrder_effects b, fixOrder_def_before_use b, fixOrder_moves b⟩

/-- `var o T; return o, o.mutate()`: go/ssa emits  t1 = *o ; t2 = call mutate(o) ; return t1, t2.  The pass delays t1. -/
def demoBlock : List Instr :=
  [⟨0, .pure, []⟩, ⟨1, .load 0, [0]⟩, ⟨2, .call [0], [0]⟩, ⟨3, .ret, [1, 2]⟩]

example : (fixBlock demoBlock).map (·.id) = [0, 2, 1, 3] := by decide
example : DefBeforeUse demoBlock := by unfold DefBeforeUse demoBlock; decide
/-- a store to the alloc between load and return blocks the move -/
example : fixBlock [⟨0, .pure, []⟩, ⟨1, .load 0, [0]⟩, ⟨2, .call [0], [0]⟩, ⟨4, .store [0], [0]⟩, ⟨3, .ret, [1, 2]⟩]
    = [⟨0, .pure, []⟩, ⟨1, .load 0, [0]⟩, ⟨2, .call [0], [0]⟩, ⟨4, .store [0], [0]⟩, ⟨3, .ret, [1, 2]⟩] := by decide

/-! ## `cl/blocks` : block kinds and compilation order (validated output, see Model/Blocks.lean)

`blocks.Infos` itself is not modelled; what IS proved: the executable reachability closure decides paths, the blocks the
specification calls *always* are visited exactly once by every complete execution path, and every output the validator
`checkInfos` accepts (the check runs it on the REAL output for every generated function) has a compilation order that is a
permutation of the blocks, marks exactly the blocks lying on a cycle as *loop*, and marks only such once-visited blocks
as *always*. -/

/-- the executable reachability answer is the truth: `b` is reachable from `a` by a non-empty path iff it says so -/
theorem blocks_reach_spec (g : CFG) (a b : Nat) (r : Bool) (h : reaches? g a b = some r) : r = true ↔ Reach g a b :=
  reaches_spec h

/-- a block the specification calls *always* (the entry nothing jumps back to; the unique exit) is visited exactly once
    by every complete execution path of a well-formed graph -/
theorem blocks_always_once (g : CFG) (hwf : wellFormed g = true) (b : Nat) (h : alwaysSpec g b = true) :
    AlwaysOnce g b :=
  always_once (wf_of_wellFormed hwf) h

/-- soundness of the validator, for every graph and every claimed output -/
theorem blocks_check_sound (g : CFG) (infos : List Info) (h : checkInfos g infos = true) :
    (orderOf infos (g.length + 1) 0).Perm (List.range g.length) ∧
    ∀ b, b < g.length → ∃ i, infos[b]? = some i ∧
      (i.kind = .loop ↔ Reach g b b) ∧ (i.kind = .always → AlwaysOnce g b) := by
  obtain ⟨hwf, hperm, hk⟩ := checkInfos_sound h
  refine ⟨hperm, fun b hb => ?_⟩
  obtain ⟨i, hi, hs⟩ := hk b hb
  exact ⟨i, hi, (specKind_spec hs).1, fun ha => always_once hwf ((specKind_spec hs).2 ha)⟩

/-- `for i := 0; i < n; i++ { … }; return` : entry 0 → header 1 → body 2 → 1, header → exit 3 -/
def loopCFG : CFG := [⟨[1], 0⟩, ⟨[2, 3], 2⟩, ⟨[1], 1⟩, ⟨[], 1⟩]

example : checkInfos loopCFG [⟨.always, some 1⟩, ⟨.loop, some 2⟩, ⟨.loop, some 3⟩, ⟨.always, none⟩] = true := by decide
/-- calling the loop body *cond* is rejected -/
example : checkInfos loopCFG [⟨.always, some 1⟩, ⟨.loop, some 2⟩, ⟨.cond, some 3⟩, ⟨.always, none⟩] = false := by decide
/-- an order that skips a block is rejected -/
example : checkInfos loopCFG [⟨.always, some 1⟩, ⟨.loop, some 3⟩, ⟨.loop, some 3⟩, ⟨.always, none⟩] = false := by decide

/-- an interface value compared with itself (`x == x`, or with a copy `y := x`): a run-time panic iff the dynamic value
    is not comparable (a slice, a func, or a struct / array / interface around one); otherwise `true` iff no NaN takes
    part in the comparison — for EVERY dynamic type and value -/
theorem iface_eq_self (t : Ty) (v : Val) :
    binop .eq (.iface (some (t, v))) (.iface (some (t, v))) =
      if Val.uncomparable v then .error (rtPanic "comparing uncomparable type") else .ok (.bool (!Val.hasNaN v)) := by
  rw [binop_eq_iface_same]
  cases h : Val.uncomparable v with
  | true => rfl
  | false => rw [beq_self v h]

theorem iface_ne_self (t : Ty) (v : Val) :
    binop .ne (.iface (some (t, v))) (.iface (some (t, v))) =
      if Val.uncomparable v then .error (rtPanic "comparing uncomparable type") else .ok (.bool (Val.hasNaN v)) := by
  rw [binop_ne_iface_same]
  cases h : Val.uncomparable v with
  | true => rfl
  | false => rw [beq_self v h, Bool.not_not]

/-- NaN is not equal to itself, however deep it sits: in the interface, in a struct, in an array inside it -/
example : binop .eq (.iface (some (.float, .float 0x7ff8000000000001))) (.iface (some (.float, .float 0x7ff8000000000001)))
    = .ok (.bool false) := by
  rw [iface_eq_self]; rfl
example : (Val.struct [.int .int 1, .arr [.float 0x3ff8000000000000, .float 0x7ff8000000000001]]).hasNaN = true := by decide
example : Val.uncomparable (.struct [.int .int 1, .slice none 0 0 0]) = true := by decide

/-- **`EfaceEqual` implements Go's interface comparison**: for all operands, whenever the descriptor of the left
    operand is as the compiler owes it (`DescOK`), the routine answers — value, or panic — what the specification says -/
theorem efaceEqual_refines {α : Type} (R : ValRepr α) (equal : EqFn) (v u : Eface)
    (h : ∀ d, v.typ = some d → DescOK R equal d) : efaceEqual equal v u = specEq R v u := by
  unfold efaceEqual specEq
  cases hv : v.typ with
  | none => cases u.typ <;> rfl
  | some tv =>
    cases hu : u.typ with
    | none => rfl
    | some tu =>
      have ok := h tv hv
      simp only
      by_cases ht : tv.tid = tu.tid
      · rw [if_neg (not_not_intro ht), if_neg (not_not_intro ht)]
        cases he : tv.hasEqual with
        | false => simp [ok.uncomparable he]
        | true =>
          cases hd : tv.direct with
          | true => simp [ok.direct he hd]
          | false => simp [ok.indirect he hd]
      · rw [if_pos ht, if_pos ht]

/-- the `Equal` function of `interface{}` descriptors is the same comparison (one descriptor per type identity) -/
theorem nilInterEqual_eq_efaceEqual (equal : EqFn) (v u : Eface) :
    nilInterEqual equal v u = efaceEqual equal v u := by
  obtain ⟨tv, dv⟩ := v
  obtain ⟨tu, du⟩ := u
  cases tv with
  | none => cases tu <;> rfl
  | some tv =>
    cases tu with
    | none => rfl
    | some tu =>
      simp only [nilInterEqual, efaceEqual, efaceeq, Option.map_some, Option.some.injEq, ne_eq, ite_not]

theorem efaceEqual_same_type {α : Type} (R : ValRepr α) (equal : EqFn) (d d' : Desc) (w w' : Nat) (ht : d.tid = d'.tid)
    (h : DescOK R equal d) : efaceEqual equal ⟨some d, w⟩ ⟨some d', w'⟩ = R.veq d.tid (R.val d.tid w) (R.val d.tid w') := by
  rw [efaceEqual_refines R equal _ _ (fun d'' (hd : some d = some d'') => Option.some.inj hd ▸ h)]
  simp [specEq, ht]

/-- an interface value compared with ITSELF: the answer is Go's `x == x` on the dynamic value — in particular not
    `true` when that is `false` (NaN inside) and not a value at all when the dynamic type is not comparable -/
theorem efaceEqual_self {α : Type} (R : ValRepr α) (equal : EqFn) (d : Desc) (w : Nat) (h : DescOK R equal d) :
    efaceEqual equal ⟨some d, w⟩ ⟨some d, w⟩ = R.veq d.tid (R.val d.tid w) (R.val d.tid w) :=
  efaceEqual_same_type R equal d d w w rfl h

/-- float64 boxed behind a pointer: the value is the bit pattern stored at the data word, `==` is IEEE equality -/
def f64Repr (mem : Nat → Nat) : ValRepr Nat :=
  { val := fun _ p => mem p, veq := fun _ a b => .ok (SoftFloat.cmp SoftFloat.f64 a b == .eq) }

def f64Desc : Desc := ⟨2, true, false⟩

def f64Equal (mem : Nat → Nat) : EqFn := fun _ p q => .ok (SoftFloat.cmp SoftFloat.f64 (mem p) (mem q) == .eq)

theorem f64Desc_ok (mem : Nat → Nat) : DescOK (f64Repr mem) (f64Equal mem) f64Desc :=
  ⟨nofun, fun _ => nofun, fun _ _ _ _ => rfl⟩

theorem efaceEqual_self_f64 (mem : Nat → Nat) (p : Nat) :
    efaceEqual (f64Equal mem) ⟨some f64Desc, p⟩ ⟨some f64Desc, p⟩ = .ok (!SoftFloat.isNaN SoftFloat.f64 (mem p)) := by
  rw [efaceEqual_self (f64Repr mem) _ _ _ (f64Desc_ok mem)]
  exact congrArg Except.ok (f64Eq_self _)

/-- the hypotheses are satisfiable, and "same data word ⇒ equal" is FALSE: an interface holding NaN is not equal to
    itself although both operands are one box -/
theorem efaceEqual_self_nan :
    efaceEqual (f64Equal (fun _ => 0x7ff8000000000001)) ⟨some f64Desc, 16⟩ ⟨some f64Desc, 16⟩ = .ok false :=
  efaceEqual_self_f64 _ 16

theorem efaceEqual_uncomparable (equal : EqFn) (d d' : Desc) (w w' : Nat) (ht : d.tid = d'.tid) (he : d.hasEqual = false) :
    efaceEqual equal ⟨some d, w⟩ ⟨some d', w'⟩ = .error () := by
  simp [efaceEqual, ht, he]

/-- a value of an uncomparable dynamic type compared with itself panics -/
theorem efaceEqual_self_uncomparable (equal : EqFn) (tid w : Nat) (direct : Bool) :
    efaceEqual equal ⟨some ⟨tid, false, direct⟩, w⟩ ⟨some ⟨tid, false, direct⟩, w⟩ = .error () :=
  efaceEqual_uncomparable equal _ _ w w rfl rfl

/-- the reference semantics' `==` as a value representation of the run-time model (a `Val` carries its own shape, so `veq`
    needs no type identity) -/
def coreRepr (val : Nat → Nat → Val) : ValRepr Val :=
  { val := val, veq := fun _ a b => if Val.uncomparable a then .error () else .ok (Val.beq a b) }

/-- the interface value an `eface` denotes -/
def boxOf (tyOf : Nat → Ty) (val : Nat → Nat → Val) (e : Eface) : Val :=
  .iface (e.typ.map (fun d => (tyOf d.tid, val d.tid e.data)))

/-- the two levels meet: what the evaluator computes for `a == b` on interface values is the specification the
    run-time routine is proved against (`specEq`), for every denotation of descriptors (injective on identities) and
    data words -/
theorem coreGo_iface_eq_is_specEq (tyOf : Nat → Ty) (hinj : ∀ a b, tyOf a = tyOf b → a = b) (val : Nat → Nat → Val)
    (v u : Eface) :
    binop .eq (boxOf tyOf val v) (boxOf tyOf val u) =
      (match specEq (coreRepr val) v u with
       | .ok b => .ok (.bool b)
       | .error _ => .error (rtPanic "comparing uncomparable type")) := by
  obtain ⟨tv, dv⟩ := v
  obtain ⟨tu, du⟩ := u
  cases tv with
  | none => cases tu <;> rfl
  | some tv =>
    cases tu with
    | none => rfl
    | some tu =>
      simp only [boxOf, specEq, coreRepr, Option.map_some]
      by_cases ht : tv.tid = tu.tid
      · rw [ht, binop_eq_iface_same, if_neg (not_not_intro rfl)]
        cases Val.uncomparable (val tu.tid dv) <;> rfl
      · rw [binop_eq_iface_diff fun h => ht (hinj _ _ h), if_pos ht]

/-- the evaluator's iteration is the enumeration the specification demands (left-to-right decoding, byte offsets), it is
    the only such enumeration, and its runes are `[]rune(s)` — C05's `Enumerates.spec` -/
theorem range_string_spec (s : List Nat) :
    Slice.Enumerates 0 s (runesOf s.length 0 s) ∧ (∀ l, Slice.Enumerates 0 s l → l = runesOf s.length 0 s) ∧
    (runesOf s.length 0 s).map (·.2) = Utf8.toRunes s :=
  (runesOf_enumerates s.length 0 s (Nat.le_refl _)).spec

/-- a byte that cannot start a well-formed encoding — a stray continuation byte `80..BF` (in particular `80` itself),
    the overlong leads `C0`/`C1`, `F5..FF` — is ONE rune U+FFFD of width 1 at its own index, whatever follows -/
theorem range_string_invalid_lead (fuel i b : Nat) (t : List Nat) (h : (0x80 ≤ b ∧ b < 0xC2) ∨ 0xF5 ≤ b) :
    runesOf (fuel + 1) i (b :: t) = (i, 0xFFFD) :: runesOf fuel (i + 1) t :=
  runesOf_invalid_lead fuel i b t h

theorem range_string_ascii (fuel i b : Nat) (t : List Nat) (h : b < 0x80) :
    runesOf (fuel + 1) i (b :: t) = (i, b) :: runesOf fuel (i + 1) t :=
  runesOf_ascii fuel i b t h

/-- "a\x80b": the stray continuation byte is U+FFFD (65533) at index 1, not rune 128 -/
example : runesOf 3 0 [0x61, 0x80, 0x62] = [(0, 0x61), (1, 0xFFFD), (2, 0x62)] := by decide
example : (0x80 ≤ 0x80 ∧ 0x80 < 0xC2) ∨ 0xF5 ≤ 0x80 := by decide

/-- **lossless**: whatever `cvtType` returns for a source type reads back (`unlower`: closure structs → func types, raw
    twins → their declarations) as exactly that source type — field names, order, embedded flags, tags, array lengths,
    channel directions, variadic-ness included; an answer flagged unchanged (`r.1.2 = false`) is the type itself -/
theorem lowering_lossless (D : Decls) (hD : SrcDecls D) (fuel : Nat) (t : GTy) (m : Memo) (r : (GTy × Bool) × Memo)
    (hs : isSrc t = true) (hm : MemoOK D m) (h : cvt D fuel t m = some r) :
    unlower r.1.1 = t ∧ (r.1.2 = false → r.1.1 = t) ∧ MemoOK D r.2 :=
  have g := (cvt_ok hD fuel t m hs hm).of_eq h
  ⟨g.readsBack, g.same, g.memoOK⟩

/-- the lowering is injective on source types: two source types with the same lowered type are the same type (for
    any fuels and memo tables) — nothing the type identity depends on is dropped -/
theorem lowering_injective (D : Decls) (hD : SrcDecls D) (f₁ f₂ : Nat) (t₁ t₂ : GTy) (m₁ m₂ : Memo)
    (r₁ r₂ : (GTy × Bool) × Memo) (h₁s : isSrc t₁ = true) (h₂s : isSrc t₂ = true) (hm₁ : MemoOK D m₁) (hm₂ : MemoOK D m₂)
    (h₁ : cvt D f₁ t₁ m₁ = some r₁) (h₂ : cvt D f₂ t₂ m₂ = some r₂) (he : r₁.1.1 = r₂.1.1) : t₁ = t₂ := by
  rw [← ((cvt_ok hD f₁ t₁ m₁ h₁s hm₁).of_eq h₁).readsBack, ← ((cvt_ok hD f₂ t₂ m₂ h₂s hm₂).of_eq h₂).readsBack, he]

/-- a lowered struct has the fields of the source struct: same number and order, same names, embedded flags, tags and
    (up to the raw twin) the same embedded type heads -/
theorem lowering_keeps_fields (D : Decls) (hD : SrcDecls D) (fuel : Nat) (t : GTy) (m : Memo) (r : (GTy × Bool) × Memo)
    (hs : isSrc t = true) (hm : MemoOK D m) (h : cvt D fuel t m = some r) :
    (fieldsOf (some r.1.1)).map key = (fieldsOf (some t)).map key :=
  ((cvt_ok hD fuel t m hs hm).of_eq h).sameKeys

/-- **method sets survive the lowering**: for the memo a conversion leaves behind (all that `t` and `r.1` contribute
    here), membership of a method name in the method set of a named type or of the pointer to it (promotion through embedded `T` / `*T` fields at every depth, shallowest-depth
    rule, pointer-receiver rule) is the same whether it is computed from the raw twins — as `abiUncommonMethodSet`
    does — or from the source declarations -/
theorem lowering_keeps_method_sets (D : Decls) (hD : SrcDecls D) (fuel : Nat) (t : GTy) (m : Memo) (r : (GTy × Bool) × Memo)
    (hs : isSrc t = true) (hm : MemoOK D m) (h : cvt D fuel t m = some r)
    (depth id : Nat) (raw addr : Bool) (n : String) :
    inMethodSet (rawUniv D r.2) depth id raw addr n = inMethodSet (srcUniv D) depth id false addr n :=
  inMethodSet_congr (rawUniv_alike ((cvt_ok hD fuel t m hs hm).of_eq h).memoOK) depth id raw false addr n

/-- the same for an unnamed struct type: what its embedded fields promote at every depth -/
theorem lowering_keeps_promoted (D : Decls) (hD : SrcDecls D) (fuel : Nat) (t : GTy) (m : Memo) (r : (GTy × Bool) × Memo)
    (hs : isSrc t = true) (hm : MemoOK D m) (h : cvt D fuel t m = some r) (d : Nat) (addr : Bool) :
    embEntries (levelNames (rawUniv D r.2) d) addr (fieldsOf (some r.1.1))
      = embEntries (levelNames (srcUniv D) d) addr (fieldsOf (some t)) := by
  have g := (cvt_ok hD fuel t m hs hm).of_eq h
  exact embEntries_congr (levelNames_congr (rawUniv_alike g.memoOK) d) addr _ _ g.sameKeys

/-- `type Base struct { N int; Fn func(int) int }` with methods `Ma` (value) and `Mb` (pointer);
    `type Outer struct { Base; Tag int }` -/
def demoDecls : Decls
  | 0 => some ⟨.struct [.mk "N" (.basic "int") false "", .mk "Fn" (.sig [.basic "int"] [.basic "int"] false) false ""],
               [("Ma", false), ("Mb", true)]⟩
  | 1 => some ⟨.struct [.mk "Base" (.named 0 false) true "", .mk "Tag" (.basic "int") false "json:\"t\""], []⟩
  | _ => none

theorem demoDecls_src : SrcDecls demoDecls := by
  intro id d h
  match id with
  | 0 => cases h; decide
  | 1 => cases h; decide
  | n+2 => cases h

/-- the hypotheses are satisfiable and the conversion does something: `Outer` gets a raw twin whose underlying struct
    still embeds (the raw twin of) `Base` and keeps the tag; `Ma` is promoted to `Outer`, `Mb` only to `*Outer` -/
example : (cvt demoDecls 10 (.named 1 false) []).map (fun r => (r.1.2, (lookup r.2 1).map (fun o => o.map keys), (lookup r.2 0).map (fun o => o.map keys))) =
    some (true, some (some [("Base", true, "", .named 0 false), ("Tag", false, "json:\"t\"", .other)]),
                some (some [("N", false, "", .other), ("Fn", false, "", .other)])) := by rfl
example (r : (GTy × Bool) × Memo) (h : cvt demoDecls 10 (.named 1 false) [] = some r) : unlower r.1.1 = .named 1 false :=
  (lowering_lossless demoDecls demoDecls_src 10 _ [] r rfl (memoOK_nil _) h).1
example : inMethodSet (srcUniv demoDecls) 4 1 false false "Ma" = true ∧ inMethodSet (srcUniv demoDecls) 4 1 false false "Mb" = false
    ∧ inMethodSet (srcUniv demoDecls) 4 1 false true "Mb" = true := by decide

end LlgoVerif.C01
