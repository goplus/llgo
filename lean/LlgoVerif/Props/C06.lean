import LlgoVerif.Lemmas.HMap
/-!
# C06 — maps behave as finite maps under every operation history and key type

Two association lists denote the same map when one is a permutation of the other (`List.Perm`); `HashOK` asks no
reflexivity of `==`, so NaN keys are covered.  Stages (1)–(4) of DESIGN.md §4 C06 are proved for every table state and
every history; (5) iteration is stated (`IterationSpec`) and is false for the code as it is
(`iteration_counterexample`); proved parts: empty maps, and tables that do not grow.
-/
namespace LlgoVerif.HMap
open LlgoVerif.AssocList
variable {K V : Type} [Inhabited K] [Inhabited V]

/-! ## single operations -/

/-- `make(map[K]V, hint)` is the empty map and satisfies the invariant. -/
theorem makemap_refines (o : Ops K) (hint : Nat) (r : Rand) :
    Inv o (makemap hint r : HMap K V) ∧ abs (makemap hint r : HMap K V) = [] :=
  makemap_spec o hint r

/-- `m[k]` / `v, ok := m[k]` return what the association list holds for `k`; the table stands for the same map afterwards
    (a NaN key advances `rand`).
    Stages 1+2: also while the map is growing (old buckets not yet evacuated are searched). -/
theorem mapaccess_refines {o : Ops K} (ho : HashOK o) {h : HMap K V} (hi : Inv o h) (k : K) :
    (∀ r h', mapaccess o h k = .ok (r, h') →
      r.map (·.val) = lookup o.eq k (abs h) ∧ Inv o h' ∧ abs h' = abs h) ∧
    (∀ e, mapaccess o h k = .error e → e = .unhashable ∧ o.unhashable k = true) :=
  ⟨fun r h' e => let ⟨a, s, _⟩ := (mapaccess_spec ho hi (.refl _) k).1 r h' e; ⟨a, inv_same hi s, abs_same s⟩,
    (mapaccess_spec ho hi (.refl _) k).2⟩

/-- `m[k] = v` is `insert`, for every table state: in place, into a free cell, into a new overflow bucket, and
    across `hashGrow` (doubling and same-size), `growWork`, `evacuate`.  The only error besides the unhashable-key
    panic is the model's bound on the number of `goto again` passes (`Err.loop`). -/
theorem mapassign_refines {o : Ops K} (ho : HashOK o) {h : HMap K V} (hi : Inv o h) (k : K) (v : V) :
    (∀ h', mapassign o h k v = .ok h' →
      WF o h' ∧ (abs h').Perm (insert o.eq o.needKeyUpdate k v (abs h))) ∧
    (∀ e, mapassign o h k v = .error e → (e = .unhashable ∧ o.unhashable k = true) ∨ e = .loop) :=
  ⟨fun h' e => let ⟨w, p, _⟩ := (mapassign_spec ho hi (.refl _) k v).1 h' e; ⟨w, p⟩,
    (mapassign_spec ho hi (.refl _) k v).2⟩

/-- `delete(m, k)` is `erase` (stage 3: including the emptyRest back-propagation, and during growth). -/
theorem mapdelete_refines {o : Ops K} (ho : HashOK o) {h : HMap K V} (hi : Inv o h) (k : K) :
    (∀ h', mapdelete o h k = .ok h' → Inv o h' ∧ (abs h').Perm (erase o.eq k (abs h))) ∧
    (∀ e, mapdelete o h k = .error e → e = .unhashable ∧ o.unhashable k = true) :=
  ⟨fun h' e => let ⟨i, p, _⟩ := (mapdelete_spec ho hi (.refl _) k).1 h' e; ⟨i, p⟩,
    (mapdelete_spec ho hi (.refl _) k).2⟩

/-- `clear(m)` is the empty map (stage 4; with a `memclr` that clears, which is what `map.go` assumes). -/
theorem mapclear_refines {o : Ops K} {h : HMap K V} (hi : Inv o h) :
    Inv o (mapclear h) ∧ abs (mapclear h) = [] :=
  mapclear_spec hi

/-- `len(m)` is the number of entries. -/
theorem maplen_refines {o : Ops K} {h : HMap K V} (hi : Inv o h) : h.count = len (abs h) :=
  inv_count hi

/-- one evacuation step moves entries without losing or duplicating any (stage 2) -/
theorem evacuate_preserves {o : Ops K} (ho : HashOK o) {h : HMap K V} (hw : WF o h) {j : Nat}
    (hjs : ∀ oa, h.old = some oa → j < oa.size) :
    ∃ h', evacuate o h j = .ok h' ∧ WF o h' ∧ (abs h').Perm (abs h) :=
  let ⟨h', e, p, _⟩ := evacuate_spec ho hw hjs
  ⟨h', e, p.wf, p.perm⟩

/-- starting a growth changes nothing observable (stage 2) -/
theorem hashGrow_preserves {o : Ops K} {h : HMap K V} (hw : WF o h) (hold : h.old = none) :
    WF o (hashGrow h) ∧ abs (hashGrow h) = abs h :=
  hashGrow_spec hw hold

/-! ## all histories -/

theorem step_refines {o : Ops K} (ho : HashOK o) (hp : PanicOK o) {h : HMap K V} (hi : Inv o h)
    {m : AList K V} (hm : (abs h).Perm m) (op : Op K V) :
    (∀ ob h', stepModel o h op = .ok (ob, h') →
      ob = (stepSpec o m op).1 ∧ Inv o h' ∧ (abs h').Perm (stepSpec o m op).2) ∧
    (∀ e, stepModel o h op = .error e → e = .loop) := by
  -- assign, access, delete: the operation succeeds, panics on an unhashable key, fails otherwise; clear; len
  fun_cases stepModel o h op with
  | case1 k v h' hr =>
    obtain ⟨w, p, hu⟩ := (mapassign_spec ho hi hm k v).1 h' hr
    rw [stepSpec, if_neg (by rw [hu]; nofun)]
    exact of_ok ⟨rfl, .inl w, p⟩
  | case2 k v hr =>
    rw [stepSpec, if_pos (((mapassign_spec ho hi hm k v).2 _ hr).elim (·.2) nofun)]
    exact of_ok ⟨rfl, hi, hm⟩
  | case3 k v e hne hr => exact of_error (((mapassign_spec ho hi hm k v).2 e hr).elim (fun a => absurd a.1 hne) id)
  | case4 k r h' hr =>
    obtain ⟨e1, hs, hu⟩ := (mapaccess_spec ho hi hm k).1 r h' hr
    rw [stepSpec, if_neg (by rw [hu hp]; nofun), e1]
    exact of_ok ⟨rfl, inv_same hi hs, abs_same hs ▸ hm⟩
  | case5 k hr =>
    rw [stepSpec, if_pos ((mapaccess_spec ho hi hm k).2 _ hr).2]
    exact of_ok ⟨rfl, hi, hm⟩
  | case6 k e hne hr => exact absurd ((mapaccess_spec ho hi hm k).2 e hr).1 hne
  | case7 k h' hr =>
    obtain ⟨w, p, -, -, hu⟩ := (mapdelete_spec ho hi hm k).1 h' hr
    rw [stepSpec, if_neg (by rw [hu hp]; nofun)]
    exact of_ok ⟨rfl, w, p⟩
  | case8 k hr =>
    rw [stepSpec, if_pos ((mapdelete_spec ho hi hm k).2 _ hr).2]
    exact of_ok ⟨rfl, hi, hm⟩
  | case9 k e hne hr => exact absurd ((mapdelete_spec ho hi hm k).2 e hr).1 hne
  | case10 => exact of_ok ⟨rfl, (mapclear_spec hi).1, by rw [(mapclear_spec hi).2]; exact .refl _⟩
  | case11 => exact of_ok ⟨by rw [inv_count hi, hm.length_eq]; rfl, hi, hm⟩

/-- **Refinement for all histories.**  From any table that satisfies the invariant and stands for `m`, every
    sequence of assign / access / delete / clear / len — of any length, through every growth, same-size growth
    and overflow bucket — produces exactly the observations of the association list (lookups return the most
    recently stored value or "absent", `len` is the number of entries, unhashable keys panic and change
    nothing), the invariant holds afterwards and the table stands for the specification's final state. -/
theorem history_refines {o : Ops K} (ho : HashOK o) (hp : PanicOK o) (ops : List (Op K V)) :
    ∀ (h : HMap K V) (m : AList K V), Inv o h → (abs h).Perm m →
    (∀ obs h', runModel o h ops = .ok (obs, h') →
      obs = (runSpec o m ops).1 ∧ Inv o h' ∧ (abs h').Perm (runSpec o m ops).2) ∧
    (∀ e, runModel o h ops = .error e → e = .loop) := by
  intro h
  fun_induction runModel o h ops with
  | case1 h => exact fun m hi hm => of_ok ⟨rfl, hi, hm⟩
  | case2 h op ops e hs => exact fun m hi hm => of_error ((step_refines ho hp hi hm op).2 e hs)
  | case3 h op ops ob h1 hs e hr ih =>
    intro m hi hm
    obtain ⟨-, i1, p1⟩ := (step_refines ho hp hi hm op).1 ob h1 hs
    exact of_error ((ih _ i1 p1).2 e hr)
  | case4 h op ops ob h1 hs obs h2 hr ih =>
    intro m hi hm
    obtain ⟨e1, i1, p1⟩ := (step_refines ho hp hi hm op).1 ob h1 hs
    obtain ⟨f1, f2, f3⟩ := (ih _ i1 p1).1 obs h2 hr
    exact of_ok ⟨by rw [e1, f1]; rfl, f2, f3⟩

theorem history_refines_from_make {o : Ops K} (ho : HashOK o) (hp : PanicOK o) (hint : Nat) (r : Rand)
    (ops : List (Op K V)) :
    (∀ obs h', runModel o (makemap hint r : HMap K V) ops = .ok (obs, h') →
      obs = (runSpec o ([] : AList K V) ops).1 ∧ Inv o h' ∧ (abs h').Perm (runSpec o ([] : AList K V) ops).2) ∧
    (∀ e, runModel o (makemap hint r : HMap K V) ops = .error e → e = .loop) := by
  obtain ⟨i, a⟩ := makemap_refines (V := V) o hint r
  exact history_refines ho hp ops _ [] i (by rw [a])

/-! ## iteration (stage 5) -/

/-- **Full statement of the iteration property** (stage 5): for every table that satisfies the invariant and
    every range loop over it, with arbitrary mutations between the iteration steps —
    nothing deleted is yielded, nothing is yielded twice, and (once the loop has ended) everything that was
    present the whole time has been yielded. -/
def IterationSpec (o : Ops K) (V : Type) [Inhabited V] : Prop :=
  YieldsLive o V ∧ NoTwice o V ∧ YieldsAll o V

/-- stage 5, proved part: a loop over a map that is empty when `MapIterNext` is called ends there
    (`z_map.go` checks `count == 0` before `mapiternext` touches possibly cleared buckets) -/
theorem iteration_partial_empty (o : Ops K) (h : HMap K V) (it : Iter K V) (hc : h.count = 0) :
    mapIterNext o (.ref h) it = .ok (none, { it with key := none, elem := none }) :=
  mapIterNext_empty o (m := .ref h) hc it

theorem runLoop_empty (o : Ops K) (h : HMap K V) (steps : List (LoopStep K V)) (hc : h.count = 0) :
    runLoop o h steps = .ok ([.table h], true) := by
  have h1 : newMapIter o (.ref h) = .ok ({ ready := true }, .ref h) := by
    simp [newMapIter, mapiterinit, hc, pure, Except.pure, bind, Except.bind]
  simp [runLoop, h1, runLoopFrom, mapIterNext, pure, Except.pure]

/-- stage 5, proved part: a loop over an empty map yields nothing at all -/
theorem iteration_partial_empty_loop (o : Ops K) (h : HMap K V) (steps : List (LoopStep K V)) (hc : h.count = 0) :
    ∃ tr, runLoop o h steps = .ok (tr, true) ∧ ∀ kv hy, LoopEv.yield kv hy ∉ tr :=
  ⟨_, runLoop_empty o h steps hc, fun kv hy hm => by simp at hm⟩

/-- stage 5, proved part: as long as the table is not growing, an iterator that walks the current bucket array
    (`IterCur`: true for a fresh iterator and kept by every step) yields only entries the table holds at that moment -/
theorem iteration_partial_stable {o : Ops K} {h : HMap K V} (hw : WF o h) (hold : h.old = none) {it it' : Iter K V}
    (hic : IterCur h it) (e : mapiternext o h it = .ok it') :
    IterCur h it' ∧ ∀ k v, it'.key = some k → it'.elem = some v → (k, v) ∈ abs h :=
  mapiternext_yields_live hw hold hic e

example (h : HMap (Nat × Bool) Nat) : IterCur h { gen := h.gen } := ⟨rfl, rfl, fun _ e => by cases e⟩

/-- **Stage 5 without growth and without mutation, complete**: for every table with the invariant that is not
    growing (`h.old = none`), every start bucket and start offset (`fastrand` is arbitrary: it is part of `h`), a
    whole range loop (`iterAll`, given at least `count + 1` steps) ends without the model running out of fuel and
    yields every entry of the table exactly once: the list of yielded pairs is a permutation of `abs h`. -/
theorem iteration_stable_complete {o : Ops K} {h : HMap K V} (hi : Inv o h) (hold : h.old = none) {n : Nat}
    (hn : h.count < n) : ∃ ys, iterAll o h n = .ok ys ∧ ys.Perm (abs h) :=
  iterAll_spec hi hold hn

/-- one step of that loop, from any position the walk can be in (`PosOK`): `mapiternext` either ends the loop and
    nothing was left to yield, or yields the head of the remaining entries `remOf` and leaves exactly the tail -/
theorem iteration_stable_step {o : Ops K} {h : HMap K V} (hw : WF o h) (hold : h.old = none) {it : Iter K V}
    (hp : PosOK h it it.bucket it.bptr it.i) (hcb : it.checkBucket = none) :
    ∃ it', mapiternext o h it = .ok it' ∧
      ((it'.key = none ∧ remOf h it.offset it.startBucket it.wrapped it.bucket it.bptr it.i = []) ∨
       (∃ k v, it'.key = some k ∧ it'.elem = some v ∧ it'.checkBucket = none ∧
          it'.startBucket = it.startBucket ∧ it'.offset = it.offset ∧
          PosOK h it' it'.bucket it'.bptr it'.i ∧
          remOf h it.offset it.startBucket it.wrapped it.bucket it.bptr it.i =
            (k, v) :: remOf h it.offset it.startBucket it'.wrapped it'.bucket it'.bptr it'.i)) :=
  mapiternext_walk hw hold hp hcb

/-- **Stage 5 with deletions between the steps, no growth — "no deleted entry"**: a loop whose body deletes arbitrary
    keys between the iteration steps (`runDelLoop`), started from
    any iterator that walks the current array (`IterCur`; `iteration_init_stable` provides it for a fresh loop),
    yields only pairs that are entries of the table at the moment they are yielded.
    NOT proved for such loops: "no key twice" and "every key present for the whole loop is yielded". -/
theorem iteration_delete_yields_live {o : Ops K} (ho : HashOK o) (steps : List (Option K)) (h : HMap K V) (it : Iter K V)
    (ys : List ((K × V) × HMap K V)) (hw : WF o h) (hold : h.old = none) (hic : IterCur h it)
    (e : runDelLoop o h it steps = .ok ys) : ∀ y ∈ ys, y.1 ∈ abs y.2 :=
  runDelLoop_yields_live ho steps h it ys hw hold hic e

/-- `mapiterinit` on a non-empty table that is not growing returns an iterator with `IterCur`; its first entry is an
    entry of the table; the table stands for the same map afterwards -/
theorem iteration_init_stable {o : Ops K} {h h' : HMap K V} {it : Iter K V} (hw : WF o h) (hold : h.old = none)
    (hc : h.count ≠ 0) (e : mapiterinit o h = .ok (it, h')) :
    WF o h' ∧ h'.old = none ∧ abs h' = abs h ∧ IterCur h' it ∧
      ∀ k v, it.key = some k → it.elem = some v → (k, v) ∈ abs h' :=
  let ⟨s, c, l⟩ := mapiterinit_stable hw hold hc e
  ⟨wf_same hw s, s.old.trans hold, abs_same s, c, l⟩

/-! ### the counterexample (keys: a number and a "is NaN" flag; NaN keys are equal to nothing) -/

def cxOps : Ops (Nat × Bool) :=
  { hash := fun _ k => UInt64.ofNat k.1
    nanHash := fun _ k xs => UInt64.ofNat k.1 + (xs.headD 0).toUInt64
    nanCount := fun _ => 1
    eq := fun a b => !a.2 && !b.2 && a.1 == b.1
    unhashable := fun _ => false
    reflexiveKey := false, needKeyUpdate := true, hashMightPanic := false }

/-- `m := map[float64]int{1: 63}`; `script`: the scripted `fastrand` values — `makemap` draws the first (`hash0 = 7`),
    the next `fastrand()` of the run the second -/
def cxStart : Except Err (HMap (Nat × Bool) Nat) := mapassign cxOps (makemap 0 { script := [7, 0] }) (1, false) 63

/-- `for k, v := range m { 8 insertions, one of them m[NaN] = 65 (the map grows); clear(m); m[9] = 151 }` -/
def cxSteps : List (LoopStep (Nat × Bool) Nat) :=
  [.mutate (.assign (2, false) 64), .mutate (.assign (0, true) 65), .mutate (.assign (3, false) 71),
   .mutate (.assign (4, false) 72), .mutate (.assign (5, false) 132), .mutate (.assign (6, false) 133),
   .mutate (.assign (7, false) 134), .mutate (.assign (8, false) 135), .mutate .clear,
   .mutate (.assign (9, false) 151), .next]

/-- does the run yield something that is not in the map at that moment? -/
def cxCheck : Bool :=
  match cxStart with
  | .ok h =>
    match runLoop cxOps h cxSteps with
    | .ok (tr, _) => tr.any (fun ev => match ev with
        | .yield kv hy => !(decide (kv ∈ abs hy))
        | .table _ => false)
    | .error _ => false
  | .error _ => false

theorem cxOps_hashOK : HashOK cxOps := by
  refine ⟨⟨?_, ?_⟩, ?_⟩
  · intro a b h
    simp only [cxOps, Bool.and_eq_true, Bool.not_eq_true', beq_iff_eq] at h ⊢
    exact ⟨⟨h.1.2, h.1.1⟩, h.2.symm⟩
  · intro a b c h1 h2
    simp only [cxOps, Bool.and_eq_true, Bool.not_eq_true', beq_iff_eq] at h1 h2 ⊢
    exact ⟨⟨h1.1.1, h2.1.2⟩, h1.2.trans h2.2⟩
  · intro s a b h
    simp only [cxOps, Bool.and_eq_true, Bool.not_eq_true', beq_iff_eq] at h ⊢
    rw [h.2]

/-- the second iteration of the loop yields the NaN entry that `clear` deleted -/
theorem cx_check : cxCheck = true := by decide +kernel

/-- **The iteration property is false for `map.go` as it is** (refuted through its first conjunct, `YieldsLive`; `NoTwice`
    and `YieldsAll` are neither proved nor refuted): an iterator that walks a bucket array the map
    has already retired returns its `key != key` cells directly ("the entry can't be deleted or updated"), but
    `clear` does delete them.  The same history is replayed on the real code by `checks/c06.py`
    (`corpus/C06/nan-entry-after-clear.json`). -/
theorem iteration_counterexample : ¬ IterationSpec cxOps Nat := by
  intro ⟨hYL, _, _⟩
  have hc := cx_check
  unfold cxCheck at hc
  cases hs : cxStart with
  | error e => rw [hs] at hc; cases hc
  | ok h0 =>
    rw [hs] at hc
    simp only at hc
    have hw : WF cxOps h0 :=
      ((mapassign_refines cxOps_hashOK (makemap_refines cxOps 0 { script := [7, 0] }).1 (1, false) 63).1 h0 hs).1
    cases hr : runLoop cxOps h0 cxSteps with
    | error e => rw [hr] at hc; cases hc
    | ok p =>
      obtain ⟨tr, ended⟩ := p
      rw [hr] at hc
      simp only [List.any_eq_true] at hc
      obtain ⟨ev, hev, hbad⟩ := hc
      cases ev with
      | table _ => cases hbad
      | yield kv hy =>
        have := hYL h0 cxSteps tr ended (Or.inl hw) hr kv hy hev
        simp [this] at hbad

/-! ## the hypotheses are satisfiable -/

example : HashOK cxOps := cxOps_hashOK
example : PanicOK cxOps := fun _ _ => rfl
example : Inv cxOps (makemap 20 {} : HMap (Nat × Bool) Nat) := (makemap_refines cxOps 20 {}).1
example : ∃ ys, iterAll cxOps (makemap 0 {} : HMap (Nat × Bool) Nat) 1 = .ok ys ∧ ys.Perm (abs (makemap 0 {} : HMap (Nat × Bool) Nat)) :=
  iteration_stable_complete (makemap_refines cxOps 0 {}).1 rfl (by decide)
example : ∃ h : HMap (Nat × Bool) Nat, cxStart = .ok h ∧ WF cxOps h ∧ h.count = 1 := by
  cases hs : cxStart with
  | error e => have := cx_check; unfold cxCheck at this; rw [hs] at this; cases this
  | ok h0 =>
    have hp := (mapassign_refines cxOps_hashOK (makemap_refines cxOps 0 { script := [7, 0] }).1 (1, false) 63).1 h0 hs
    refine ⟨h0, rfl, hp.1, ?_⟩
    rw [hp.1.count, hp.2.length_eq, (makemap_refines cxOps 0 { script := [7, 0] }).2]
    rfl

end LlgoVerif.HMap
