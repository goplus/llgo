import LlgoVerif.Lemmas.GoTypeInj
import LlgoVerif.Lemmas.GoTypeWitness
import LlgoVerif.Lemmas.Iface
import LlgoVerif.Lemmas.DynHash
import LlgoVerif.Lemmas.DynLaws
/-!
# C07 — dynamic type identity and interface satisfaction coincide with Go's rules

The hash (`base64url ∘ sha256`) is a PARAMETER of every statement about names; its injectivity is a
hypothesis, never an axiom.
-/
namespace LlgoVerif.Types

/-- **Full statement** (what C07 demands of the naming scheme).  FALSE for `Cfg.current`, the tree before `fixes/C07-1.diff`. -/
def typeName_injective : Prop :=
  ∀ (hash : List UInt8 → String), Function.Injective hash →
    ∀ t₁ t₂ : GoType, (typeName hash t₁ = typeName hash t₂ ↔ identical t₁ t₂ = true)

/-- an injective stand-in for the hash, used by the counterexamples (one character per byte).  Not `HashClean` (byte 32
    is a blank); hex digits (`hexStr`, `hexStr_inj`) give a hash that is both. -/
def byteChars (bs : List UInt8) : String := String.ofList (bs.map fun b => Char.ofNat b.toNat)

theorem byteChars_injective : Function.Injective byteChars := by
  intro a b h
  have h := String.ofList_inj.1 h
  refine (List.map_inj_right ?_).1 h
  intro x y hxy
  have key : ∀ z : UInt8, (Char.ofNat z.toNat).toNat = z.toNat := fun z =>
    toNat_ofNat (by have := z.toNat_lt; omega)
  have := congrArg Char.toNat hxy
  rw [key x, key y] at this
  exact UInt8.toNat_inj.1 this

/-- **Counterexample (struct tags).** `structHash` does not write the tag: `struct{ A int "x:1" }` and
    `struct{ A int "x:2" }` (`tagX1`, `tagX2`) have the same name under every hash.  Replayed on the real `ssa/abi` by the
    check (finding `samename:tag`, `fixes/C07-1.diff`). -/
theorem typeName_injective_counterexample : ¬ typeName_injective := fun h =>
  not_of_iff_bfalse tagX_not_identical (h byteChars byteChars_injective tagX1 tagX2) (congrArg String.ofList (tagX_same_name _ rfl))

/-- **Counterexample (embedded field names).** Erasing tags is not enough: `structHash` writes `-`
    for an embedded field, so `embAT` = `struct{ AT }` (`type AT = T`) and `embT` = `struct{ T }`
    (field names `AT` / `T`, one type) share a name.  Replayed by the check (finding `samename:embedded-name`). -/
theorem typeName_injective_counterexample_embedded :
    ¬ (∀ (hash : List UInt8 → String), Function.Injective hash → ∀ t₁ t₂ : GoType,
        tagsErased t₁ = true → tagsErased t₂ = true →
        (typeName hash t₁ = typeName hash t₂ ↔ identical t₁ t₂ = true)) := fun h =>
  not_of_iff_bfalse embAT_not_identical (h byteChars byteChars_injective embAT embT (by decide) (by decide))
    (congrArg String.ofList (embAT_same_name _ rfl))

/-- the hash token has no separator of the renderings (blank, newline, bracket, `$`, `*`, `<`, `.`, …), as base64url output has none -/
def HashClean (hash : List UInt8 → String) : Prop := ∀ bs, ∀ c ∈ (hash bs).toList, hashChar c = true

/-- **Partial theorem, for every variant of `structHash`** (`cfg`: `Cfg.current`, or the variants `tags`
    and / or `embNames`).  For every collision-free hash with base64url output and all types of the covered
    fragment (`wfT`; tags harmless, `tagsOk`; declarations rendered coherently, `Coherent`) the names agree
    exactly when the types are identical.
    Covers: basic types incl. `byte`/`rune`, pointer, slice, array length, map, channel direction,
    func arity / order / variadic flag, struct field names / order / embedding / package of
    non-exported names (and tags, in the variant `tags`), interface method sets incl. package of
    non-exported methods, aliases, named types by (package, name, scope indices, type arguments).
    NOT covered: what `wfT` and, for type arguments, `wfArg` leave out (their docstrings list it). -/
theorem typeNameCfg_injective_partial (cfg : Cfg) (hash : List UInt8 → String) (hinj : Function.Injective hash)
    (hclean : HashClean hash) (ex : Str → Bool) (t₁ t₂ : GoType)
    (w₁ : wfT cfg ex t₁ = true) (w₂ : wfT cfg ex t₂ = true)
    (e₁ : tagsOk cfg t₁ = true) (e₂ : tagsOk cfg t₂ = true)
    (hco : Coherent (declKeys t₁ ++ declKeys t₂)) :
    typeNameCfg cfg hash t₁ = typeNameCfg cfg hash t₂ ↔ identical t₁ t₂ = true := by
  unfold typeNameCfg
  rw [String.ofList_inj]
  have hi : Function.Injective fun cs => (hash (utf8 cs)).toList := by
    intro a b h
    exact utf8_injective (hinj (String.toList_inj.1 h))
  exact inj_T hi (fun x c hc => hclean _ c hc) hco false t₁ t₂
    ⟨w₁, e₁, List.subset_append_left _ _⟩ ⟨w₂, e₂, List.subset_append_right _ _⟩

/-- **Partial theorem for `Cfg.current`**: under `tagsErased` (no struct field carries a tag). -/
theorem typeName_injective_partial (hash : List UInt8 → String) (hinj : Function.Injective hash)
    (hclean : HashClean hash) (ex : Str → Bool) (t₁ t₂ : GoType)
    (w₁ : wfT .current ex t₁ = true) (w₂ : wfT .current ex t₂ = true)
    (e₁ : tagsErased t₁ = true) (e₂ : tagsErased t₂ = true)
    (hco : Coherent (declKeys t₁ ++ declKeys t₂)) :
    typeName hash t₁ = typeName hash t₂ ↔ identical t₁ t₂ = true :=
  typeNameCfg_injective_partial .current hash hinj hclean ex t₁ t₂ w₁ w₂ e₁ e₂ hco

theorem tagsOk_fixed : ∀ t : GoType, tagsOk .fixed t = true := tagsOk_of_tags rfl
theorem tagsOkL_fixed : ∀ l : TList, tagsOkL .fixed l = true := tagsOkL_of_tags rfl
theorem tagsOkF_fixed : ∀ l : FList, tagsOkF .fixed l = true := tagsOkF_of_tags rfl
theorem tagsOkM_fixed : ∀ l : MList, tagsOkM .fixed l = true := tagsOkM_of_tags rfl

/-- **For `Cfg.fixed` (`fixes/C07-1.diff`, `fixes/C07-2.diff`) the tag hypothesis disappears**: struct
    tags and embedded field names are then part of the name. -/
theorem typeName_injective_partial_fixed (hash : List UInt8 → String) (hinj : Function.Injective hash)
    (hclean : HashClean hash) (ex : Str → Bool) (t₁ t₂ : GoType)
    (w₁ : wfT .fixed ex t₁ = true) (w₂ : wfT .fixed ex t₂ = true)
    (hco : Coherent (declKeys t₁ ++ declKeys t₂)) :
    typeNameCfg .fixed hash t₁ = typeNameCfg .fixed hash t₂ ↔ identical t₁ t₂ = true :=
  typeNameCfg_injective_partial .fixed hash hinj hclean ex t₁ t₂ w₁ w₂ (tagsOk_fixed t₁) (tagsOk_fixed t₂) hco

theorem fixed_separates_witnesses (hash : List UInt8 → String) (hinj : Function.Injective hash) (hclean : HashClean hash) :
    typeNameCfg .fixed hash tagX1 ≠ typeNameCfg .fixed hash tagX2 ∧
    typeNameCfg .fixed hash embAT ≠ typeNameCfg .fixed hash embT := by
  obtain ⟨wx1, wx2, wa, wt, co⟩ := witnesses_wf
  exact ⟨not_of_iff_bfalse tagX_not_identical (typeName_injective_partial_fixed hash hinj hclean exAscii tagX1 tagX2 wx1 wx2 (by decide)),
    not_of_iff_bfalse embAT_not_identical (typeName_injective_partial_fixed hash hinj hclean exAscii embAT embT wa wt co)⟩

/-- `struct{ A int; b p.T; *p.T }` of package `q`, and `map[string]func(...[3]byte) chan<- error` (with `byte` for the normalisation) satisfy the hypotheses -/
example :
    let t₁ : GoType := .struct (.cons ['A'] none false [] (.basic .int)
      (.cons ['b'] (some ['q']) false [] namedT (.cons ['T'] none true [] (.pointer namedT) .nil)))
    let t₂ : GoType := .map (.basic .string) (.func (.cons (.slice (.array 3 (.basic .byte))) .nil)
      (.cons (.chan .send (.named 2 none ['e', 'r', 'r', 'o', 'r'] .pkg .nil)) .nil) true)
    wfT .current exAscii t₁ = true ∧ wfT .current exAscii t₂ = true ∧ tagsErased t₁ = true ∧ tagsErased t₂ = true ∧
      Coherent (declKeys t₁ ++ declKeys t₂) := by
  -- the string literals behind `pathOf` and `reserved` are rewritten to character lists before `decide` evaluates
  simp only [namedT, wfT, wfF, wfL, namedPkgOk, declKeys, declKeysF, declKeysL, keyOf, pathOf_p, reserved_chars]
  decide

/-- generic instances satisfy the hypotheses: `p.G[*p.T, []int]` and `p.G[p.T, string]` -/
example :
    let g (a b : GoType) : GoType := .named 7 (some ['p']) ['G'] .pkg (.cons a (.cons b .nil))
    let t₁ := g (.pointer namedT) (.slice (.basic .int))
    let t₂ := g namedT (.basic .string)
    wfT .current exAscii t₁ = true ∧ wfT .current exAscii t₂ = true ∧ tagsErased t₁ = true ∧ tagsErased t₂ = true ∧
      Coherent (declKeys t₁ ++ declKeys t₂) := by
  simp only [namedT, wfT, wfArgs, wfArg, namedPkgOk, declKeys, declKeysL, keyOf, pathOf_p]
  decide

/-- the tag pair and the embedded-alias pair satisfy the hypotheses of the repaired variant -/
example : wfT .fixed exAscii tagX1 = true ∧ wfT .fixed exAscii tagX2 = true ∧
    wfT .fixed exAscii embAT = true ∧ wfT .fixed exAscii embT = true ∧
    Coherent (declKeys embAT ++ declKeys embT) := witnesses_wf

open LlgoVerif.Face in
/-- **the loop of `Implements` is a subsequence test** on the `(name, type)` entries, for ALL tables, sorted or not -/
theorem implements_scan_subsequence (t v : List Ent) :
    implScan t (some v) = true ↔ (t.map Ent.key).Sublist (v.map Ent.key) := by
  unfold implScan
  cases t with
  | nil => simp
  | cons tm ts => simpa using scan_iff_sublist (tm :: ts) v

open LlgoVerif.Face in
/-- **`Implements` is correct for tables sorted by ONE strict order** (any irreflexive, transitive order on method names;
    strictly increasing: sorted, no duplicate names): the two-index scan returns true iff every interface method
    `(name, type)` occurs in the operand's table `v`. -/
theorem implements_scan_correct (lt : List Nat → List Nat → Prop) (ho : StrictOrder lt)
    (t v : List Ent) (st : SortedBy lt t) (sv : SortedBy lt v) :
    implScan t (some v) = true ↔ implSpec t v :=
  (implements_scan_subsequence t v).trans (sublist_iff_implSpec ho st sv)

open LlgoVerif.Face in
/-- **`findMethod` / `NewItab` are correct for an operand table sorted in Go's string order**
    (the order the `>=` test of `findMethod` uses); the interface's table may be in any order. -/
theorem newItab_scan_correct (t v : List Ent) (sv : sortedNames v) :
    (newItabFuns t v).isSome = true ↔ implSpec t v := by
  induction t with
  | nil => simp [newItabFuns, implSpec]
  | cons im ims ih =>
    have hf := findMethod_correct v im sv
    rw [newItabFuns_cons]
    rw [implSpec_cons, ← ih, ← hf]
    cases h2 : (findMethod v im).2 <;> simp

open LlgoVerif.Face in
/-- the hypotheses are satisfiable: two sorted tables; `StrictOrder` at Go's order is `bytesLt_strict` -/
example : SortedBy (fun a b => bytesLt a b = true) [⟨[77], 1, 1⟩, ⟨[78], 2, 1⟩] ∧
    sortedNames [⟨[65], 3, 1⟩, ⟨[77], 1, 1⟩, ⟨[78], 2, 1⟩] := by
  simp [SortedBy, sortedNames]; decide

open LlgoVerif.Face in
/-- **The precondition matters** (and the emitter violates it, finding `implements:table-order-mismatch`):
    exported `B` and unexported `9.a` of package `9`; go/types puts the exported method first, bytewise `'9' < 'B'` puts
    `9.a` first in the method table: every method is present, the scan says no. -/
theorem implements_scan_unsorted_counterexample :
    ∃ t v : List Ent, implSpec t v ∧ implScan t (some v) = false ∧ (newItabFuns t v).isSome = true := by
  refine ⟨[⟨[66], 1, 1⟩, ⟨[57, 46, 97], 2, 1⟩], [⟨[57, 46, 97], 2, 1⟩, ⟨[66], 1, 1⟩], ?_, by decide, by decide⟩
  intro e he
  simp at he
  rcases he with rfl | rfl
  · exact ⟨⟨[66], 1, 1⟩, by simp, rfl, rfl⟩
  · exact ⟨⟨[57, 46, 97], 2, 1⟩, by simp, rfl, rfl⟩

open LlgoVerif.Face in
/-- **A defined func type is identified with its underlying func type** (`namedFix = false`, i.e. without
    `fixes/C07-3.diff`): for `T` the descriptor of `type F func() int` and `V` that of `func() int` (distinct addresses,
    same `$f` type) `MatchesClosure(T, V)` is true.  Replayed natively and end to end
    (findings `matchesclosure:named-func-type`, `e2e:named-func-type-identified-with-underlying`). -/
theorem matchesClosure_named_counterexample :
    matchesClosure false { id := 1, closure := true, field0 := 7, named := true } (some { id := 2, closure := true, field0 := 7 }) = true := by
  decide

open LlgoVerif.Face in
theorem matchesClosure_iff (namedFix : Bool) (t v : Desc) :
    matchesClosure namedFix t (some v) = true ↔
      (t.id = v.id ∨ (v.closure = true ∧ (namedFix = true → t.named = false ∧ v.named = false) ∧ t.field0 = v.field0)) := by
  unfold matchesClosure
  by_cases h1 : t.id = v.id
  · simp [h1]
  · cases namedFix <;> cases hc : v.closure <;> cases hn : t.named <;> cases hm : v.named <;> simp [h1, hc, hn, hm]

open LlgoVerif.Face in
/-- with `fixes/C07-3.diff` the test is the intended one, for ALL descriptors: the same descriptor, or
    two UNNAMED closure types over the same func type -/
theorem matchesClosure_fixed_spec (t v : Desc) :
    matchesClosure true t (some v) = true ↔
      (t.id = v.id ∨ (v.closure = true ∧ t.named = false ∧ v.named = false ∧ t.field0 = v.field0)) := by
  simpa [and_assoc] using matchesClosure_iff true t v

/-! ## interface `==` and interface-keyed maps: `EfaceEqual`, the `Equal` functions and `typehash` (Model/DynEq.lean)

What each definition mirrors in llgo is said at the head of Model/DynEq.lean, the specification (`goEq`, `valOf`, `fits`)
at the head of Spec/DynEq.lean.  The `memhash` routines are PARAMETERS (`H`), `rnd` is `fastrand`. -/

section dyn
open LlgoVerif.DynEq

/-- **Full statement**: on all well-formed images `EfaceEqual` computes Go's `==` on interface values.  FALSE on the current
    code (and under the reference toolchain alike) for a direct-interface type with a blank pointer field. -/
def efaceEqual_spec : Prop :=
  ∀ v u : Obj Ty, fits (.iface 0 0) v = true → fits (.iface 0 0) u = true →
    efaceEqual descOf v u = ifaceEq (valOf (.iface 0 0) v) (valOf (.iface 0 0) u)

/-- `struct{ _ *T }` -/
def blankPtrStruct : Ty := .struct 8 (.cons 0 0 (.ptr .pointer 0) .nil)
/-- `any(struct{ _ *T }{…})` whose blank field holds the pointer `w` (only `unsafe` stores can put one there) -/
def blankPtrVal (w : UInt64) : Obj Ty :=
  .eface 0 blankPtrStruct w (.seq (.cons [] (.bytes (le64 w.toNat)) .nil) [])

/-- Go: blank fields are not compared, the two values are equal; `EfaceEqual` compares the data words. -/
theorem efaceEqual_spec_counterexample : ¬ efaceEqual_spec := by
  intro h
  have e := h (blankPtrVal 1) (blankPtrVal 2) (by decide) (by decide)
  have e1 : efaceEqual descOf (blankPtrVal 1) (blankPtrVal 2) = .ok false := by rfl
  have e2 : ifaceEq (valOf (.iface 0 0) (blankPtrVal 1)) (valOf (.iface 0 0) (blankPtrVal 2)) = .ok true := by rfl
  rw [e1, e2] at e
  cases e

/-- **interface `==` is Go's `==`**: on all well-formed images none of whose dynamic types (at any depth) is `blankDirect`
    (asked of the left image only), `EfaceEqual` returns / panics exactly as the specification `ifaceEq` does; this covers
    floats, strings, structs with blank fields and padding (every padding content), nested interfaces, defined types.
    `blankDirect` excludes the direct-interface types with a blank pointer field (what the proof needs) and with them every
    other one-field struct with a blank field, and arrays of such: `struct{ _ int64 }`, `[2]struct{ _ *T }`. -/
theorem efaceEqual_spec_partial (v u : Obj Ty) (hv : fits (.iface 0 0) v = true) (hu : fits (.iface 0 0) u = true)
    (hok : okDyn v = true) :
    efaceEqual descOf v u = ifaceEq (valOf (.iface 0 0) v) (valOf (.iface 0 0) u) :=
  efaceEqual_spec_at rfl v u hv hu hok

/-- `struct{ f float64; s string }` with padding-free layout -/
def exStruct : Ty := .struct 24 (.cons 1 0 (.basic .float64) (.cons 2 8 (.basic .string) .nil))
def exVal (f : Nat) (p : Nat) : Obj Ty :=
  .eface 7 exStruct 0 (.seq (.cons [] (.bytes (leBytes 8 f)) (.cons [] (.str p [104, 105]) .nil)) [])

example : fits (.iface 0 0) (exVal 0 1) = true ∧ fits (.iface 0 0) (exVal (2^63) 2) = true ∧ okDyn (exVal 0 1) = true := by
  decide

/-- the same dynamic type, `+0`/`-0` and two different string headers over equal bytes: equal -/
example : efaceEqual descOf (exVal 0 1) (exVal (2^63) 2) = .ok true := by rfl

theorem ifaceEq_idyn (t : Ty) (x : V) (u : Ty) (y : V) :
    ifaceEq (.idyn t x) (.idyn u y) =
      if t ≠ u then .ok false else if (!comparable t) = true then .error .uncomparable else goEq t x y :=
  goEq_idyn _ t x u y

/-- **true iff identical dynamic types and equal dynamic values (or both nil)** -/
theorem ifaceEq_true_iff (a b : V) :
    ifaceEq a b = .ok true ↔
      (a = .inil ∧ b = .inil) ∨ ∃ t x y, a = .idyn t x ∧ b = .idyn t y ∧ comparable t = true ∧ goEq t x y = .ok true :=
  goEq_iface_true_iff rfl a b

/-- **it panics exactly when the dynamic types are identical and not comparable** (or the comparison of the dynamic values
    itself panics: an interface-typed field holding such a value); in particular never when the types differ -/
theorem ifaceEq_panics_iff (a b : V) :
    ifaceEq a b = .error .uncomparable ↔
      ∃ t x y, a = .idyn t x ∧ b = .idyn t y ∧ (comparable t = false ∨ goEq t x y = .error .uncomparable) :=
  goEq_iface_panics_iff rfl a b

theorem ifaceEq_types_differ (t u : Ty) (x y : V) (h : t ≠ u) : ifaceEq (.idyn t x) (.idyn u y) = .ok false :=
  (ifaceEq_idyn t x u y).trans (if_pos h)

example : (Ty.named 1 (.basic .int32)) ≠ Ty.basic .int32 := by decide

/-- `a == b` and `b == a` agree, results and panics alike -/
theorem ifaceEq_symm (a b : V) : ifaceEq a b = ifaceEq b a := goEq_symm a (.iface 0 0) b

theorem efaceEqual_symm_at {ty : Ty} {n tag : Nat} (hty : under ty = .iface n tag) (v u : Obj Ty) (hv : fits ty v = true)
    (hu : fits ty u = true) (hokv : okDyn v = true) (hoku : okDyn u = true) : efaceEqual descOf v u = efaceEqual descOf u v := by
  rw [efaceEqual_spec_at hty v u hv hu hokv, efaceEqual_spec_at hty u v hu hv hoku]
  exact goEq_symm _ ty _

theorem efaceEqual_symm (v u : Obj Ty) (hv : fits (.iface 0 0) v = true) (hu : fits (.iface 0 0) u = true)
    (hokv : okDyn v = true) (hoku : okDyn u = true) :
    efaceEqual descOf v u = efaceEqual descOf u v :=
  efaceEqual_symm_at rfl v u hv hu hokv hoku

example : fits (.iface 0 0) (exVal 5 1) = true ∧ okDyn (exVal 5 1) = true := by decide

/-- **reflexive except through NaN** (and uncomparable dynamic types): `reflOK` = no NaN in a compared position, every
    dynamic type inside comparable -/
theorem ifaceEq_refl (a : V) (h : reflOK (.iface 0 0) a = true) : ifaceEq a a = .ok true := goEq_refl a (.iface 0 0) h

example : reflOK (.iface 0 0) (valOf (.iface 0 0) (exVal 5 1)) = true := by decide

/-- `var x any = math.NaN(); x == x` is false -/
theorem ifaceEq_nan_counterexample :
    ifaceEq (.idyn (.basic .float64) (.word 0x7ff8000000000001)) (.idyn (.basic .float64) (.word 0x7ff8000000000001)) = .ok false := by
  rfl

theorem efaceEqual_refl_at {ty : Ty} {n tag : Nat} (hty : under ty = .iface n tag) (v : Obj Ty) (hv : fits ty v = true)
    (hok : okDyn v = true) (h : reflOK ty (valOf ty v) = true) : efaceEqual descOf v v = .ok true :=
  (efaceEqual_spec_at hty v v hv hv hok).trans (goEq_refl _ ty h)

theorem efaceEqual_refl (v : Obj Ty) (hv : fits (.iface 0 0) v = true) (hok : okDyn v = true)
    (h : reflOK (.iface 0 0) (valOf (.iface 0 0) v) = true) : efaceEqual descOf v v = .ok true :=
  efaceEqual_refl_at rfl v hv hok h

/-- **the compiler leaves `Equal` nil exactly for the types Go cannot compare** (`EqualName`, all types) -/
theorem equal_nil_iff_uncomparable (t : Ty) : (descOf t).c.equal = none ↔ comparable t = false := by
  rw [descOf_c]; exact equalName_none_iff t

variable (H : Hashers) (rnd : Nat → UInt32)

/-- **`a == b → hash a = hash b`**, for every comparable key type `K` (the `Hasher` of a map type is `typehash` closed over the
    key descriptor): where the key's `Equal` says true, `typehash` gives both images the same hash, does not panic and draws no
    `fastrand`.  Covers `TFlagRegularMemory`, `±0`, strings behind different pointers, blank fields, nested interfaces.  C06's
    refinement theorems assume this of a key type (`HashOK.hash_eq`). -/
theorem hash_respects_equal (K : Ty) (f : EqFn) (a b : Obj Ty) (hl : layoutOK K = true) (ha : fits K a = true) (hb : fits K b = true)
    (hf : equalName K = some f) (he : callEq descOf f (descOf K) a b = .ok true) (seed : UInt64) (k : Nat) :
    ∃ x, typehash descOf H rnd (descOf K) a seed k = .ok (x, k) ∧ typehash descOf H rnd (descOf K) b seed k = .ok (x, k) :=
  (hash_eq H rnd).obj a K ha b f hl hb hf he seed k

example : layoutOK (.basic .float64) = true ∧ fits (.basic .float64) (.bytes (leBytes 8 0)) = true ∧
    fits (.basic .float64) (.bytes (leBytes 8 (2^63))) = true ∧ equalName (.basic .float64) = some .f64equal ∧
    callEq descOf .f64equal (descOf (.basic .float64)) (.bytes (leBytes 8 0) : Obj Ty) (.bytes (leBytes 8 (2^63))) = .ok true :=
  ⟨by decide, by decide, by decide, by decide, by rfl⟩

/-- the `Hasher` of `map[K]V` (`typehash` closed over `K`'s descriptor) as a function of the seed and the key image; `0` on a
    panic, which keys that `keyEq` do not meet (`hash_eq_equalD`) -/
def keyHash (K : Ty) (seed : UInt64) (a : Obj Ty) : UInt64 :=
  match typehash descOf H rnd (descOf K) a seed 0 with
  | .ok (x, _) => x
  | .error _ => 0

/-- **the analogue of C06's `HashOK.hash_eq` for the real key equality and the real hasher**, for any comparable key type `K`
    (so also `any`, interface types, structs and arrays with interface / float / string parts).  No term of type `HashOK` is
    built: that needs the subtype of well-formed images, and C06's `Ops.hash` takes a `UInt32` seed where the run time's is
    `UInt64`. -/
theorem keyHash_respects_keyEq (K : Ty) (hc : comparable K = true) (hl : layoutOK K = true) (seed : UInt64) (a b : Obj Ty)
    (ha : fits K a = true) (hb : fits K b = true) (h : keyEq K a b = true) :
    keyHash H rnd K seed a = keyHash H rnd K seed b := by
  obtain ⟨x, e1, e2⟩ := hash_eq_equalD H rnd hc hl ha hb ((keyEq_iff K a b).1 h) seed 0
  rw [keyHash, keyHash, e1, e2]

/-- the analogue of C06's `EqOK` for the real key equality, under the side conditions `fits` and `okDyn` (asked of left
    operands only) -/
theorem keyEq_equivalence (K : Ty) (hc : comparable K = true) :
    (∀ a b : Obj Ty, fits K a = true → fits K b = true → okDyn a = true → okDyn b = true → keyEq K a b = true → keyEq K b a = true) ∧
    (∀ a b c : Obj Ty, fits K a = true → fits K b = true → fits K c = true → okDyn a = true → okDyn b = true →
      keyEq K a b = true → keyEq K b c = true → keyEq K a c = true) :=
  ⟨fun a b ha hb hoa hob h => keyEq_symm K a b hc ha hb hoa hob h,
   fun a b c ha hb hcc hoa hob h1 h2 => keyEq_trans K a b c hc ha hb hcc hoa hob h1 h2⟩

example : comparable exStruct = true ∧ layoutOK exStruct = true ∧
    fits exStruct (.seq (.cons [] (.bytes (leBytes 8 0)) (.cons [] (.str 1 [104, 105]) .nil)) [] : Obj Ty) = true ∧
    keyEq exStruct (.seq (.cons [] (.bytes (leBytes 8 0)) (.cons [] (.str 1 [104, 105]) .nil)) [])
      (.seq (.cons [] (.bytes (leBytes 8 (2^63))) (.cons [] (.str 2 [104, 105]) .nil)) []) = true :=
  ⟨by decide, by decide, by decide, by rfl⟩

/-- interface keys (`map[any]V`; `ifaceHash_eq_at` has every interface type): `a == b` (as `EfaceEqual` decides it) implies
    equal `nilinterhash`, which `interhash` is by definition -/
theorem ifaceHash_respects_equal (v u : Obj Ty) (hv : fits (.iface 0 0) v = true) (hu : fits (.iface 0 0) u = true)
    (he : efaceEqual descOf v u = .ok true) (seed : UInt64) (k : Nat) :
    ∃ x, nilinterhash descOf H rnd v seed k = .ok (x, k) ∧ nilinterhash descOf H rnd u seed k = .ok (x, k) :=
  ifaceHash_eq_at H rnd rfl v u hv hu he seed k

example : fits (.iface 0 0) (exVal 0 1) = true ∧ fits (.iface 0 0) (exVal (2^63) 2) = true ∧
    efaceEqual descOf (exVal 0 1) (exVal (2^63) 2) = .ok true := ⟨by decide, by decide, by rfl⟩

/-- **hashing a value of an uncomparable dynamic type panics** ("hash of unhashable type"), whatever the value -/
theorem hash_unhashable_panics (tw : Nat) (t : Ty) (dw : UInt64) (box : Obj Ty) (hc : comparable t = false) (seed : UInt64) (k : Nat) :
    nilinterhash descOf H rnd (.eface tw t dw box) seed k = .error .unhashable ∧
      interhash descOf H rnd (.eface tw t dw box) seed k = .error .unhashable := by
  rw [interhash, nilinterhash_eface, (equalName_none_iff t).2 hc]
  exact ⟨rfl, rfl⟩

-- `struct{ a int; b []T }`
example : comparable (.struct 32 (.cons 1 0 (.basic .int) (.cons 2 8 (.slice 0) .nil))) = false := by decide

/-- **hashing a key panics exactly when the key holds, in a non-blank position at any depth, an interface with an uncomparable
    dynamic type** (`unhashable`, on the abstract value): for every comparable key type `K` and every well-formed key image,
    `typehash` then panics with "hash of unhashable type", and otherwise returns a hash — it never fails for another reason -/
theorem hash_panics_iff_unhashable (K : Ty) (hc : comparable K = true) (a : Obj Ty) (ha : fits K a = true) (seed : UInt64) (k : Nat) :
    (unhashable K (valOf K a) = true → typehash descOf H rnd (descOf K) a seed k = .error .unhashable) ∧
    (unhashable K (valOf K a) = false → ∃ x k', typehash descOf H rnd (descOf K) a seed k = .ok (x, k')) :=
  ⟨((hash_total H rnd).obj a K ha hc seed k).2, ((hash_total H rnd).obj a K ha hc seed k).1⟩

/-- `struct{ x, y any }` -/
def exPair : Ty := .struct 32 (.cons 1 0 (.iface 0 0) (.cons 2 16 (.iface 0 0) .nil))
/-- `{x: int64(1), y: []int{…}}` -/
def exPairBad : Obj Ty :=
  .seq (.cons [] (.eface 0 (.basic .int64) 0 (.bytes (leBytes 8 1))) (.cons [] (.eface 0 (.slice 0) 0 (.bytes (leBytes 24 0))) .nil)) []

example : comparable exPair = true ∧ fits exPair exPairBad = true ∧ unhashable exPair (valOf exPair exPairBad) = true := by decide

end dyn

end LlgoVerif.Types
