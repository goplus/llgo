import LlgoVerif.Lemmas.Path
import LlgoVerif.Lemmas.Extract
import LlgoVerif.Lemmas.ExtractPreserve
import LlgoVerif.Lemmas.ExtractLock
import LlgoVerif.Lemmas.Gzip
import LlgoVerif.Lemmas.Tar
import LlgoVerif.Lemmas.Zip
import LlgoVerif.Lemmas.ZipExtract
/-!
# C20 — SDK archive extraction stays inside its destination and preserves contents

`Cfg.current` is the code at the pinned commit of goplus/llgo, `Cfg.fixed` the variant after `/verif/fixes/C20-1.diff` and
`C20-2.diff`.  Statements that are false for `Cfg.current` (lock protocol: with failures allowed) stay visible as
`def … : Prop`, with a `…_counterexample` (concrete witness, replayed on the real code by `checks/c20.py`) and a
`…_partial`.  Closed facts are evaluated by `decide` after `simp only [String.reduceToList]` (or `zipSlipDest_eq`) has
turned the string literals into character lists; `maxRecDepth` is raised for `decide` over the 130-byte name of
`tarExample` (the two zip examples carry the option without needing it).
-/
namespace LlgoVerif.C20
open LlgoVerif.Path LlgoVerif.Extract LlgoVerif.ExtractLock LlgoVerif.Container

/-! ## 1. `filepath.Clean` -/

/-- **`Clean` is idempotent and its result is in normal form**: either `.`, or an optional leading `/` followed by
    `k` elements `..` (none if rooted) and then ordinary elements (non-empty, not `.`, not `..`, no separator),
    joined by single `/` — so no empty element, no `.`, and `..` only as a leading run of a relative path. -/
theorem clean_spec (p : Str) :
    clean (clean p) = clean p ∧
    (clean p = ['.'] ∨
     ∃ (rooted : Bool) (k : Nat) (cs : List Comp),
       clean p = (if rooted then ['/'] else []) ++ joinSlash (List.replicate k dotdot ++ cs) ∧
       (∀ c ∈ cs, Normal c) ∧ (rooted = true → k = 0) ∧
       (rooted = false → List.replicate k dotdot ++ cs ≠ [])) := by
  refine ⟨clean_idem p, ?_⟩
  generalize hq : clean p = q
  have hs := clean_shape p
  rw [hq] at hs
  cases hs with
  | dot => exact Or.inl rfl
  | rooted cs h => exact Or.inr ⟨true, 0, cs, by simp, h, fun _ => rfl, fun h => (by cases h)⟩
  | rel k cs h hne => exact Or.inr ⟨false, k, cs, by simp, h, fun h => (by cases h), fun _ => hne⟩

/-! ## 2. Confinement of one entry name -/

/-- **`confined`** — for EVERY entry name and every absolute destination: if the guard of `extractTarGz`
    (`strings.HasPrefix(filepath.Join(dest, name), filepath.Clean(dest)+"/")`) passes, the target's elements
    are those of `Clean(dest)` followed by a non-empty list of ordinary elements (in particular no `..`):
    the target lies strictly below the destination. -/
theorem confined (dest name : Str) (habs : dest.head? = some '/')
    (h : guardOK false dest (join dest name) = true) :
    ∃ rest, comps (join dest name) = comps (clean dest) ++ rest ∧ rest ≠ [] ∧ dotdot ∉ rest ∧
      ∀ c ∈ rest, Normal c := by
  rcases (guardOK_iff dest name false habs).1 h with ⟨h1, _⟩ | ⟨_, rest, h2, h1⟩
  · cases h1
  · have h3 : ∀ c ∈ rest, Normal c := fun c hc =>
      normal_comps_join dest name habs c (h1 ▸ List.mem_append_right _ hc)
    exact ⟨rest, h1, h2, fun hin => normal_ne_dotdot (h3 _ hin) rfl, h3⟩

example : ("/r/a/b/dest".toList).head? = some '/' ∧
    guardOK false "/r/a/b/dest".toList (join "/r/a/b/dest".toList "x/../y//./z".toList) = true := by
  simp only [String.reduceToList]; decide

/-- the repaired guard additionally lets the destination itself through (`./` entries), nothing else -/
theorem confined_acceptRoot (dest name : Str) (habs : dest.head? = some '/')
    (h : guardOK true dest (join dest name) = true) :
    join dest name = clean dest ∨
    ∃ rest, comps (join dest name) = comps (clean dest) ++ rest ∧ rest ≠ [] ∧ dotdot ∉ rest := by
  rcases (guardOK_iff dest name true habs).1 h with ⟨_, h1⟩ | ⟨_, rest, h2, h1⟩
  · exact Or.inl h1
  · exact Or.inr ⟨rest, h1, h2, fun hin =>
      normal_ne_dotdot (normal_comps_join dest name habs _ (h1 ▸ List.mem_append_right _ hin)) rfl⟩

example : guardOK true "/r/dest".toList (join "/r/dest".toList "./".toList) = true := by
  simp only [String.reduceToList]; decide

/-- the hypothesis "absolute destination" is needed: for the relative destination `..` the name `..`
    passes the guard although the target `../..` is the *parent* of the destination -/
theorem confined_relative_counterexample :
    guardOK false "..".toList (join "..".toList "..".toList) = true ∧
    comps (join "..".toList "..".toList) = comps (clean "..".toList) ++ [dotdot] := by
  simp only [String.reduceToList]; decide

/-! ## 3. Confinement of whole archives -/

/-- **`extractTarGz` is confined, for every archive and both guard variants**: whatever the entries are, and
    whether the loop runs to the end or aborts with an error, every path that is not strictly below the
    destination is exactly as it was. -/
theorem extractTarGz_confined (cfg : Cfg) (dest : Str) (habs : dest.head? = some '/') (fs : FS)
    (hr : DestReady fs (comps (clean dest))) (ar : List Entry) :
    ∀ q, ¬ Under (comps (clean dest)) q → lookup (extract cfg .tgz dest fs ar).1 q = lookup fs q :=
  extract_frame cfg .tgz dest habs fs hr ar (.inl (.inl rfl))

/-- an entry the guard refuses makes the call fail (and, by `extractTarGz_confined`, leaves no trace outside) -/
theorem extractTarGz_rejects (cfg : Cfg) (dest : Str) (fs : FS) (pre : List Entry) (e : Entry) (post : List Entry)
    (hpre : (extract cfg .tgz dest fs pre).2 = none)
    (hesc : guardOK cfg.tarAcceptRoot dest (join dest e.name) = false) :
    (extract cfg .tgz dest fs (pre ++ e :: post)).2 = some .illegalPath := by
  unfold extract at *
  rw [runSteps_append _ pre _ fs hpre]
  simp [runSteps, Extract.step, tarStep, hesc]

example : DestReady [(["r"].map String.toList, .dir), ((["r", "dest"]).map String.toList, .dir)]
    (comps (clean "/r/dest".toList)) := by
  simp only [List.map, String.reduceToList]; exact destReady_of_B _ _ (by decide)

/-- the same statement for `extractZip`, as a property of a code variant -/
def ZipConfined (cfg : Cfg) : Prop :=
  ∀ (dest : Str), dest.head? = some '/' → ∀ (fs : FS), DestReady fs (comps (clean dest)) → ∀ (ar : List Entry),
    ∀ q, ¬ Under (comps (clean dest)) q → lookup (extract cfg .zip dest fs ar).1 q = lookup fs q

/-- witness: destination `/r/a/b/dest`, one regular entry `../evil.txt` with content `E` -/
def zipSlipDest : Str := "/r/a/b/dest".toList
def emptyDestFS : FS := (prefixesOf (comps zipSlipDest)).map fun k => (k, Node.dir)
def zipSlipArchive : List Entry := [{ kind := .reg, name := "../evil.txt".toList, data := [69], link := [] }]

theorem zipSlipDest_eq : zipSlipDest = ['/', 'r', '/', 'a', '/', 'b', '/', 'd', 'e', 's', 't'] := String.toList_ofList

theorem zipSlipDest_clean : comps (clean zipSlipDest) = comps zipSlipDest := by rw [zipSlipDest_eq]; decide

/-- **zip-slip**: `extractZip` as it is (`Cfg.current`) writes `/r/a/b/evil.txt`, outside `/r/a/b/dest` -/
theorem extractZip_confined_counterexample : ¬ ZipConfined Cfg.current := by
  intro h
  have := h zipSlipDest (by rw [zipSlipDest_eq]; rfl) emptyDestFS
    (by rw [zipSlipDest_clean]; exact destReady_prefixes _) zipSlipArchive
    (["r", "a", "b", "evil.txt"].map String.toList)
    (by simp only [zipSlipDest_eq, List.map, String.reduceToList]; intro ⟨h1, _⟩; revert h1; decide)
  simp only [emptyDestFS, zipSlipArchive, zipSlipDest_eq, List.map, String.reduceToList] at this
  revert this; decide

/-- with the guard (`C20-1.diff`) `extractZip` is confined like `extractTarGz` -/
theorem extractZip_confined_partial (cfg : Cfg) (hg : cfg.zipGuard = true) : ZipConfined cfg :=
  fun dest habs fs hr ar => extract_frame cfg .zip dest habs fs hr ar (.inl (.inr hg))

example : Cfg.fixed.zipGuard = true := rfl

/-- the unguarded code is confined on the archives whose every entry name passes the guard -/
theorem extractZip_confined_partial_names (cfg : Cfg) (dest : Str) (habs : dest.head? = some '/') (fs : FS)
    (hr : DestReady fs (comps (clean dest))) (ar : List Entry)
    (hnames : ar.all (fun e => guardOK true dest (join dest e.name)) = true) :
    ∀ q, ¬ Under (comps (clean dest)) q → lookup (extract cfg .zip dest fs ar).1 q = lookup fs q :=
  extract_frame cfg .zip dest habs fs hr ar (.inr (List.all_eq_true.1 hnames))

example : [({ kind := .reg, name := "a/../b/x".toList, data := [1], link := [] } : Entry)].all
    (fun e => guardOK true zipSlipDest (join zipSlipDest e.name)) = true := by
  simp only [zipSlipDest_eq, String.reduceToList]; decide

/-! ## 4. Preservation -/

/-- **`Preserve`** as a property of a code variant and a format: for every absolute destination other than `/`
    that is ready and empty, and every well-formed archive, extraction succeeds, the archive is consistent, the
    tree below the destination is exactly the archived tree (every directory, every regular file with exactly
    the archived bytes, nothing else), and nothing outside changed. -/
def Preserve (cfg : Cfg) (fmt : Format) : Prop :=
  ∀ (dest : Str), dest.head? = some '/' → comps (clean dest) ≠ [] →
  ∀ (fs : FS), DestReady fs (comps (clean dest)) → TreeAt (comps (clean dest)) fs [] →
  ∀ (ar : List Entry), wellFormed fmt ar = true →
    (extract cfg fmt dest fs ar).2 = none ∧ (specTree ar).2 = none ∧
    TreeAt (comps (clean dest)) (extract cfg fmt dest fs ar).1 (specTree ar).1 ∧
    DestReady (extract cfg fmt dest fs ar).1 (comps (clean dest))

/-- general form: under the side conditions `runOK cfg fmt` of the variant -/
theorem preserve_under (cfg : Cfg) (fmt : Format) (dest : Str) (habs : dest.head? = some '/')
    (hd : comps (clean dest) ≠ []) (fs : FS) (hr : DestReady fs (comps (clean dest)))
    (hempty : TreeAt (comps (clean dest)) fs []) (ar : List Entry) (hok : runOK cfg fmt [] ar = true) :
    (extract cfg fmt dest fs ar).2 = none ∧ (specTree ar).2 = none ∧
    TreeAt (comps (clean dest)) (extract cfg fmt dest fs ar).1 (specTree ar).1 ∧
    DestReady (extract cfg fmt dest fs ar).1 (comps (clean dest)) := by
  obtain ⟨h1, h2, h3⟩ := run_rel cfg fmt dest habs hd ar fs [] ⟨hr, hempty⟩ hok
  exact ⟨h1, h2, h3.2, h3.1⟩

theorem preserve_under_of_bridge (cfg : Cfg) (fmt : Format) (dest : Str) (habs : dest.head? = some '/')
    (hd : comps (clean dest) ≠ []) (fs : FS) (hr : DestReady fs (comps (clean dest)))
    (hempty : TreeAt (comps (clean dest)) fs []) (ar : List Entry) (hok : runOK cfg fmt [] ar = true)
    (r : Option (FS × Option Extract.Err))
    (hbridge : (extract cfg fmt dest fs ar).2 = none → r = some ((extract cfg fmt dest fs ar).1, none)) :
    ∃ fs', r = some (fs', none) ∧ TreeAt (comps (clean dest)) fs' (specTree ar).1 ∧ DestReady fs' (comps (clean dest)) := by
  obtain ⟨h1, _, h3, h4⟩ := preserve_under cfg fmt dest habs hd fs hr hempty ar hok
  exact ⟨_, hbridge h1, h3, h4⟩

/-- **the repaired code preserves every well-formed archive, in both formats** -/
theorem preserve_fixed (fmt : Format) : Preserve Cfg.fixed fmt := by
  intro dest habs hd fs hr hempty ar hwf
  exact preserve_under Cfg.fixed fmt dest habs hd fs hr hempty ar hwf

def wfExample : List Entry :=
  [{ kind := .dir, name := "./".toList, data := [], link := [] },
   { kind := .reg, name := "./a/b/x".toList, data := [1, 2, 3], link := [] },
   { kind := .reg, name := "a/b/x".toList, data := [9], link := [] },
   { kind := .dir, name := "c/".toList, data := [], link := [] }]

example : wellFormed .tgz wfExample = true ∧ wellFormed .zip wfExample = true := by
  simp only [wfExample, String.reduceToList]; decide

theorem emptyDest_treeAt : TreeAt (comps (clean zipSlipDest)) emptyDestFS [] := by
  rw [zipSlipDest_clean]; exact treeAt_prefixes _

theorem not_preserve_of_error {cfg : Cfg} {fmt : Format} (ar : List Entry) (hwf : wellFormed fmt ar = true)
    (herr : (extract cfg fmt zipSlipDest emptyDestFS ar).2 ≠ none) : ¬ Preserve cfg fmt := fun h =>
  herr (h zipSlipDest (by rw [zipSlipDest_eq]; rfl) (by rw [zipSlipDest_clean, zipSlipDest_eq]; decide) emptyDestFS
    (by rw [zipSlipDest_clean]; exact destReady_prefixes _) emptyDest_treeAt ar hwf).1

/-- tar, `Cfg.current`: a `./` root entry (what `tar -C dir .` writes first) is rejected -/
theorem preserve_tar_counterexample : ¬ Preserve Cfg.current .tgz :=
  not_preserve_of_error
    [{ kind := .dir, name := "./".toList, data := [], link := [] },
     { kind := .reg, name := "./x".toList, data := [49], link := [] }]
    (by simp only [String.reduceToList]; decide)
    (by simp only [emptyDestFS, zipSlipDest_eq, String.reduceToList]; decide)

/-- tar, `Cfg.current`: a later, shorter entry of the same name keeps the tail of the earlier one
    (`os.OpenFile` without `O_TRUNC`): archived `x = "c"`, extracted `x = "cb"` -/
theorem tar_duplicate_stale_tail :
    let ar : List Entry := [{ kind := .reg, name := "x".toList, data := [97, 98], link := [] },
                            { kind := .reg, name := "x".toList, data := [99], link := [] }]
    wellFormed .tgz ar = true ∧
    lookup (specTree ar).1 ["x".toList] = some (.file [99]) ∧
    lookup (extract Cfg.current .tgz zipSlipDest emptyDestFS ar).1
      (comps (clean zipSlipDest) ++ ["x".toList]) = some (.file [99, 98]) := by
  simp only [emptyDestFS, zipSlipDest_eq, String.reduceToList]; decide

/-- tar, `Cfg.current`: preserved when no entry names the destination itself and no later duplicate is shorter
    (`runOK Cfg.current .tgz`, decidable) -/
theorem preserve_tar_partial (dest : Str) (habs : dest.head? = some '/') (hd : comps (clean dest) ≠ [])
    (fs : FS) (hr : DestReady fs (comps (clean dest))) (hempty : TreeAt (comps (clean dest)) fs [])
    (ar : List Entry) (hok : runOK Cfg.current .tgz [] ar = true) :
    (extract Cfg.current .tgz dest fs ar).2 = none ∧ (specTree ar).2 = none ∧
    TreeAt (comps (clean dest)) (extract Cfg.current .tgz dest fs ar).1 (specTree ar).1 ∧
    DestReady (extract Cfg.current .tgz dest fs ar).1 (comps (clean dest)) :=
  preserve_under Cfg.current .tgz dest habs hd fs hr hempty ar hok

example : runOK Cfg.current .tgz []
    [{ kind := .reg, name := "a/b/x".toList, data := [1], link := [] },
     { kind := .sym, name := "l".toList, data := [], link := [46, 46] },
     { kind := .reg, name := "a/b/x".toList, data := [2, 3], link := [] }] = true := by
  simp only [String.reduceToList]; decide

/-- zip, `Cfg.current`: an archive without directory entries fails (no `MkdirAll` of the parent) -/
theorem preserve_zip_counterexample : ¬ Preserve Cfg.current .zip :=
  not_preserve_of_error [{ kind := .reg, name := "a/b/x".toList, data := [49], link := [] }]
    (by simp only [String.reduceToList]; decide)
    (by simp only [emptyDestFS, zipSlipDest_eq, String.reduceToList]; decide)

/-- zip, `Cfg.current`: preserved when every file's parent directory was archived before it -/
theorem preserve_zip_partial (dest : Str) (habs : dest.head? = some '/') (hd : comps (clean dest) ≠ [])
    (fs : FS) (hr : DestReady fs (comps (clean dest))) (hempty : TreeAt (comps (clean dest)) fs [])
    (ar : List Entry) (hok : runOK Cfg.current .zip [] ar = true) :
    (extract Cfg.current .zip dest fs ar).2 = none ∧ (specTree ar).2 = none ∧
    TreeAt (comps (clean dest)) (extract Cfg.current .zip dest fs ar).1 (specTree ar).1 ∧
    DestReady (extract Cfg.current .zip dest fs ar).1 (comps (clean dest)) :=
  preserve_under Cfg.current .zip dest habs hd fs hr hempty ar hok

example : runOK Cfg.current .zip []
    [{ kind := .dir, name := "a/b/".toList, data := [], link := [] },
     { kind := .reg, name := "a/b/x".toList, data := [1], link := [] },
     { kind := .reg, name := "y".toList, data := [], link := [] }] = true := by
  simp only [String.reduceToList]; decide

/-! ## 5. The lock protocol of `checkDownloadAndExtractLib`, all interleavings, any number of processes -/

/-- at most one process extracts at any time -/
def LockOneExtractor (allowFail : Bool) : Prop :=
  ∀ (K : Nat) (s : State), Reach K allowFail s →
    ∀ p q, extracting (s.pc p) = true → extracting (s.pc q) = true → p = q

/-- whenever `dst` exists it is one complete copy: all `K` chunks, written by a single process -/
def LockCompleteCopy (allowFail : Bool) : Prop :=
  ∀ (K : Nat) (s : State), Reach K allowFail s → ∀ t, s.dst = some t → ∃ w, t = List.replicate K w

/-- **no failures ⇒ mutual exclusion**, over all interleavings of any number of processes — including the
    interleavings in which a lock file is unlinked while other processes still wait on its inode -/
theorem lock_one_extractor_partial : LockOneExtractor false :=
  fun _ _ hr _ _ hp hq => (inv_reach hr).unique hp hq

/-- **no failures ⇒ `dst` is only ever a complete copy** -/
theorem lock_complete_copy_partial : LockCompleteCopy false :=
  fun _ _ hr t ht => (inv_reach hr).dst_complete t ht

/-- no failures: at most one extraction (= one download) is ever started -/
theorem lock_one_download (K : Nat) (s : State) (hr : Reach K false s) : s.started ≤ 1 := by
  have inv := inv_reach hr
  cases hd : s.dst with
  | some t => rw [inv.started_dst t hd]; exact Nat.le_refl 1
  | none =>
    by_cases h : ∀ p, began (s.pc p) = false
    · rw [inv.started_zero hd h]; exact Nat.zero_le 1
    · obtain ⟨p, hp⟩ := Classical.not_forall.1 h
      rw [(inv.loc p).started_one (Bool.not_eq_false _ ▸ hp)]; exact Nat.le_refl 1

/-- no failures: **after any release `dst` exists** (and the releasing call reports success) -/
theorem lock_release_dst (K : Nat) (s : State) (hr : Reach K false s) (p : Nat) (h : late (s.pc p) = true) :
    s.dst.isSome = true ∧ failed (s.pc p) = false := by
  have inv := inv_reach hr
  refine ⟨?_, (inv.loc p).no_failure⟩
  cases hd : s.dst with
  | some t => rfl
  | none => have := (inv.loc p).early_pc hd; rw [h] at this; cases this

/-- with or without failures: once every caller has returned the lock file is gone -/
theorem lockfile_removed (K : Nat) (b : Bool) (s : State) (hr : Reach K b s) (hq : ∀ p, idle (s.pc p) = true) :
    s.lockFile = none := by
  have g := ginv_reach hr
  cases hl : s.lockFile with
  | none => rfl
  | some i =>
    obtain ⟨q, hqo⟩ := g.lockfile_open i hl
    rw [(idle_outside (hq q)).2] at hqo; cases hqo

/-- no failures: **when every caller has returned, exactly one complete copy is left** — `dst` is complete,
    every call reported success, one extraction was run, and neither the lock file nor the two temporary
    directories remain -/
theorem lock_quiescent (K : Nat) (s : State) (hr : Reach K false s) (hq : ∀ p, idle (s.pc p) = true)
    (p : Nat) (ok : Bool) (hp : s.pc p = .done ok) :
    ok = true ∧ (∃ w, s.dst = some (List.replicate K w)) ∧ s.started = 1 ∧
    s.lockFile = none ∧ s.tmp = none ∧ s.ext = none := by
  have inv := inv_reach hr
  have hnoext : ∀ q, extracting (s.pc q) = false := fun q => (idle_outside (hq q)).1
  have hlate : late (s.pc p) = true := by rw [hp]; rfl
  obtain ⟨hdst, hnf⟩ := lock_release_dst K s hr p hlate
  obtain ⟨t, ht⟩ := Option.isSome_iff_exists.1 hdst
  obtain ⟨w, hw⟩ := inv.dst_complete t ht
  refine ⟨?_, ⟨w, by rw [ht, hw]⟩, inv.started_dst t ht, lockfile_removed K false s hr hq, (inv.idle_clean hnoext).1,
    (inv.idle_clean hnoext).2⟩
  rw [hp] at hnf; revert hnf; cases ok <;> simp [failed]

example : idle (PC.done true) = true ∧ late (PC.done true) = true := by decide

/-- **with or without failures**: the `flock` is exclusive *per inode* — two processes that hold the lock on
    the same inode are the same process -/
theorem flock_exclusive_per_inode (K : Nat) (b : Bool) (s : State) (hr : Reach K b s) (p q i : Nat)
    (hp : holds (s.pc p) i = true) (hq : holds (s.pc q) i = true) : p = q := by
  have g := ginv_reach hr
  have h1 := (g.holder i p).2 hp
  have h2 := (g.holder i q).2 hq
  rw [h1] at h2; cases h2; rfl

/-- **no deadlock**, with or without failures: as long as some caller has not returned, some caller that has not
    returned can take a step (a caller blocked in `flock` waits for a holder that is itself able to move) -/
theorem lock_no_deadlock (K : Nat) (b : Bool) (s : State) (hr : Reach K b s) (p : Nat)
    (hp : ∀ ok, s.pc p ≠ .done ok) :
    ∃ q s', (∀ ok, s.pc q ≠ .done ok) ∧ ExtractLock.step K s q false = some s' :=
  progress hr p hp

example : ∀ ok, init.pc 0 ≠ PC.done ok := by intro ok h; cases h

/-- The unlink-after-unlock race.  Process 0 fails its download and releases: `LOCK_UN`, then `os.Remove`.
    Process 1 had opened the lock file before (inode 0) and gets the lock as soon as 0 unlocks; after 0's
    `os.Remove` process 2 creates a *new* lock file (inode 1) and locks it at once.  1 and 2 both extract. -/
def raceSchedule : List (Nat × Bool) :=
  [(0, false), (0, false), (0, false), (0, false), (0, false),   -- 0: stat, open (inode 0), flock, stat, mkTmp
   (1, false), (1, false),                                       -- 1: stat, open (inode 0)  … blocks in flock
   (0, true), (0, false),                                        -- 0: download fails; LOCK_UN
   (1, false), (1, false),                                       -- 1: flock(inode 0) granted, stat: absent
   (0, false),                                                   -- 0: os.Remove(lockPath)
   (2, false), (2, false), (2, false), (2, false)]               -- 2: stat, open (NEW inode 1), flock, stat: absent

/-- `raceSchedule`, then: 1 and 2 write into the same temp directory; 1 publishes a directory with a chunk missing -/
def raceSchedule2 : List (Nat × Bool) :=
  raceSchedule ++ [(1, false), (1, false), (2, false), (1, false), (1, false), (1, false), (1, false)]

/-- **a failing download breaks mutual exclusion** (the lock protocol itself, not the failure, lets the second
    and third caller in at the same time) -/
theorem lock_one_extractor_counterexample : ¬ LockOneExtractor true := by
  intro h
  obtain ⟨s, hr, hs⟩ := reach_of_run_obs (K := 1) (fun s => extracting (s.pc 1) && extracting (s.pc 2)) raceSchedule true
    (by decide)
  simp only [Bool.and_eq_true] at hs
  cases h 1 s hr 1 2 hs.1 hs.2

/-- **a failing download lets an incomplete copy be published** (`raceSchedule2`) -/
theorem lock_complete_copy_counterexample : ¬ LockCompleteCopy true := by
  intro h
  obtain ⟨s, hr, hs⟩ := reach_of_run_obs (K := 2) (fun s => s.dst) raceSchedule2 (some [1]) (by decide)
  obtain ⟨w, hw⟩ := h 2 s hr [1] hs
  have := congrArg List.length hw
  simp at this

/-! ## 6. The container layer: from the bytes of the archive file to the entries -/

/-- **a `.gz` file is the concatenation of its members, and the reader delivers the concatenation of their
    payloads**: for every non-empty list of members — any optional header fields, any cut of each payload into
    stored blocks — `gzip.NewReader` succeeds and the stream read to its end is `payload₁ ++ payload₂ ++ …`,
    ending in a clean `io.EOF`. -/
theorem gunzip_members (m : GzMember) (ms : List GzMember) (hm : m.WF) (hms : ∀ x ∈ ms, x.WF) :
    Gzip.gunzip true (gzFile (m :: ms)) = .ok ⟨(m :: ms).flatMap GzMember.payload, none⟩ :=
  Gzip.gunzip_gzFile m ms hm hms

def gzExample : GzMember :=
  { text := false, extra := some [1, 2], name := some [115, 100, 107], comment := none, hcrc := true, mtime := 1700000000,
    xfl := 0, os := 3, blocks := [[1, 2, 3], []], last := [4] }

example : gzExample.WF :=
  ⟨(by intro b h; cases h; decide), (by intro b h; cases h; decide), (by intro b h; cases h), (by decide), (by decide)⟩

/-- a reader that stops after the first member (`Multistream(false)`) delivers the first payload only — the
    later members' files would silently be missing.  `extractTarGz` must not do that (`gunzip_members` is what the
    model of the code as it is says; the correspondence runs hold the real code to it). -/
theorem gunzip_first_member_only (m : GzMember) (ms : List GzMember) (hm : m.WF) :
    Gzip.gunzip false (gzFile (m :: ms)) = .ok ⟨m.payload, none⟩ :=
  Gzip.gunzip_single_gzFile m ms hm

/-- **the extraction result does not depend on how the tar stream is cut into gzip members**: two files whose
    members' payloads concatenate to the same stream are extracted identically (same tree, same error status),
    whatever the stream is — well-formed tar or not. -/
theorem extractTarGz_cut_independent (cfg : Cfg) (dest : Str) (fs : FS)
    (m : GzMember) (ms : List GzMember) (m' : GzMember) (ms' : List GzMember)
    (hm : m.WF) (hms : ∀ x ∈ ms, x.WF) (hm' : m'.WF) (hms' : ∀ x ∈ ms', x.WF)
    (hsame : (m :: ms).flatMap GzMember.payload = (m' :: ms').flatMap GzMember.payload) :
    Tar.extractTarGzBytes cfg dest fs (gzFile (m :: ms)) = Tar.extractTarGzBytes cfg dest fs (gzFile (m' :: ms')) := by
  unfold Tar.extractTarGzBytes
  rw [gunzip_members m ms hm hms, gunzip_members m' ms' hm' hms', hsame]

example : ([gzExample, { gzExample with blocks := [], last := [] }].flatMap GzMember.payload) =
    ([{ gzExample with blocks := [[1], [2]], last := [3, 4] }].flatMap GzMember.payload) := by decide

/-- **tar framing**: the members come back in order with their names (of any length: GNU long-name members are
    resolved) and contents, and **what follows the end-of-archive marker is ignored** — `tail` is two zero blocks
    followed by anything (`EndsArchive.marker junk tl`, even a reader error `tl` behind it), a single zero block
    at the end of the stream, or the bare end of the stream at a member boundary. -/
theorem readTar_members (ms : List TarMember) (hwf : ∀ m ∈ ms, m.WF) (tail : Gzip.Bytes) (tl : Option Gzip.Err)
    (hend : Tar.EndsArchive tail tl) :
    Tar.readTar ⟨tarStream ms ++ tail, tl⟩ = (ms.map TarMember.entry, .eof) :=
  Tar.readTar_tarStream ms hwf tail tl hend

def tarExample : List TarMember :=
  [{ kind := .dir, name := Tar.bytesOf "sdk/", data := [] },
   { kind := .reg, name := Tar.bytesOf "sdk/" ++ List.replicate 120 120 ++ Tar.bytesOf "/clang", data := [1, 2, 3] }]

set_option maxRecDepth 20000 in
example : ∀ m ∈ tarExample, m.WF := by
  intro m hm
  simp only [tarExample, Tar.bytesOf, String.reduceToList, List.mem_cons, List.mem_nil_iff, or_false] at hm
  rcases hm with rfl | rfl <;> exact ⟨by decide, by decide, by decide⟩

/-- **from the bytes to the entries**: a file made of gzip members (cut anywhere) whose payloads concatenate to a
    written tar stream is extracted exactly as the entry-level model extracts the list of entries the stream
    means — so every theorem of sections 3 and 4 about lists of entries is a theorem about archive files. -/
theorem extractTarGz_bytes_entries (cfg : Cfg) (dest : Str) (fs : FS)
    (m : GzMember) (ms : List GzMember) (hm : m.WF) (hms : ∀ x ∈ ms, x.WF)
    (tms : List TarMember) (hwf : ∀ t ∈ tms, t.WF) (tail : Gzip.Bytes) (hend : Tar.EndsArchive tail none)
    (hpay : (m :: ms).flatMap GzMember.payload = tarStream tms ++ tail) :
    Tar.extractTarGzBytes cfg dest fs (gzFile (m :: ms)) =
      some (extract cfg .tgz dest fs (tms.map TarMember.entry)) := by
  unfold Tar.extractTarGzBytes
  rw [gunzip_members m ms hm hms, hpay]
  simp only [readTar_members tms hwf tail none hend, Tar.finish_eof]

/-- **preservation, from the bytes**: for a well-formed archive (the entries the members mean are `wellFormed`),
    written with names of any length, closed in any of the three ways, and cut into gzip members anywhere, the
    repaired code recreates exactly the archived tree `specTree` below the destination. -/
theorem extractTarGz_bytes_preserve (dest : Str) (habs : dest.head? = some '/') (hd : comps (clean dest) ≠ [])
    (fs : FS) (hr : DestReady fs (comps (clean dest))) (hempty : TreeAt (comps (clean dest)) fs [])
    (m : GzMember) (ms : List GzMember) (hm : m.WF) (hms : ∀ x ∈ ms, x.WF)
    (tms : List TarMember) (hwf : ∀ t ∈ tms, t.WF) (tail : Gzip.Bytes) (hend : Tar.EndsArchive tail none)
    (hpay : (m :: ms).flatMap GzMember.payload = tarStream tms ++ tail)
    (hok : wellFormed .tgz (tms.map TarMember.entry) = true) :
    ∃ fs', Tar.extractTarGzBytes Cfg.fixed dest fs (gzFile (m :: ms)) = some (fs', none) ∧
      TreeAt (comps (clean dest)) fs' (specTree (tms.map TarMember.entry)).1 ∧
      DestReady fs' (comps (clean dest)) := by
  refine preserve_under_of_bridge Cfg.fixed .tgz dest habs hd fs hr hempty _ hok _ fun h1 => ?_
  rw [extractTarGz_bytes_entries Cfg.fixed dest fs m ms hm hms tms hwf tail hend hpay]
  exact congrArg some (Prod.ext rfl h1)

set_option maxRecDepth 20000 in
example : wellFormed .tgz (tarExample.map TarMember.entry) = true := by
  simp only [tarExample, Tar.bytesOf, String.reduceToList]; decide

/-- **confinement, for every byte string whatsoever**: whatever the bytes of the file are — valid, truncated,
    damaged, hostile — and whichever way the readers stop, whenever the model answers at all, every path that is
    not strictly below the destination is as it was. -/
theorem extractTarGz_bytes_confined (cfg : Cfg) (dest : Str) (habs : dest.head? = some '/') (fs : FS)
    (hr : DestReady fs (comps (clean dest))) (file : Gzip.Bytes) (fs' : FS) (e : Option Extract.Err)
    (h : Tar.extractTarGzBytes cfg dest fs file = some (fs', e)) :
    ∀ q, ¬ Under (comps (clean dest)) q → lookup fs' q = lookup fs q := by
  unfold Tar.extractTarGzBytes at h
  cases hg : Gzip.gunzip true file with
  | error _ => rw [hg] at h; cases h; exact fun _ _ => rfl
  | ok s =>
    rw [hg] at h
    have hframe := extractTarGz_confined cfg dest habs fs hr (Tar.readTar s).1
    rcases Tar.finish_fs h with rfl | ⟨ent, hstep⟩
    · exact hframe
    · exact Frame.trans hframe
        (guarded_step_frame cfg .tgz (.inl rfl) dest habs _ fs' ent (hr.of_frame hframe) hstep)

/-- **zip framing**: `zip.OpenReader` on a written file delivers the members **in the order of the central
    directory** — whatever the order of the local records, whether some local records are named by no central
    header (they are ignored) or by two (they appear twice), and with the kind (directory or not) read off the
    creator's attribute convention or a trailing `/`. -/
theorem readZip_members (ls : List ZipLocal) (cs : List ZipCentral) (wf : ZipWF ls cs) :
    Zip.readZip (zipFile ls cs) = .ok (cs.map (ZipCentral.entry ls)) :=
  Zip.readZip_zipFile ls cs wf

def zipExampleLocals : List ZipLocal :=
  [{ name := Tar.bytesOf "orphan", extra := [], data := [9] },
   { name := Tar.bytesOf "sdk/x", extra := [1, 0, 0, 0], data := [1, 2, 3] },
   { name := Tar.bytesOf "sdk", extra := [], data := [] }]

/-- the central directory names the directory first although its local record comes last, leaves the first local
    record out, and marks the directory by the MS-DOS attribute only (creator FAT: `creator / 256 = 0`, 16 = `msdosDir`).
    The second: 768 = creator Unix (3 in the upper byte); 33188 = 0o100644, a regular file's Unix mode in the upper
    16 bits of `extAttrs`. -/
def zipExampleCentral : List ZipCentral :=
  [{ idx := 2, creator := 20, extAttrs := 16, extra := [], comment := [] },
   { idx := 1, creator := 768 + 30, extAttrs := 33188 * 65536, extra := [], comment := [104, 105] }]

set_option maxRecDepth 20000 in
example : ZipWF zipExampleLocals zipExampleCentral := by
  simp only [zipExampleLocals, Tar.bytesOf, String.reduceToList]
  exact ⟨by decide, by decide, by decide, by decide, by decide, by decide⟩

/-- **from the bytes to the entries (zip)**: when the members of a written file mean the entries `es`, and the
    entry-level loop succeeds on `es`, `extractZip` on the bytes of the file produces the same file system. -/
theorem extractZip_bytes_entries (cfg : Cfg) (dest : Str) (fs : FS)
    (ls : List ZipLocal) (cs : List ZipCentral) (wf : ZipWF ls cs) (es : List Entry)
    (hmean : cs.map (ZipCentral.entry ls) = es.map Zip.ofEntry)
    (hok : (extract cfg .zip dest fs es).2 = none) :
    Zip.extractZipBytes cfg dest fs (zipFile ls cs) = some ((extract cfg .zip dest fs es).1, none) := by
  unfold Zip.extractZipBytes
  rw [readZip_members ls cs wf, hmean]
  exact Zip.runZip_ofEntry cfg dest es fs hok

/-- **preservation, from the bytes (zip)**: a written zip file whose members mean a well-formed list of entries is
    recreated exactly as the archived tree `specTree`, whatever the order of its local records. -/
theorem extractZip_bytes_preserve (dest : Str) (habs : dest.head? = some '/') (hd : comps (clean dest) ≠ [])
    (fs : FS) (hr : DestReady fs (comps (clean dest))) (hempty : TreeAt (comps (clean dest)) fs [])
    (ls : List ZipLocal) (cs : List ZipCentral) (wf : ZipWF ls cs) (es : List Entry)
    (hmean : cs.map (ZipCentral.entry ls) = es.map Zip.ofEntry) (hok : wellFormed .zip es = true) :
    ∃ fs', Zip.extractZipBytes Cfg.fixed dest fs (zipFile ls cs) = some (fs', none) ∧
      TreeAt (comps (clean dest)) fs' (specTree es).1 ∧ DestReady fs' (comps (clean dest)) := by
  exact preserve_under_of_bridge Cfg.fixed .zip dest habs hd fs hr hempty es hok _
    (extractZip_bytes_entries Cfg.fixed dest fs ls cs wf es hmean)

set_option maxRecDepth 20000 in
example : zipExampleCentral.map (ZipCentral.entry zipExampleLocals) =
    [({ kind := .dir, name := "sdk".toList, data := [], link := [] } : Entry),
     { kind := .reg, name := "sdk/x".toList, data := [1, 2, 3], link := [] }].map Zip.ofEntry := by
  simp only [zipExampleLocals, Tar.bytesOf, String.reduceToList]; decide

/-- **confinement, for every byte string whatsoever (zip)**: with the guard, whatever the bytes of the file are and
    however `zip.OpenReader`, `Open` or the copy fail, every path not strictly below the destination is as it was. -/
theorem extractZip_bytes_confined (cfg : Cfg) (hg : cfg.zipGuard = true) (dest : Str) (habs : dest.head? = some '/')
    (fs : FS) (hr : DestReady fs (comps (clean dest))) (file : Gzip.Bytes) (fs' : FS) (e : Option Extract.Err)
    (h : Zip.extractZipBytes cfg dest fs file = some (fs', e)) :
    ∀ q, ¬ Under (comps (clean dest)) q → lookup fs' q = lookup fs q := by
  unfold Zip.extractZipBytes at h
  cases hz : Zip.readZip file with
  | err _ => rw [hz] at h; cases h; exact fun _ _ => rfl
  | unsupported => rw [hz] at h; cases h
  | ok es =>
    rw [hz] at h
    exact Zip.runZip_frame cfg hg dest habs es fs fs' e hr h

end LlgoVerif.C20
