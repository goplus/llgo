import LlgoVerif.Lemmas.Layout
/-!
# C08 — type size, alignment and field offsets agree wherever they are computed: (a) `goSizes`, (b) `llvmLayout`,
(c) `abiTable`
-/
namespace LlgoVerif.Layout

/-- **Full statement of the property for one target**: for every Go type the compile-time numbers (a) and the
    descriptor numbers (c) are the numbers generated code uses (b) — size, alignment, every field offset. -/
def LayoutAgree (tg : Target) : Prop :=
  ∀ t, goSizes tg t = llvmLayout tg t ∧ abiTable tg t = llvmLayout tg t

/-! ## what holds -/

/-- **(a) = (b)** on every well-formed target (`wfTarget`, decidable: gc-style, basic alignments equal to LLVM's,
    word = pointer = `MaxAlign` ∈ {4, 8}), for every type in which gc does not pad a zero-size tail (`padFree`,
    decidable): `unsafe.Sizeof/Alignof/Offsetof` fold to the size, alignment and field offsets of the LLVM type. -/
theorem layout_agree_go (tg : Target) (h : wfTarget tg = true) (t : GoType) (hp : padFree tg t = true) :
    goSizes tg t = llvmLayout tg t :=
  go_eq_ll h hp

/-- **(c) = (b)** when in addition the descriptor table's alignment of each basic kind equals LLVM's (`abiOK`):
    descriptor size, alignment and field offsets are those of the LLVM type. -/
theorem layout_agree_abi (tg : Target) (h : wfTarget tg = true) (ha : abiOK tg = true) (t : GoType)
    (hp : padFree tg (toRaw t) = true) : abiTable tg t = llvmLayout tg t :=
  abi_eq_ll h 1 ha hp

/-- **(c) = (b) with `fixes/C08-1.diff`** (the descriptor table takes the alignment of 8-byte kinds from the data
    layout): holds on every well-formed target, 386 included. -/
theorem layout_agree_abi_fixed (tg : Target) (h : wfTarget tg = true) (t : GoType)
    (hp : padFree tg (toRaw t) = true) : abiTableFixed tg t = llvmLayout tg t :=
  abi_eq_ll h 1 (abiOKG_fixed h) hp

/-- the raw conversion (function value → closure struct) keeps a type free of padded zero-size tails -/
theorem padFree_raw (tg : Target) (h : wfTarget tg = true) (t : GoType) (hp : padFree tg t = true) :
    padFree tg (toRaw t) = true :=
  padFree_toRaw h hp

/-- **The property, as far as it is true of the current code** (all three computations, every type term). -/
theorem layout_agree_partial (tg : Target) (h : wfTarget tg = true) (ha : abiOK tg = true) (t : GoType)
    (hp : padFree tg t = true) :
    goSizes tg t = llvmLayout tg t ∧ abiTable tg t = llvmLayout tg t :=
  ⟨layout_agree_go tg h t hp, layout_agree_abi tg h ha t (padFree_raw tg h t hp)⟩

/-- **Referenced element descriptors** (full statement): the `Size_` of the descriptor a map, slice, chan, pointer,
    array or struct descriptor references for an element of type `t` is the size of a `t` in generated code. -/
def ElemDescAgree (tg : Target) (fw : Nat) : Prop := ∀ t, elemDescSize tg fw t = (llvmLayout tg t).size

/-- false for the code as it is (`fw = 1`), on every target: the descriptor of `func()` says one word, a function
    value is two (`map[int]func()` loses the closure context when it grows; `clear([]func())` clears half). -/
theorem elem_descriptor_counterexample :
    elemDescSize amd64 1 .func = 8 ∧ (llvmLayout amd64 .func).size = 16 ∧ (goSizes amd64 .func).size = 16 ∧
    ¬ ElemDescAgree amd64 1 ∧ ¬ ElemDescAgree arm64 1 ∧ ¬ ElemDescAgree i386 1 ∧ ¬ ElemDescAgree arm 1 ∧
    ¬ ElemDescAgree wasm 1 :=
  ⟨by decide, by decide, by decide, fun h => absurd (h .func) (by decide), fun h => absurd (h .func) (by decide),
   fun h => absurd (h .func) (by decide), fun h => absurd (h .func) (by decide), fun h => absurd (h .func) (by decide)⟩

/-- for the code as it is (`fw = 1`): every type that is not itself an unnamed function type -/
theorem elem_descriptor_agree_partial (tg : Target) (h : wfTarget tg = true) (t : GoType)
    (hp : padFree tg (toRaw t) = true) (hf : toRaw t ≠ .closure) :
    elemDescSize tg 1 t = (llvmLayout tg t).size :=
  (elemDesc_iff h 1 hp).2 (Or.inr hf)

/-- with `fixes/C08-2.diff` (`Builder.Size` of a signature = two words): every type -/
theorem elem_descriptor_agree_fixed (tg : Target) (h : wfTarget tg = true) (t : GoType)
    (hp : padFree tg (toRaw t) = true) : elemDescSize tg 2 t = (llvmLayout tg t).size :=
  (elemDesc_iff h 2 hp).2 (Or.inl rfl)

/-- Go's `FieldAlign` returns `b.Align(t)`: `rfl` in the model; on the real numbers it is step 3 of the check. -/
theorem abi_fieldAlign (tg : Target) (t : GoType) : abiFieldAlign tg t = abiAlign tg t := rfl

theorem wfTarget_iff {tg : Target} : wfTarget tg = true ↔ tg = gcTarget 4 ∨ tg = gcTarget 8 := by
  constructor
  · intro h
    obtain ⟨p, rfl | rfl, rfl⟩ := wfTarget_gc h
    · exact Or.inl rfl
    · exact Or.inr rfl
  · rintro (rfl | rfl) <;> decide

theorem wfTarget_amd64 : wfTarget amd64 = true := wfTarget_iff.2 (Or.inr rfl)
theorem wfTarget_arm64 : wfTarget arm64 = true := wfTarget_iff.2 (Or.inr rfl)
theorem wfTarget_386 : wfTarget i386 = true := wfTarget_iff.2 (Or.inl rfl)
theorem abiOK_amd64 : abiOK amd64 = true := by decide
theorem abiOK_arm64 : abiOK arm64 = true := by decide
theorem wfTarget_arm_false : wfTarget arm = false := by decide
theorem wfTarget_wasm_false : wfTarget wasm = false := by decide
theorem abiOK_386_false : abiOK i386 = false := by decide

/-- `wfTarget_iff.1`: every alignment is `min size ptrSize` -/
theorem wfTarget_shape (tg : Target) (h : wfTarget tg = true) : tg = gcTarget 4 ∨ tg = gcTarget 8 :=
  wfTarget_iff.1 h

/-- map descriptors: `KeySize`, `ValueSize` are the LLVM sizes of a key / element slot (the value, or a pointer when it
    is larger than 128 bytes: `MAXKEYSIZE`/`MAXELEMSIZE` of ssa/abi/map.go = `abi.MapMaxKeyBytes`/`MapMaxElemBytes`)
    and `BucketSize` is the LLVM size of the bucket struct -/
theorem map_sizes_agree (tg : Target) (h : wfTarget tg = true) (ha : abiOK tg = true) (k v : GoType)
    (hk : padFree tg (toRaw k) = true) (hv : padFree tg (toRaw v) = true)
    (hb : padFree tg (toRaw (mapBucket tg (toRaw k) (toRaw v))) = true) :
    mapSizes tg k v = (slotSize tg (llvmLayout tg k).size, slotSize tg (llvmLayout tg v).size,
      (llvmLayout tg (mapBucket tg (toRaw k) (toRaw v))).size) := by
  have e1 := congrArg Layout.size (layout_agree_abi tg h ha k hk)
  have e2 := congrArg Layout.size (layout_agree_abi tg h ha v hv)
  have e3 := congrArg Layout.size (layout_agree_abi tg h ha _ hb)
  simp only [abiTable, toRaw_mapBucket] at e1 e2 e3
  simp only [mapSizes, e1, e2, e3]

/-! ## hypotheses are satisfiable (non-vacuity) -/

/-- `struct{ a int8; f func(); g [3]func(); s string; x int64; c complex128 }` -/
def exStruct : GoType :=
  .struct (.cons (.basic .int8) (.cons .func (.cons (.array 3 .func) (.cons (.basic .string)
    (.cons (.basic .int64) (.cons (.basic .complex128) .nil))))))

example : wfTarget amd64 = true ∧ abiOK amd64 = true ∧ padFree amd64 exStruct = true ∧
    padFree amd64 (toRaw exStruct) = true := by decide
example : goSizes amd64 exStruct = ⟨112, 8, [0, 8, 24, 72, 88, 96]⟩ ∧ goSizes i386 exStruct = ⟨68, 4, [0, 4, 12, 36, 44, 52]⟩ := by decide
example : toRaw exStruct ≠ .closure ∧ toRaw (.named .func) ≠ .closure := by simp [exStruct, toRaw]
example : wfTarget i386 = true ∧ padFree i386 exStruct = true ∧ padFree i386 (toRaw exStruct) = true := by decide
example : abiTableFixed i386 (.basic .int64) = ⟨8, 4, []⟩ ∧ abiTable i386 (.basic .int64) = ⟨8, 8, []⟩ := by decide
example : padFree amd64 (toRaw (mapBucket amd64 (toRaw (.basic .string)) (toRaw exStruct))) = true := by decide

/-! ## what does not hold: the full statement is false on every target -/

/-- `struct{ int8; int64 }` -/
def sI8I64 : GoType := .struct (.cons (.basic .int8) (.cons (.basic .int64) .nil))
/-- `struct{ int64; struct{} }`: a zero-size last field -/
def sZeroTail : GoType := .struct (.cons (.basic .int64) (.cons (.struct .nil) .nil))
/-- `struct{ struct{ int32; int8 }; int8 }`: a nested struct with tail padding -/
def sNestedTail : GoType :=
  .struct (.cons (.struct (.cons (.basic .int32) (.cons (.basic .int8) .nil))) (.cons (.basic .int8) .nil))

/-- arm: gc sizes align `int64` to 4, the LLVM data layout (`i64:64`) to 8 -/
theorem layout_arm_witness : goSizes arm sI8I64 = ⟨12, 4, [0, 4]⟩ ∧ llvmLayout arm sI8I64 = ⟨16, 8, [0, 8]⟩ ∧
    abiTable arm sI8I64 = ⟨12, 8, [0, 8]⟩ := by decide
theorem layout_agree_counterexample_arm : ¬ LayoutAgree arm :=
  fun h => absurd (h sI8I64).1 (by decide)

/-- wasm: `StdSizes{WordSize: 4, MaxAlign: 4}` (internal/build/build.go) against `i64:64` -/
theorem layout_wasm_witness : goSizes wasm sI8I64 = ⟨12, 4, [0, 4]⟩ ∧ llvmLayout wasm sI8I64 = ⟨16, 8, [0, 8]⟩ ∧
    abiTable wasm sI8I64 = ⟨12, 8, [0, 8]⟩ := by decide
theorem layout_agree_counterexample_wasm : ¬ LayoutAgree wasm :=
  fun h => absurd (h sI8I64).1 (by decide)

/-- wasm, second cause: `StdSizes` does not pad a nested struct to its alignment, LLVM does -/
theorem layout_wasm_nested_tail_witness :
    goSizes wasm sNestedTail = ⟨8, 4, [0, 5]⟩ ∧ llvmLayout wasm sNestedTail = ⟨12, 4, [0, 8]⟩ := by decide

def wasmMaxAlign8 : Target := { wasm with maxAlign := 8 }
/-- `struct{ func(); int64 }` -/
def sFuncI64 : GoType := .struct (.cons .func (.cons (.basic .int64) .nil))
/-- the candidate repair `MaxAlign: 8` for wasm moves the disagreement to `struct{ func(); int64 }`: the bulk
    `extraSize` correction (+4) breaks the 8-byte alignment -/
theorem wasm_maxalign8_not_a_fix :
    goSizes wasmMaxAlign8 sI8I64 = llvmLayout wasmMaxAlign8 sI8I64 ∧
    goSizes wasmMaxAlign8 sFuncI64 = ⟨24, 8, [0, 12]⟩ ∧ llvmLayout wasmMaxAlign8 sFuncI64 = ⟨16, 8, [0, 8]⟩ ∧
    (goSizes wasm sFuncI64).size = (llvmLayout wasm sFuncI64).size := by decide

/-- 386: the descriptor table says alignment 8 for `int64`, compile time and LLVM say 4 -/
theorem layout_386_witness : goSizes i386 (.basic .int64) = ⟨8, 4, []⟩ ∧ llvmLayout i386 (.basic .int64) = ⟨8, 4, []⟩ ∧
    abiTable i386 (.basic .int64) = ⟨8, 8, []⟩ := by decide
theorem layout_agree_counterexample_386 : ¬ LayoutAgree i386 :=
  fun h => absurd (h (.basic .int64)).2 (by decide)

/-- amd64 / arm64 (every gc-style target): gc pads a zero-size last field, LLVM does not -/
theorem layout_zero_tail_witness : goSizes amd64 sZeroTail = ⟨16, 8, [0, 8]⟩ ∧ llvmLayout amd64 sZeroTail = ⟨8, 8, [0, 8]⟩ ∧
    abiTable amd64 sZeroTail = ⟨16, 8, [0, 8]⟩ := by decide
theorem layout_agree_counterexample_amd64 : ¬ LayoutAgree amd64 :=
  fun h => absurd (h sZeroTail).1 (by decide)
theorem layout_agree_counterexample_arm64 : ¬ LayoutAgree arm64 :=
  fun h => absurd (h sZeroTail).1 (by decide)

/-- `padFree` is exact for a struct's own tail: on a well-formed target, a struct whose fields are `padFree` but whose
    tail is padded by gc has a compile-time size different from its LLVM size. -/
theorem zero_tail_disagrees (tg : Target) (h : wfTarget tg = true) (fs : Fields) (hf : padFrees tg fs = true)
    (ht : tailOK (stdSAs tg fs) = false) :
    (goSizes tg (.struct fs)).size ≠ (llvmLayout tg (.struct fs)).size :=
  Nat.ne_of_gt (zero_tail_size_lt h hf ht)

example : wfTarget amd64 = true ∧ padFrees amd64 (.cons (.basic .int64) (.cons (.struct .nil) .nil)) = true ∧
    tailOK (stdSAs amd64 (.cons (.basic .int64) (.cons (.struct .nil) .nil))) = false := by decide

/-! ## `PtrBytes` (the prefix of a value that can hold pointers) -/

/-- `struct{ p *int; n int }` and `struct{ s string; p *int; n [4]int }`: without `fixes/C08-4.diff` the code records
    0 and 16 (the pointer-free LAST field overwrites `bytes`), the repaired loop 8 and 24 -/
theorem ptrBytes_counterexample :
    let s1 : GoType := .struct (.cons (.pointer (.basic .int)) (.cons (.basic .int) .nil))
    let s2 : GoType := .struct (.cons (.basic .string) (.cons (.pointer (.basic .int)) (.cons (.array 4 (.basic .int)) .nil)))
    ptrBytesG amd64 false s1 = 0 ∧ ptrBytesG amd64 true s1 = 8 ∧ hasPtrs s1 = true ∧
    ptrBytesG amd64 false s2 = 16 ∧ ptrBytesG amd64 true s2 = 24 := by decide

/-- both variants agree when the last field is the last one with pointers -/
theorem structPtrBytes_last (pbs offs : List Nat) (h : lastNonZero pbs = some (pbs.length - 1)) :
    structPtrBytes false pbs offs = structPtrBytes true pbs offs := by
  unfold structPtrBytes
  rw [h]
  simp only [Bool.false_eq_true, if_false, if_true, List.getLastD_eq_getLast?, List.getLast?_eq_getElem?,
    List.getD_eq_getElem?_getD]

example : lastNonZero [0, 8, 16] = some ([0, 8, 16].length - 1) := by decide

/-! ## aliases -/

/-- `type F = func(); struct{ f F; x int }`: without `fixes/C08-3.diff` `extraSize` does not look through the alias -/
def sAliasFunc : GoType := .struct (.cons (.alias .func) (.cons (.basic .int) .nil))

theorem layout_alias_witness : goSizes amd64 sAliasFunc = ⟨16, 8, [0, 8]⟩ ∧ llvmLayout amd64 sAliasFunc = ⟨24, 8, [0, 16]⟩ ∧
    abiTable amd64 sAliasFunc = ⟨24, 8, [0, 16]⟩ ∧ padFree amd64 sAliasFunc = false := by decide

/-- an alias of a type without function values is harmless (covered by `layout_agree_partial`) -/
example : padFree amd64 (.struct (.cons (.alias (.basic .int64)) (.cons (.alias (.struct .nil)) (.cons (.basic .int8) .nil)))) = true := by
  decide

/-! ## `unsafe.Offsetof` in instances of generic functions (`cl/instr.go`) -/

/-- **Per-instance `unsafe.Offsetof`** computes the Go-spec value for every selector chain: the offset of the selected
    field plus the offsets of exactly those parents that were inserted for promotion (up to the first selector written
    in the source).  (A statement about the chain of offsets only: that they are LLVM's is `fieldAt`'s definition.) -/
theorem generic_offsetof_spec (sel : Nat) (ps : List Step) : chainOffset sel ps = specOffset sel ps :=
  chainOffset_eq_spec ps sel

/-- `Offsetof(x.a.b)` with `a` written in the source is relative to `x.a`. -/
theorem generic_offsetof_explicit (sel o : Nat) (ps : List Step) : chainOffset sel (⟨o, true⟩ :: ps) = sel := rfl

/-- A promoted field adds the offset of every embedded struct it is reached through. -/
theorem generic_offsetof_promoted (sel o1 o2 : Nat) (ps : List Step) :
    chainOffset sel (⟨o1, false⟩ :: ⟨o2, false⟩ :: ⟨0, true⟩ :: ps) = sel + o1 + o2 := rfl

/-- `rec[int32]`: `struct{ A int64; B int32; h struct{ pad int32; len byte; w int32 } }`: `Offsetof(v.h.len)` = 4 -/
example : genericOffsetof amd64
    (.struct (.cons (.basic .int64) (.cons (.basic .int32)
      (.cons (.struct (.cons (.basic .int32) (.cons (.basic .uint8) (.cons (.basic .int32) .nil)))) .nil))))
    [(2, true), (1, true)] = some 4 := by decide

/-! ## C-compatible structs -/

/-- **For C-compatible types the LLVM layout is the natural C layout** (member at the lowest multiple of its
    alignment, scalar alignment = `min size cmax`, size rounded up to the largest member alignment), on every target
    whose LLVM scalar sizes/alignments are the natural ones (`wfC`, decidable). -/
theorem cLayout_agree (tg : Target) (cmax : Nat) (h : wfC tg cmax = true) (t : GoType) (hc : isC t = true) :
    llvmLayout tg t = cLayout tg cmax t := ll_eq_c h t hc

/-! `cmax` = the psABI's cap on scalar alignment (i386 System V: 4; the others: 8) -/

theorem wfC_amd64 : wfC amd64 8 = true := by decide
theorem wfC_arm64 : wfC arm64 8 = true := by decide
theorem wfC_386 : wfC i386 4 = true := by decide
theorem wfC_arm : wfC arm 8 = true := by decide
theorem wfC_wasm : wfC wasm 8 = true := by decide

/-- `struct{ int8; int64; struct{ bool; complex128 }; [3]int16; *T }` -/
def exC : GoType :=
  .struct (.cons (.basic .int8) (.cons (.basic .int64) (.cons (.struct (.cons (.basic .bool) (.cons (.basic .complex128) .nil)))
    (.cons (.array 3 (.basic .int16)) (.cons (.pointer (.basic .int8)) .nil)))))
example : isC exC = true ∧ cLayout amd64 8 exC = ⟨56, 8, [0, 8, 16, 40, 48]⟩ := by decide

/-- so, on amd64/arm64/386, compile-time numbers of pad-free C-compatible types are the C compiler's -/
theorem go_eq_c (tg : Target) (cmax : Nat) (h : wfTarget tg = true) (hc : wfC tg cmax = true) (t : GoType)
    (hp : padFree tg t = true) (hC : isC t = true) : goSizes tg t = cLayout tg cmax t :=
  (layout_agree_go tg h t hp).trans (cLayout_agree tg cmax hc t hC)

end LlgoVerif.Layout
