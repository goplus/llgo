import LlgoVerif.Lemmas.Embed
import LlgoVerif.Lemmas.EmbedArgs
import LlgoVerif.Lemmas.EmbedFS
/-!
# C16 — go:embed delivers exactly the files and bytes the go tool would embed

`resolve ⟨true⟩` is `ResolvePatterns` with cmd/go's "in non-directory" test in `CheckPath`
(`fixes/C16-1.diff`); `resolve ⟨false⟩` is `ResolvePatterns` as it stands.  All statements are for
every file tree (any depth, any names, links, fifos, nested modules) and every pattern list.
-/
namespace LlgoVerif.Embed
open LlgoVerif.Embed.Spec

-- for the `decide`d examples
deriving instance DecidableEq for Except

/-! ## `ResolvePatterns` with the `CheckPath` repair: equal to cmd/go's rule -/

/-- **Errors exactly where the specification rejects**: the pattern list is resolved without error
    iff cmd/go accepts every pattern (valid syntax, at least one match, every match acceptable and
    delivering at least one file). -/
theorem resolve_accepts_iff (root : Node) (pats : List Str) :
    (∃ fs, resolve ⟨true⟩ root pats = .ok fs) ↔ Accepted root pats := by
  simp only [resolve_eq_ok_iff, exists_and_left, exists_eq', and_true, patOK_true_iff, Accepted]

/-- **Sound and complete**: a name is in the result iff the specification says the pattern list
    embeds it.  (Holds for both variants of `CheckPath`: the variants differ only in what they reject.) -/
theorem resolve_sound_complete (cfg : Cfg) (root : Node) (pats : List Str) (fs : Seen)
    (h : resolve cfg root pats = .ok fs) (name : Str) :
    name ∈ fs.map (·.1) ↔ embedded root pats name := by
  obtain ⟨_, rfl⟩ := (resolve_eq_ok_iff cfg root pats fs).1 h
  rw [((sortSeen_perm _).map _).mem_iff, keys_addFiles, mem_foldl_insKey, mem_keys_flatMap_patFiles]
  exact or_iff_right List.not_mem_nil

/-- **Contents**: every `(name, bytes)` of the result is a file the specification embeds under that
    name with exactly those bytes.  Only this direction: entry names may hold `/`, so two files can get one name, and
    `addFile` keeps the first. -/
theorem resolve_content (cfg : Cfg) (root : Node) (pats : List Str) (fs : Seen)
    (h : resolve cfg root pats = .ok fs) (name d : Str) (hx : (name, d) ∈ fs) :
    embeddedData root pats name d := by
  obtain ⟨_, rfl⟩ := (resolve_eq_ok_iff cfg root pats fs).1 h
  rcases mem_addFiles [] _ _ ((sortSeen_perm _).mem_iff.1 hx) with h0 | hx
  · cases h0
  · exact (mem_flatMap_patFiles root pats name d).1 hx

/-- **Sorted and duplicate-free**: the names of the result are strictly increasing in byte order
    (`sort.Strings` order, each name once). -/
theorem resolve_sorted (cfg : Cfg) (root : Node) (pats : List Str) (fs : Seen)
    (h : resolve cfg root pats = .ok fs) :
    (fs.map (·.1)).Pairwise (fun a b => strLt a b = true) := by
  obtain ⟨_, rfl⟩ := (resolve_eq_ok_iff cfg root pats fs).1 h
  exact sortSeen_sorted _ (keys_addFiles [] _ ▸ nodup_foldl_insKey _ _ List.nodup_nil)

/-- a package directory with a hidden file, an underscore file, a VCS directory, a nested module and a fifo -/
def exTree : Node :=
  .dir (.cons (lit ['d']) (.dir
      (.cons (lit ['.', 'h']) (.file [1])
      (.cons (lit ['_', 'u']) (.file [2])
      (.cons (lit ['k']) (.file [3])
      (.cons (lit ['.', 'g', 'i', 't']) (.dir (.cons (lit ['c']) (.file [4]) .nil))
      (.cons (lit ['m']) (.dir (.cons sGoMod (.file []) (.cons (lit ['q']) (.file [5]) .nil)))
      .nil))))))
    (.cons (lit ['f']) .irregular .nil))

/-- the hypothesis `resolve … = .ok fs` of the three theorems above is satisfiable: `//go:embed d all:d` succeeds -/
example : ∃ fs, resolve ⟨true⟩ exTree [lit ['d'], lit ['a', 'l', 'l', ':', 'd']] = .ok fs := by
  rw [resolve_ok_iff_loop]
  exact ⟨[(lit ['d', '/', 'k'], [3]), (lit ['d', '/', '.', 'h'], [1]), (lit ['d', '/', '_', 'u'], [2])], by decide⟩

example : resolveLoop ⟨true⟩ exTree [] [lit ['f']] = .error .irregular := by decide

/-! ## `ResolvePatterns` as it stands -/

/-- the full statement for the current code: it rejects exactly what cmd/go rejects -/
def ResolveCurrentAgrees : Prop :=
  ∀ (root : Node) (pats : List Str), (∃ fs, resolve ⟨false⟩ root pats = .ok fs) ↔ Accepted root pats

/-- package directory with `real/x.txt` and `link -> real` (the link resolves to the directory) -/
def cexTree : Node :=
  .dir (.cons (lit ['l', 'i', 'n', 'k']) (.link (.dir (.cons (lit ['x']) (.file (lit ['h', 'i'])) .nil))) .nil)

/-- `link/x` -/
def cexPat : Str := lit ['l', 'i', 'n', 'k', '/', 'x']

/-- **Counterexample**: `//go:embed link/x` where `link` is a symbolic link to a directory is accepted
    by `ResolvePatterns` (it embeds `link/x`), while cmd/go rejects it ("cannot embed file link/x: in
    non-directory link").  Replayed on the real code and on `go list` by the check. -/
theorem resolve_current_counterexample : ¬ ResolveCurrentAgrees := by
  intro h
  -- cmd/go sides with the repaired variant (`resolve_accepts_iff`); here the variants differ
  have hiff := (h cexTree [cexPat]).trans (resolve_accepts_iff cexTree [cexPat]).symm
  rw [resolve_ok_iff_loop, resolve_ok_iff_loop] at hiff
  have hcur : resolveLoop ⟨false⟩ cexTree [] [cexPat] = .ok [(cexPat, lit ['h', 'i'])] := by decide
  have hrep : resolveLoop ⟨true⟩ cexTree [] [cexPat] = .error .nonDir := by decide
  obtain ⟨s, hs⟩ := hiff.1 ⟨_, hcur⟩
  rw [hrep] at hs
  cases hs

/-- **Partial (current code)**: on a tree without symbolic links that lead to directories the current
    `ResolvePatterns` and the repaired one are the same function — so all four theorems above hold
    for the code as it stands on such trees (only `resolve_accepts_iff` needs the transfer).  What is missing in general is `CheckPath`'s test that
    the directories on the way to a match are real directories. -/
theorem resolve_current_partial (root : Node) (hroot : root.noDirLinks = true) (pats : List Str) :
    resolve ⟨false⟩ root pats = resolve ⟨true⟩ root pats := by
  unfold resolve
  rw [resolveLoop_congr ⟨false⟩ ⟨true⟩ root fun t ht => checkTrail_noDirLinks _ _ root t ht hroot]

/-- the hypothesis is satisfiable by a non-trivial tree (hidden file, nested module, link to a file, fifo) -/
example : (Node.dir (.cons (lit ['.', 'h']) (.file [1])
            (.cons (lit ['d']) (.dir (.cons sGoMod (.file []) .nil))
            (.cons (lit ['l']) (.link (.file [2]))
            (.cons (lit ['p']) .irregular .nil))))).noDirLinks = true := by decide

/-- the repaired variant rejects the counterexample, like cmd/go -/
example : resolveLoop ⟨true⟩ cexTree [] [cexPat] = .error .nonDir := by decide

/-! ## directive arguments: `SplitArgs` + `strconv.Unquote` -/

/-- **Round trip of written arguments**: arguments written double-quoted (any bytes, `"` and `\`
    escaped), back-quoted (no back quote inside) or bare (no blank, not starting with a quote),
    separated by single spaces, are split into exactly the written pieces. -/
theorem splitArgs_quote (l : List QArg) (h : ∀ x ∈ l, x.ok = true) :
    splitArgs (joinSp (l.map QArg.render)) = .ok (l.map QArg.render) := by
  unfold splitArgs
  simpa using splitRun_join [] l h

/-- **Unquoting** the split pieces gives the patterns back (for the part of `strconv.Unquote` that is
    modelled: ASCII without newline in double quotes, no carriage return in back quotes, bare
    arguments that do not start with a single quote). -/
theorem parseFields_quote (l : List QArg) (h : ∀ x ∈ l, x.ok = true ∧ x.uqOk = true) :
    unquoteFields (l.map QArg.render) = .pats (l.map QArg.value) := by
  induction l with
  | nil => rfl
  | cons x rest ih =>
    simp only [List.map_cons, unquoteFields]
    rw [unquote_render x (h x (by simp)).1 (h x (by simp)).2, ih (fun z hz => h z (by simp [hz]))]
    rfl

example : ∀ x ∈ [QArg.dq (lit ['a', ' ', '"', '\\', 'b']), QArg.bq (lit ['c', ' ', 'd']), QArg.plain (lit ['*', '.', 't', 'x', 't'])],
    x.ok = true ∧ x.uqOk = true := by decide

/-! ## `BuildFSEntries`: the table handed to `embed.FS` -/

/-- **Closed under parents**: if the table holds the entry with elements `cs` (as a file `a/b/c` or as a
    directory `a/b/c/`), it holds every ancestor directory `a/`, `a/b/`.  `hclean` is idle: the table is closed
    under `parentDirs` whatever the input. -/
theorem buildFSEntries_closed (files : Seen)
    (hclean : ∀ f ∈ files, ∃ fs, CleanElems fs ∧ f.1 = joinSlash fs)
    (cs : List Str) (hcs : CleanElems cs)
    (hin : joinSlash cs ∈ (buildFSEntries files).map (·.1) ∨ joinSlash cs ++ [47] ∈ (buildFSEntries files).map (·.1))
    (k : Nat) (hk0 : 0 < k) (hk : k < cs.length) :
    joinSlash (cs.take k) ++ [47] ∈ (buildFSEntries files).map (·.1) := by
  have hs : ∀ c ∈ cs, 47 ∉ c := fun c hc => (hcs.2 c hc).2.2.2
  rcases hin with hin | hin <;> refine parentDirs_closed files hin ((mem_parentDirs _ _).2 ⟨k, hk0, ?_⟩)
  · rw [splitOn_joinSlash cs hcs.1 hs]; exact ⟨hk, rfl⟩
  · rw [splitOn_joinSlash_slash cs hcs.1 hs, List.take_append_of_le_length (Nat.le_of_lt hk)]
    exact ⟨by simp; omega, rfl⟩

example : CleanElems [lit ['a', ' ', 'b'], lit ['.', 'c'], lit ['d', '.', 't', 'x', 't']] := by
  refine ⟨by simp, ?_⟩
  decide

/-- the hypotheses of `buildFSEntries_closed` are satisfiable: the table for the single file `a/b/c` holds `a/b/c` -/
example : joinSlash [lit ['a'], lit ['b'], lit ['c']] ∈
    (buildFSEntries [(joinSlash [lit ['a'], lit ['b'], lit ['c']], [1])]).map (·.1) :=
  (keys_buildFSEntries _ _).2 ⟨(joinSlash [lit ['a'], lit ['b'], lit ['c']], [1]), List.mem_singleton.2 rfl, Or.inl rfl⟩

/-- **Nothing else**: every entry is an input file or an ancestor directory of one; every input file is there. -/
theorem buildFSEntries_exact (files : Seen) (x : Str) :
    x ∈ (buildFSEntries files).map (·.1) ↔ ∃ f ∈ files, x = f.1 ∨ x ∈ parentDirs f.1 :=
  keys_buildFSEntries files x

/-- **Once**: no name occurs twice. -/
theorem buildFSEntries_nodup (files : Seen) : ((buildFSEntries files).map (·.1)).Nodup := by
  rw [((buildFSEntries_perm files).map _).nodup_iff, keys_foldl_addEntry]
  exact nodup_foldl_insKey _ _ List.nodup_nil

/-- **`embed.FS` order** (sorted by directory, then element; non-strict form): no entry is followed by a
    smaller one. -/
theorem buildFSEntries_sorted (files : Seen) :
    (buildFSEntries files).Pairwise (fun a b => entryLt b.1 a.1 = false) := by
  simpa only [buildFSEntries, entryLt_eq, decide_eq_false_iff_not] using
    ListOrder.strictLinear.list.pairwise_mergeSort (fun e : Str × Str => splitKey e.1) (files.foldl addEntry [])

/-- the full statement: strictly increasing whenever the input are the clean names of a real
    tree (where a name cannot be both a file and a directory) -/
def BuildFSEntriesStrict : Prop :=
  ∀ files : Seen, (∀ f ∈ files, ∃ fs, CleanElems fs ∧ f.1 = joinSlash fs) →
    (∀ f ∈ files, ∀ g ∈ files, f.1 ++ [47] ∉ parentDirs g.1) →
    (buildFSEntries files).Pairwise (fun a b => entryLt a.1 b.1 = true)

/-- **Partial**: strictly increasing when no two entries have the same `(dir, elem)` split — a decidable
    condition on the output.  Missing: deriving that condition from "no file name is a directory of
    another" (needs `embedSplit` to be injective on clean names, not proved). -/
theorem buildFSEntries_strict_partial (files : Seen)
    (hinj : ∀ a ∈ (buildFSEntries files).map (·.1), ∀ b ∈ (buildFSEntries files).map (·.1),
      embedSplit a = embedSplit b → a = b) :
    (buildFSEntries files).Pairwise (fun a b => entryLt a.1 b.1 = true) := by
  have h2 : (buildFSEntries files).Pairwise (fun a b => a.1 ≠ b.1) :=
    List.pairwise_map.1 (buildFSEntries_nodup files)
  refine ((buildFSEntries_sorted files).and h2).imp_of_mem fun {a b} ha hb ⟨hle, hne⟩ => ?_
  simp only [entryLt_eq, decide_eq_false_iff_not, decide_eq_true_eq] at hle ⊢
  refine ListOrder.strictLinear.list.lt_of_not_lt hle fun hk => ?_
  have hs : embedSplit a.1 = embedSplit b.1 := by
    simp only [splitKey, List.cons.injEq, and_true] at hk
    exact Prod.ext hk.1 hk.2
  exact hne (hinj a.1 (List.mem_map.2 ⟨a, ha, rfl⟩) b.1 (List.mem_map.2 ⟨b, hb, rfl⟩) hs)

end LlgoVerif.Embed
