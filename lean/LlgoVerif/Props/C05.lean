import LlgoVerif.Lemmas.Slice64
import LlgoVerif.Lemmas.StrHeap
import LlgoVerif.Lemmas.SliceStr
/-!
# C05 — slices and strings: append, copy, slicing, iteration and conversion semantics

After a theorem with hypotheses an `example` shows them satisfiable.

`Cfg.current` is the unchanged tree, `Cfg.fixed` the tree with `fixes/C05-1.diff`.  On the unchanged tree the full
`append` statement is **false** (two independent counterexamples below, both replayed on the real code by the check);
it is proved in full for the repaired code and under an explicit decidable hypothesis for the unchanged code.
-/
namespace LlgoVerif.Slice
open LlgoVerif.Utf8

/-- **append, repaired code — every element size (incl. 0), every overlap, every growth policy with enough room.** -/
theorem append_spec_fixed : AppendSpecAll Cfg.fixed := by
  intro pol m s data num esz hpol hesz hnum hwf hsrc
  exact append_ok Cfg.fixed pol m s data num esz (hpol _ _) hesz hnum hwf hsrc (Or.inl rfl) (Or.inl rfl)

/-- **Unchanged tree, `append:zero-size-element`.** `append([]struct{}(nil), struct{}{})`: `SliceAppend` returns `src` when
    `etSize == 0`, the length stays 0. -/
theorem append_spec_zero_size_counterexample : ¬ AppendSpecAll Cfg.current := fun h =>
  absurd ((appendSpec_needs _ _ _ _ _ _ _ (by decide) (h nextslicecap Mem.empty ⟨0, 0, 0⟩ 0 1 0 le_nextslicecap (by decide)
    (by decide) ⟨by decide, by decide, by decide, by decide⟩ (by decide))).1 rfl rfl) (by decide)

/-- **Unchanged tree, `append:memcpy-overlap`.** `append(a[:1], a[2:]...)` on a 4-byte slice (`a` at address 1): `memcpy(2, 3, 2)`
    is called on intersecting ranges — undefined behaviour in C. -/
theorem append_spec_overlap_counterexample : ¬ AppendSpecAll Cfg.current := fun h =>
  (appendSpec_needs _ _ _ _ _ _ _ (by decide) (h nextslicecap ⟨fun _ => 0, 6⟩ ⟨1, 1, 4⟩ 3 2 1 le_nextslicecap (by decide)
    (by decide) ⟨by decide, by decide, by decide, by decide⟩ (by decide))).2 rfl (.inr (by decide)) (by decide) (by decide)

/-- the two things the unchanged `SliceAppend` needs from its input (both decidable): a non-zero element size, and —
    only when the result shares storage — appended values that do not intersect the window they are written to -/
def AppendSafe (s : Slice) (data : Nat) (num esz : Int) : Prop :=
  esz ≠ 0 ∧ (s.len + num ≤ s.cap → ¬ overlaps (s.data + (s.len * esz).toNat) data (num * esz).toNat)

instance (s : Slice) (data : Nat) (num esz : Int) : Decidable (AppendSafe s data num esz) := by
  unfold AppendSafe; infer_instance

/-- **append, unchanged tree**, under `AppendSafe`. -/
theorem append_spec_partial (pol : Int → Int → Int) (m : Mem) (s : Slice) (data : Nat) (num esz : Int)
    (hpol : ∀ a b, a ≤ pol a b) (hesz : 0 ≤ esz) (hnum : 0 ≤ num) (hwf : WF m s esz)
    (hsrc : data + (num * esz).toNat ≤ m.next) (hsafe : AppendSafe s data num esz) :
    AppendSpec Cfg.current pol m s data num esz :=
  append_ok Cfg.current pol m s data num esz (hpol _ _) hesz hnum hwf hsrc (Or.inr hsafe.1) (Or.inr hsafe.2)

/-- non-vacuity: an 8-byte-element slice of length 2, capacity 4 at address 1, appended values elsewhere (address 40) -/
example : WF ⟨fun _ => 0, 64⟩ ⟨1, 2, 4⟩ 8 ∧ 40 + ((2 : Int) * 8).toNat ≤ 64 ∧ AppendSafe ⟨1, 2, 4⟩ 40 2 8 :=
  ⟨⟨by decide, by decide, by decide, by decide⟩, by decide, by decide⟩

/-- the real growth policy returns enough room: **`newLen ≤ nextslicecap newLen oldCap` for all integers**
    (the loop's termination — at least +192 per iteration — is part of the definition of `capLoop`) -/
theorem nextslicecap_ge (newLen oldCap : Int) : newLen ≤ nextslicecap newLen oldCap :=
  le_nextslicecap newLen oldCap

/-- on the model's domain the loop's exit test `uint(newcap) >= uint(newLen)` is the signed comparison the model uses -/
theorem uint_cmp_domain (a b : Int) (ha : 0 ≤ a) (ha' : a < 2 ^ 63) (hb : 0 ≤ b) (hb' : b < 2 ^ 63) :
    (a % 2 ^ 64 ≥ b % 2 ^ 64) ↔ a ≥ b := by
  omega

example : (0 : Int) ≤ 448 ∧ (448 : Int) < 2 ^ 63 ∧ (0 : Int) ≤ 300 ∧ (300 : Int) < 2 ^ 63 := by decide

/-- with the code's own policy (`nextslicecap`) — repaired code -/
theorem append_spec_nextslicecap (m : Mem) (s : Slice) (data : Nat) (num esz : Int)
    (hesz : 0 ≤ esz) (hnum : 0 ≤ num) (hwf : WF m s esz) (hsrc : data + (num * esz).toNat ≤ m.next) :
    AppendSpec Cfg.fixed nextslicecap m s data num esz :=
  append_spec_fixed nextslicecap m s data num esz nextslicecap_ge hesz hnum hwf hsrc

example : WF ⟨fun _ => 0, 64⟩ ⟨1, 3, 3⟩ 0 ∧ 1 + ((2 : Int) * 0).toNat ≤ 64 :=
  ⟨⟨by decide, by decide, by decide, by decide⟩, by decide⟩

/-- **copy**: `min(len(dst), len(src))` elements are moved; the destination then holds the source bytes *as they
    were before the call* (so overlapping ranges are handled); nothing else changes.  Every element size ≥ 0. -/
theorem copy_spec (m : Mem) (dst : Slice) (data : Nat) (num esz : Int) (hesz : 0 ≤ esz) :
    (SliceCopy m dst data num esz).2 = min dst.len num ∧
    (SliceCopy m dst data num esz).1.read dst.data ((min dst.len num) * esz).toNat
      = m.read data ((min dst.len num) * esz).toNat ∧
    (∀ a, ¬ (dst.data ≤ a ∧ a < dst.data + ((min dst.len num) * esz).toNat) →
      (SliceCopy m dst data num esz).1.bytes a = m.bytes a) ∧
    (SliceCopy m dst data num esz).1.next = m.next := by
  rw [sliceCopy_eq m dst data num esz hesz]
  exact ⟨rfl, read_memmove _ _ _ _, fun a ha => by rw [memmove_bytes, if_neg ha], rfl⟩

example : (0 : Int) ≤ 24 := by decide

/-- **`base[i:j:k]`**: panics iff `¬ (0 ≤ i ≤ j ≤ k ≤ cap)`; otherwise `len = j - i`, `cap = k - i` and the window starts
    `i` elements into the base (for an empty window, `k = i`, the base pointer is kept). -/
theorem slice3_spec (base : Nat) (esz cap i j k : Int) :
    (NewSlice3 base esz cap i j k = .error .panic ↔ ¬ (0 ≤ i ∧ i ≤ j ∧ j ≤ k ∧ k ≤ cap)) ∧
    (0 ≤ i ∧ i ≤ j ∧ j ≤ k ∧ k ≤ cap →
      ∃ s, NewSlice3 base esz cap i j k = .ok s ∧ s.len = j - i ∧ s.cap = k - i ∧
        (s.data = advance base (i * esz) ∨ (s.cap = 0 ∧ s.data = base))) := by
  constructor
  · constructor
    · intro h hc; rw [slice3_ok base esz cap i j k hc] at h; cases h
    · exact slice3_panic base esz cap i j k
  · intro h
    refine ⟨_, slice3_ok base esz cap i j k h, rfl, rfl, ?_⟩
    by_cases hk : k - i > 0
    · left; simp only; rw [if_pos hk]
    · right; simp only; rw [if_neg hk]; exact ⟨by omega, rfl⟩

/-- the elements of `base[i:j:k]` are the elements `i … j-1` of the base's capacity window -/
theorem slice3_window (m : Mem) (base : Nat) (esz cap i j k : Int) (hesz : 0 ≤ esz)
    (h : 0 ≤ i ∧ i ≤ j ∧ j ≤ k ∧ k ≤ cap) (s : Slice) (hs : NewSlice3 base esz cap i j k = .ok s) :
    view m s esz = ((m.read base (cap * esz).toNat).drop (i * esz).toNat).take ((j - i) * esz).toNat := by
  rw [slice3_ok base esz cap i j k h] at hs
  cases hs
  exact slice3_window' m base esz cap i j k hesz h

example : (0 : Int) ≤ 1 ∧ (1 : Int) ≤ 2 ∧ (2 : Int) ≤ 3 ∧ (3 : Int) ≤ 4 ∧
    NewSlice3 10 8 4 1 2 3 = .ok ⟨18, 1, 2⟩ :=
  ⟨by decide, by decide, by decide, by decide, by simp [NewSlice3, advance]⟩

/-- **make**: a fresh, zeroed, well-formed slice; memory allocated before is untouched; out-of-range lengths panic. -/
theorem makeSlice_spec (m : Mem) (len cap esz : Int) :
    ((len < 0 ∨ len > cap) → MakeSlice m len cap esz = .error .panic) ∧
    (0 ≤ len ∧ len ≤ cap → 0 ≤ esz → cap < 2 ^ 63 ∧ esz < 2 ^ 63 → cap * esz ≤ 2 ^ 48 →
      ∃ m', MakeSlice m len cap esz = .ok (m', ⟨m.next, len, cap⟩) ∧
        (∀ i, i < (cap * esz).toNat → m'.bytes (m.next + i) = 0) ∧
        (∀ a, a < m.next → m'.bytes a = m.bytes a) ∧ WF m' ⟨m.next, len, cap⟩ esz) :=
  ⟨makeSlice_panic m len cap esz, makeSlice_ok m len cap esz⟩

example : (0 : Int) ≤ 3 ∧ (3 : Int) ≤ 5 ∧ (5 : Int) * 24 ≤ 2 ^ 48 := by decide

/-- **clear**: exactly the `len` elements are zeroed -/
theorem clear_spec (m : Mem) (s : Slice) (esz : Nat) (h0 : 0 ≤ s.len) (hb : s.len * esz < 2 ^ 64) :
    (∀ i, i < (s.len * esz).toNat → (SliceClear m s esz).bytes (s.data + i) = 0) ∧
    (∀ a, ¬ (s.data ≤ a ∧ a < s.data + (s.len * esz).toNat) → (SliceClear m s esz).bytes a = m.bytes a) := by
  unfold SliceClear
  rw [uintptr_mul_mod s.len esz h0 hb]
  exact ⟨fun i hi => by rw [memset_bytes, if_pos (by omega)], fun a ha => by rw [memset_bytes, if_neg ha]⟩

example : (0 : Int) ≤ 7 ∧ (7 : Int) * (3 : Nat) < 2 ^ 64 := by decide

/-- **decode ∘ encode = id** on every Unicode scalar value, whatever follows it -/
theorem decode_encode (r : Nat) (rest : List Nat) (h : validScalar r) :
    nextRune (encodeRune r ++ rest) = (r, width r) ∧ (encodeRune r).length = width r ∧
    (0x80 ≤ r → decodeRune (encodeRune r ++ rest) = (r, width r)) :=
  ⟨next_encode r rest h, encode_length r h, fun h80 => decode_canonical (Canonical.encode r rest h h80)⟩

example : validScalar 0x20AC ∧ validScalar 0 ∧ validScalar 0x10FFFF ∧ ¬ validScalar 0xD800 := by decide

/-- **every byte string decodes** to `(U+FFFD, 1)` or to a valid non-ASCII scalar whose canonical encoding is exactly
    the consumed bytes (no overlong forms, no surrogates, nothing above U+10FFFF); the width is never 0 -/
theorem decode_invalid (s : List Nat) : DecodeOk s (decodeRune s) ∧ 1 ≤ (decodeRune s).2 ∧ 1 ≤ (nextRune s).2 :=
  ⟨decodeRune_ok s, decode_width_pos s, next_width_pos s⟩

/-- **`[]rune(string(rs)) = rs`** for valid scalars -/
theorem toRunes_fromRunes (rs : List Nat) (h : ∀ r ∈ rs, validScalar r) :
    StringToRunes (StringFromRunes (rs.map Int.ofNat)) = rs := by
  have hm : (rs.map Int.ofNat).map u32 = rs := by
    rw [List.map_map]
    exact (List.map_congr_left fun r hr => u32_natCast r (by have := (validScalar_iff r).1 (h r hr); omega)).trans
      (List.map_id rs)
  unfold StringToRunes StringFromRunes
  rw [hm]
  exact toRunesAux_fromRunes rs h _ (Nat.le_refl _)

example : ∀ r ∈ [0x41, 0x20AC, 0x1F600, 0], validScalar r := by decide

/-- **range iteration**: `StringIterNext`, called until it reports exhaustion, enumerates exactly the decode sequence of
    the string with the byte offset of every rune; that sequence is unique and its runes are `[]rune(s)` -/
theorem iter_spec (s : List Nat) :
    Enumerates 0 s (iterAll s) ∧ (∀ l, Enumerates 0 s l → l = iterAll s) ∧
    (iterAll s).map (·.2) = StringToRunes s :=
  (iter_spec' s).spec

/-- **`StringLess` is the lexicographic strict order on bytes**: irreflexive, transitive, total together with equality,
    and equal to Lean's lexicographic `<` on lists -/
theorem stringLess (x y z : List Nat) :
    StringLess x x = false ∧
    (StringLess x y = true → StringLess y z = true → StringLess x z = true) ∧
    (StringLess x y = true ∨ x = y ∨ StringLess y x = true) ∧
    (StringLess x y = true ↔ x < y) :=
  ⟨Bool.eq_false_iff.2 fun h => ListOrder.strictLinear.irrefl x ((less_iff_lt x x).1 h),
   fun h1 h2 => (less_iff_lt x z).2 (ListOrder.strictLinear.trans ((less_iff_lt x y).1 h1) ((less_iff_lt y z).1 h2)),
   (ListOrder.strictLinear.tri x y).imp (less_iff_lt x y).2 (Or.imp_right (less_iff_lt y x).2), less_iff_lt x y⟩

example : StringLess [0x61] [0x61, 0x62] = true ∧ StringLess [0xFF] [0x61, 0x62] = false := by decide

/-- **`StringEqual` is equality of byte sequences** -/
theorem stringEqual (x y : List Nat) : StringEqual x y = true ↔ x = y := by
  unfold StringEqual
  by_cases h : x.length = y.length
  · simp only [h, ne_eq, not_true_eq_false, if_false]; exact eqLoop_zip x y h
  · simp only [ne_eq, h, not_false_eq_true, if_true]
    constructor
    · intro hc; cases hc
    · intro hc; exact absurd (congrArg List.length hc) h

/-- **`s[i:j]`** on strings: panics iff `¬ (0 ≤ i ≤ j ≤ len)`, else the bytes `i … j-1` -/
theorem stringSlice_spec (base : List Nat) (i j : Int) :
    StringSlice base i j =
      if 0 ≤ i ∧ i ≤ j ∧ j ≤ base.length then .ok ((base.drop i.toNat).take (j - i).toNat) else .error .panic :=
  stringSlice_spec' base i j

/-- `StringCat` is `++` by definition; the copying is `stringCat_heap` -/
theorem stringCat_spec (a b : List Nat) : StringCat a b = a ++ b ∧ (StringCat a b).length = a.length + b.length :=
  ⟨rfl, by simp [StringCat]⟩

/-- **`string(i)`**: the UTF-8 encoding of `i` when it is a Unicode scalar value, else U+FFFD (`EF BF BD`) — negative
    values, surrogates and values above U+10FFFF included; for signed, unsigned and `rune` operands -/
theorem stringFromInt (r : Int) (u : Nat) :
    StringFromInt64 r = (if 0 ≤ r ∧ validScalar r.toNat then encodeRune r.toNat else [0xEF, 0xBF, 0xBD]) ∧
    StringFromUint64 u = (if validScalar u then encodeRune u else [0xEF, 0xBF, 0xBD]) ∧
    ((-2 ^ 31 ≤ r ∧ r < 2 ^ 31) →
      StringFromRune r = if 0 ≤ r ∧ validScalar r.toNat then encodeRune r.toNat else [0xEF, 0xBF, 0xBD]) ∧
    encodeRune runeError = [0xEF, 0xBF, 0xBD] :=
  ⟨stringFromInt64_eq r, stringFromUint64_eq u, stringFromRune_eq r, by decide⟩

example : (-2 ^ 31 ≤ (-1 : Int) ∧ (-1 : Int) < 2 ^ 31) ∧ StringFromInt64 0xD800 = [0xEF, 0xBF, 0xBD] ∧
    StringFromInt64 (-7) = [0xEF, 0xBF, 0xBD] ∧ StringFromInt64 0x20AC = [0xE2, 0x82, 0xAC] := by decide

/-! ## machine integers: no wrapped size is ever allocated -/

/-- **`MakeSlice` on all of int64**: the call succeeds iff `0 ≤ len ≤ cap` and the TRUE byte size `cap·etSize` is at
    most `maxAlloc = 2^48` (the `math.MulUintptr` overflow flag and the `uintptr` conversions never let a wrapped
    product through), and the block it allocates then has exactly the true size; everything else panics -/
theorem makeSlice_exact (m : Mem) (len cap esz : Int) (hc : InI64 cap) (he : 0 ≤ esz ∧ esz < 2 ^ 63) :
    (0 ≤ len ∧ len ≤ cap ∧ cap * esz ≤ 2 ^ 48 →
      MakeSlice m len cap esz = .ok ((allocZ m (cap * esz).toNat).2, ⟨m.next, len, cap⟩)) ∧
    (¬ (0 ≤ len ∧ len ≤ cap ∧ cap * esz ≤ 2 ^ 48) → MakeSlice m len cap esz = .error .panic) :=
  makeSlice_cases m len cap esz hc.2 he

example : InI64 (2 ^ 61) ∧ (0 : Int) ≤ 8 ∧ (8 : Int) < 2 ^ 63 ∧ ¬ ((0 : Int) ≤ 1 ∧ (1 : Int) ≤ 2 ^ 61 ∧ (2 : Int) ^ 61 * 8 ≤ 2 ^ 48) := by
  decide

/-- **`nextslicecap` on int64** (loop `newcap += (newcap + 768) >> 2` with wrap-around, unsigned exit test, the
    `newcap <= 0` overflow test): for every positive `newLen` and every old capacity `≥ 0` the function terminates and
    returns a representable capacity `≥ newLen` — never a wrapped or negative one -/
theorem nextslicecap64_spec (newLen oldCap : Int) (hL : 0 < newLen ∧ newLen < 2 ^ 63) (hc : 0 ≤ oldCap ∧ oldCap < 2 ^ 63) :
    ∃ r, nextslicecap64 newLen oldCap = some r ∧ newLen ≤ r ∧ r < 2 ^ 63 :=
  nextslicecap64_some newLen oldCap hL hc

example : (0 : Int) < 2 ^ 63 - 5 ∧ (2 : Int) ^ 63 - 5 < 2 ^ 63 ∧ (0 : Int) ≤ 2 ^ 62 - 1 ∧ (2 : Int) ^ 62 - 1 < 2 ^ 63 := by decide

/-- up to `2^62` the int64 policy is the mathematical one of `Model/Slice.lean` (`nextslicecap_ge` applies) -/
theorem nextslicecap64_eq (newLen oldCap : Int) (hL : 0 < newLen ∧ newLen ≤ 2 ^ 62) (hc : 0 ≤ oldCap ∧ oldCap < newLen) :
    nextslicecap64 newLen oldCap = some (nextslicecap newLen oldCap) :=
  nextslicecap64_eq_math newLen oldCap hL hc

example : (0 : Int) < 300 ∧ (300 : Int) ≤ 2 ^ 62 ∧ (0 : Int) ≤ 256 ∧ (256 : Int) < 300 := by decide

/-- **`GrowSlice` on int64**, for every slice and count that can exist (`GrowLegit`; zero-size elements with lengths up to
    `2^63 - 1` included) when the true new length is representable: no product wraps, a grown block has exactly the TRUE size
    `cap'·etSize` (the `+ 1`: `allocU` of `Model/Slice.lean` gives even `malloc(0)` an address of its own) -/
theorem growSlice64_spec (lc : Bool) (m : Mem) (s : Slice) (num esz : Int) (h : GrowLegit s num esz)
    (hwf : WF m s esz) (hsum : s.len + num < 2 ^ 63) :
    ∃ m' s', GrowSlice64 lc m s num esz = .ok (m', s') ∧ s'.len = s.len + num ∧ s'.len ≤ s'.cap ∧ s'.cap < 2 ^ 63 ∧
      (s'.data = s.data ↔ s.len + num ≤ s.cap) ∧
      (s.len + num ≤ s.cap → m' = m ∧ s'.cap = s.cap) ∧
      (s.len + num > s.cap → s'.data = m.next ∧ m'.next = m.next + (s'.cap * esz).toNat + 1) := by
  obtain ⟨r, heq, hrL, hr63, _⟩ := growSlice64_pol lc m s num esz h hsum
  have := hwf.data_lt
  rw [heq]
  by_cases hfit : s.len + num ≤ s.cap
  · rw [growSlice_fit _ m s num esz hfit]
    exact ⟨_, _, rfl, rfl, hfit, h.cap_lt, ⟨fun _ => hfit, fun _ => rfl⟩, fun _ => ⟨rfl, rfl⟩, fun hg => absurd hfit (by omega)⟩
  · rw [growSlice_grow _ m s num esz (by omega) h.esz_nonneg hwf]
    exact ⟨_, _, rfl, rfl, hrL, hr63, ⟨fun hd => by simp only at hd; omega, fun hg => absurd hg hfit⟩, fun hg => absurd hg hfit,
      fun _ => ⟨rfl, rfl⟩⟩

/-- non-vacuity: 2^62 zero-size elements plus 2^62 - 1 more (true sum 2^63 - 1), and an ordinary 24-byte-element slice -/
example : GrowLegit ⟨1, 2 ^ 62, 2 ^ 62⟩ (2 ^ 62 - 1) 0 ∧ WF ⟨fun _ => 0, 2⟩ ⟨1, 2 ^ 62, 2 ^ 62⟩ 0 ∧
    ((2 : Int) ^ 62 + (2 ^ 62 - 1) < 2 ^ 63) ∧ GrowLegit ⟨1, 3, 4⟩ 2 24 ∧ WF ⟨fun _ => 0, 200⟩ ⟨1, 3, 4⟩ 24 :=
  ⟨by decide, ⟨by decide, by decide, by decide, by decide⟩, by decide, by decide,
   ⟨by decide, by decide, by decide, by decide⟩⟩

/-- **bridge**: for new lengths up to `2^62` the int64 `GrowSlice` / `SliceAppend` ARE the mathematical-integer
    functions of `Model/Slice.lean` with the code's own policy -/
theorem growSlice64_eq_model (lc : Bool) (m : Mem) (s : Slice) (num esz : Int) (h : GrowLegit s num esz)
    (hL : s.len + num ≤ 2 ^ 62) :
    GrowSlice64 lc m s num esz = lift64 (GrowSlice nextslicecap m s num esz) := by
  obtain ⟨r, heq, _, _, he⟩ := growSlice64_pol lc m s num esz h (by omega)
  rw [heq, growSlice_congr _ nextslicecap m s num esz fun hg => he hg hL]

theorem sliceAppend64_eq_model (lc : Bool) (m : Mem) (s : Slice) (data : Nat) (num esz : Int)
    (h : GrowLegit s num esz) (hL : s.len + num ≤ 2 ^ 62) :
    SliceAppend64 lc m s data num esz = lift64 (SliceAppend Cfg.fixed nextslicecap m s data num esz) :=
  sliceAppend64_of_grow lc nextslicecap m s data num esz h (growSlice64_eq_model lc m s num esz h hL)

example : GrowLegit ⟨1, 3, 4⟩ 2 24 ∧ ((3 : Int) + 2 ≤ 2 ^ 62) := by decide

/-- **append on int64**: the full `append` statement for the machine-level function -/
theorem append64_spec (lc : Bool) (m : Mem) (s : Slice) (data : Nat) (num esz : Int) (h : GrowLegit s num esz)
    (hL : s.len + num ≤ 2 ^ 62) (hwf : WF m s esz) (hsrc : data + (num * esz).toNat ≤ m.next) :
    ∃ m' s', SliceAppend64 lc m s data num esz = .ok (m', s') ∧
      s'.len = s.len + num ∧ s'.len ≤ s'.cap ∧
      view m' s' esz = view m s esz ++ m.read data (num * esz).toNat ∧
      (s'.data = s.data ↔ s.len + num ≤ s.cap) ∧
      (∀ a, a < m.next →
        ¬ (s.len + num ≤ s.cap ∧ s.data + (s.len * esz).toNat ≤ a ∧ a < s.data + ((s.len + num) * esz).toNat) →
        m'.bytes a = m.bytes a) ∧
      WF m' s' esz ∧ m.next ≤ m'.next := by
  obtain ⟨r, heq, m', s', hok, rest⟩ := append64_ok lc m s data num esz h (by omega) hwf hsrc
  exact ⟨m', s', by rw [heq, hok]; rfl, rest⟩

example : GrowLegit ⟨1, 2, 4⟩ 2 8 ∧ ((2 : Int) + 2 ≤ 2 ^ 62) ∧ WF ⟨fun _ => 0, 64⟩ ⟨1, 2, 4⟩ 8 ∧
    40 + ((2 : Int) * 8).toNat ≤ 64 :=
  ⟨by decide, by decide, ⟨by decide, by decide, by decide, by decide⟩, by decide⟩

/-- **Unchanged tree, `append:len-overflow-not-detected`.** `s := make([]struct{}, 1<<62); s = append(s, s...)`:
    `newLen = 2^62 + 2^62` wraps to `-2^63`, the test `newLen > cap` is false, and `GrowSlice` returns a slice of length
    `-2^63` instead of panicking (Go: "growslice: len out of range"). -/
theorem growSlice64_len_overflow_counterexample : ¬ GrowLenFull false := by
  intro h
  have := h ⟨fun _ => 0, 2⟩ ⟨1, 2 ^ 62, 2 ^ 62⟩ (2 ^ 62) 0 (by decide) ⟨by decide, by decide, by decide, by decide⟩
  rcases this with ⟨heq, _⟩ | ⟨m', s', heq, hlen, _⟩
  · simp [GrowSlice64, wrap] at heq
  · simp [GrowSlice64, wrap] at heq
    rw [← heq.2] at hlen
    simp at hlen

/-- with `fixes/C05-3.diff` (`if newLen < 0 { panic }`) the full statement holds -/
theorem growSlice64_len_fixed : GrowLenFull true := by
  intro m s num esz h hwf
  by_cases hsum : s.len + num < 2 ^ 63
  · right
    obtain ⟨m', s', heq, hl, hc, _⟩ := growSlice64_spec true m s num esz h hwf hsum
    exact ⟨m', s', heq, hl, hc⟩
  · left
    have := h.len_le_cap; have := h.cap_lt; have := h.num_lt
    refine ⟨?_, by omega⟩
    unfold GrowSlice64
    simp only
    rw [wrap_hi (s.len + num) (by omega)]
    rw [if_pos ⟨trivial, by omega⟩]

/-- unchanged tree, under the decidable hypothesis that the true new length is representable -/
theorem growSlice64_len_partial (m : Mem) (s : Slice) (num esz : Int) (h : GrowLegit s num esz) (hwf : WF m s esz)
    (hsum : s.len + num < 2 ^ 63) :
    ∃ m' s', GrowSlice64 false m s num esz = .ok (m', s') ∧ s'.len = s.len + num ∧ s'.len ≤ s'.cap := by
  obtain ⟨m', s', heq, hl, hc, _⟩ := growSlice64_spec false m s num esz h hwf hsum
  exact ⟨m', s', heq, hl, hc⟩

example : GrowLegit ⟨1, 2 ^ 62, 2 ^ 62⟩ 5 0 ∧ WF ⟨fun _ => 0, 2⟩ ⟨1, 2 ^ 62, 2 ^ 62⟩ 0 ∧ ((2 : Int) ^ 62 + 5 < 2 ^ 63) :=
  ⟨by decide, ⟨by decide, by decide, by decide, by decide⟩, by decide⟩

/-! ## strings over the heap: conversions copy, slicing shares -/

/-- **`string(b)` copies**: the result holds the slice's bytes, for a non-empty slice in a fresh block (it starts at the first
    address that was never allocated), memory allocated before is untouched, and NO later write into memory that existed before the
    call — in particular into `b`'s own array — changes the string -/
theorem bytes_to_string_copies (m : Mem) (b : Slice) (hwf : WF m b 1) (hcap : b.cap < 2 ^ 63) :
    ∃ m' s, StringFromBytesH m b = .ok (m', s) ∧ s.len = b.len ∧ strBytes m' s = view m b 1 ∧
      (b.len ≠ 0 → s.data = m.next) ∧ (∀ a, a < m.next → m'.bytes a = m.bytes a) ∧
      (∀ a bs, a + bs.length ≤ m.next → strBytes (m'.blit a bs) s = strBytes m' s) := by
  obtain ⟨h0, h1, h2, h3⟩ := hwf
  simp only [Int.mul_one] at h3
  obtain ⟨m', s, heq, hl, hb, hd, hfr⟩ := stringFrom_spec m b.data b.len ⟨h0, by omega⟩ (by omega)
  refine ⟨m', s, heq, hl, by rw [hb, view, Int.mul_one], hd, hfr, fun a bs ha => ?_⟩
  by_cases hz : b.len = 0
  · unfold strBytes; rw [hl, hz]; rfl
  · exact read_blit_out _ _ _ _ _ (.inr (by rw [hd hz]; exact ha))

example : WF ⟨fun _ => 7, 64⟩ ⟨10, 3, 5⟩ 1 ∧ (5 : Int) < 2 ^ 63 := ⟨⟨by decide, by decide, by decide, by decide⟩, by decide⟩

/-- **`[]byte(s)` never aliases `s`**: the result is a fresh slice (`len = cap = len(s)`) holding the string's bytes;
    `s` and everything else allocated before are untouched, and no later write through the result (any address from
    the fresh block on) changes `s` -/
theorem string_to_bytes_fresh (m : Mem) (s : Str) (hs : SWF m s) (hmax : s.len ≤ 2 ^ 48) :
    ∃ m' d, StringToBytesH m s = .ok (m', d) ∧ d.len = s.len ∧ d.cap = s.len ∧ view m' d 1 = strBytes m s ∧
      (s.len ≠ 0 → d.data = m.next) ∧ (∀ a, a < m.next → m'.bytes a = m.bytes a) ∧
      (∀ a bs, m.next ≤ a → strBytes (m'.blit a bs) s = strBytes m s) := by
  obtain ⟨m', d, heq, hl, hc, hv, hd, hfr⟩ := stringToBytes_spec m s hs hmax
  have := hs.inb
  exact ⟨m', d, heq, hl, hc, hv, hd, hfr, fun a bs ha =>
    (read_blit_out _ _ _ _ _ (.inl (by omega))).trans (read_congr fun i hi => hfr _ (by omega))⟩

example : SWF ⟨fun _ => 7, 64⟩ ⟨10, 3⟩ ∧ (3 : Int) ≤ 2 ^ 48 := ⟨⟨by decide, by decide, by decide⟩, by decide⟩

/-- **`s[i:j]` shares**: it panics iff `¬ (0 ≤ i ≤ j ≤ len)`; otherwise nothing is allocated or copied, the result has
    length `j - i`, starts `i` bytes into `s` (a non-empty result always does), and in EVERY memory its bytes are the
    bytes `i … j-1` of `s` — so it computes the byte-list `StringSlice` of the ordering/UTF-8 theorems -/
theorem string_slice_shares (base : Str) (i j : Int) (hb : 0 ≤ base.len) :
    (StringSliceH base i j = .error .panic ↔ ¬ (0 ≤ i ∧ i ≤ j ∧ j ≤ base.len)) ∧
    (0 ≤ i ∧ i ≤ j ∧ j ≤ base.len →
      ∃ r, StringSliceH base i j = .ok r ∧ r.len = j - i ∧ (i < base.len → r.data = base.data + i.toNat) ∧
        ∀ m, strBytes m r = ((strBytes m base).drop i.toNat).take (j - i).toNat ∧
             StringSlice (strBytes m base) i j = .ok (strBytes m r)) := by
  constructor
  · constructor
    · intro h hc
      obtain ⟨r, hr, _⟩ := stringSliceH_ok base i j hc
      rw [hr] at h; cases h
    · exact stringSliceH_panic base i j
  · intro h
    obtain ⟨r, hr, hl, hd, hbytes⟩ := stringSliceH_ok base i j h
    refine ⟨r, hr, hl, hd, fun m => ⟨hbytes m, ?_⟩⟩
    rw [stringSlice_spec, if_pos (by rw [strBytes_length]; omega), hbytes]

example : (0 : Int) ≤ 5 ∧ ((0 : Int) ≤ 1 ∧ (1 : Int) ≤ 3 ∧ (3 : Int) ≤ 5) ∧ StringSliceH ⟨10, 5⟩ 1 3 = .ok ⟨11, 2⟩ :=
  ⟨by decide, by decide, by simp [StringSliceH, advance]⟩

/-- **`s + t` copies both operands** into one fresh block (also when they alias or overlap each other): no `memcpy`
    on intersecting ranges, the result is the byte-list concatenation, earlier memory is untouched -/
theorem stringCat_heap (m : Mem) (a b : Str) (ha : SWF m a) (hb : SWF m b) (hsum : a.len + b.len < 2 ^ 63) :
    ∃ m', StringCatH m a b = .ok (m', ⟨m.next, a.len + b.len⟩) ∧
      strBytes m' ⟨m.next, a.len + b.len⟩ = StringCat (strBytes m a) (strBytes m b) ∧
      (∀ x, x < m.next → m'.bytes x = m.bytes x) ∧ m'.next = m.next + (a.len + b.len).toNat + 1 := by
  obtain ⟨a0, a1, a2⟩ := ha
  obtain ⟨b0, b1, b2⟩ := hb
  unfold StringCatH
  simp only [allocU_fst]
  rw [uintptr_nonneg (a.len + b.len) (by omega), uintptr_nonneg a.len (by omega), uintptr_nonneg b.len (by omega),
    memcpy_ok _ _ _ _ (not_overlaps_above (by omega))]
  simp only
  rw [advance_nonneg _ _ a0, memcpy_ok _ _ _ _ (not_overlaps_above (by omega))]
  refine ⟨_, rfl, ?_, fun x hx => ?_, rfl⟩
  · unfold strBytes
    simp only
    rw [Int.toNat_add a0 b0, read_memmove_behind, read_memmove, read_memmove_out _ _ _ _ _ _ (.inl b2)]
    rfl
  · rw [memmove_bytes, if_neg (by omega), memmove_bytes, if_neg (by omega), allocU_bytes]

example : SWF ⟨fun _ => 7, 64⟩ ⟨10, 3⟩ ∧ SWF ⟨fun _ => 7, 64⟩ ⟨11, 4⟩ ∧ ((3 : Int) + 4 < 2 ^ 63) :=
  ⟨⟨by decide, by decide, by decide⟩, ⟨by decide, by decide, by decide⟩, by decide⟩

/-- **`CStrCopy` writes exactly `len + 1` bytes**: the string's bytes (embedded NULs included) followed by one NUL;
    every other byte of memory keeps its value (no overrun of the destination) -/
theorem cstrCopy_exact (m : Mem) (dest : Nat) (s : Str) (hs : SWF m s) (hno : ¬ overlaps dest s.data s.len.toNat) :
    ∃ m', CStrCopy m dest s = .ok (m', dest) ∧
      m'.read dest (s.len.toNat + 1) = strBytes m s ++ [0] ∧
      (∀ x, ¬ (dest ≤ x ∧ x < dest + s.len.toNat + 1) → m'.bytes x = m.bytes x) ∧ m'.next = m.next :=
  cstrCopy_spec m dest s hs.len_nonneg hs.len_lt hno

example : SWF ⟨fun _ => 7, 64⟩ ⟨10, 3⟩ ∧ ¬ overlaps 20 10 3 := ⟨⟨by decide, by decide, by decide⟩, by decide⟩

/-- **Go string → C string → Go string.**  `CStrDup(s)` returns a fresh block holding all bytes of `s` and a
    terminating NUL; `StringFromCStr` of it is a fresh Go string holding the bytes of `s` BEFORE ITS FIRST NUL BYTE
    (`takeWhile (· ≠ 0)`): byte for byte `s` itself when `s` contains no NUL, a proper prefix otherwise.  Memory
    allocated before is untouched; the result does not alias the C buffer.  `hm`: the buffer is at `m.next`, and
    `StringFromCStr` takes address 0 for nil. -/
theorem cstr_roundtrip (m : Mem) (s : Str) (hm : 0 < m.next) (hs : SWF m s) :
    ∃ m1 p, CStrDup m s = .ok (m1, p) ∧ p = m.next ∧
      m1.read p (s.len.toNat + 1) = strBytes m s ++ [0] ∧
      ∃ m2 t, StringFromCStr m1 p = .ok (m2, t) ∧
        strBytes m2 t = (strBytes m s).takeWhile (· != 0) ∧
        (t.len ≠ 0 → t.data = m1.next) ∧
        (∀ x, x < m1.next → m2.bytes x = m1.bytes x) ∧ (∀ x, x < m.next → m2.bytes x = m.bytes x) := by
  obtain ⟨m1, hdup, hrd, hfr, hnx⟩ := cstrDup_spec m s hs
  have hBl := strBytes_length m s
  have := hs.len_lt
  obtain ⟨m2, t, heq, hb, hd, hfr2⟩ :=
    stringFromCStr_read m1 m.next (strBytes m s) (by omega) (by omega) (by rw [hBl]; exact hrd) (by omega)
  exact ⟨m1, m.next, hdup, rfl, hrd, m2, t, heq, hb, hd, hfr2, fun x hx => by rw [hfr2 x (by omega), hfr x hx]⟩

/-- about the `takeWhile` of `cstr_roundtrip` -/
theorem cstr_roundtrip_nonul (B : List Nat) :
    (B.takeWhile (· != 0) = B ↔ ∀ x ∈ B, x ≠ 0) ∧ (B.takeWhile (· != 0)).length ≤ B.length ∧
    B.takeWhile (· != 0) = B.take (B.takeWhile (· != 0)).length :=
  ⟨takeWhile_eq_self B, takeWhile_take _ B⟩

/-- non-vacuity, and the two behaviours on concrete strings: "ab" survives, "a\0b" comes back as "a" -/
example : (0 : Nat) < 64 ∧ SWF ⟨fun _ => 7, 64⟩ ⟨10, 3⟩ ∧ [0x61, 0x62].takeWhile (· != 0) = [0x61, 0x62] ∧
    [0x61, 0, 0x62].takeWhile (· != 0) = [0x61] := ⟨by decide, ⟨by decide, by decide, by decide⟩, by decide, by decide⟩

/-- `StringFromCStr(nil)` is the empty string -/
theorem stringFromCStr_nil (m : Mem) : StringFromCStr m 0 = .ok (m, ⟨0, 0⟩) := by simp [StringFromCStr]

end LlgoVerif.Slice
