import LlgoVerif.Spec.GoFloat
import LlgoVerif.Lemmas.FloatLaws
/-!
C02, float half: Go's float operators as specified in `Spec/GoFloat.lean` (IEEE-754 binary32/binary64, one correctly rounded
operation per operator; `Model/SoftFloat.lean`); the regenerated per-function obligations (llgo's IR computes exactly these
functions) are in `Gen/C02_float.lean`.  The comparison and arithmetic laws quantify over every bit pattern, including NaNs,
infinities, zeros and subnormals.
-/
namespace LlgoVerif.C02F
open LlgoVerif LlgoVerif.SoftFloat LlgoVerif.FloatLaws

theorem cmpInt_self (v : Int) : cmpInt v v = .eq := SoftFloat.cmpInt_self v

theorem cmpFV_self (a : FV) : cmpFV a a = (if a = .nan then .un else .eq) := SoftFloat.cmpFV_self a

theorem cmp_self (x : BitVec w) :
    GoFloat.cmp x x = if decode (GoFloat.fmt w) x.toNat = .nan then .un else .eq :=
  cmpFV_self _

theorem eq_self_iff_not_nan (x : BitVec w) : GoFloat.eq x x = true ↔ decode (GoFloat.fmt w) x.toNat ≠ .nan := by
  unfold GoFloat.eq; rw [cmp_self]; split <;> simp [*]

theorem ne_self_iff_nan (x : BitVec w) : GoFloat.ne x x = true ↔ decode (GoFloat.fmt w) x.toNat = .nan := by
  unfold GoFloat.ne GoFloat.eq; rw [cmp_self]; split <;> simp [*]

theorem lt_irrefl (x : BitVec w) : GoFloat.lt x x = false := by
  unfold GoFloat.lt; rw [cmp_self]; split <;> rfl

theorem lt_iff_gt_swap (x y : BitVec w) : GoFloat.lt x y = GoFloat.gt y x := by
  unfold GoFloat.lt GoFloat.gt GoFloat.cmp SoftFloat.cmp
  rw [cmpFV_swap (decode (GoFloat.fmt w) x.toNat)]
  cases cmpFV (decode (GoFloat.fmt w) x.toNat) (decode (GoFloat.fmt w) y.toNat) <;> rfl

theorem lt_asymm (x y : BitVec w) (h : GoFloat.lt x y = true) : GoFloat.lt y x = false := by
  rw [lt_iff_gt_swap] at h
  unfold GoFloat.gt at h
  unfold GoFloat.lt
  rw [eq_of_beq h]; rfl

theorem cmp_un_iff (x y : BitVec w) :
    GoFloat.cmp x y = .un ↔ decode (GoFloat.fmt w) x.toNat = .nan ∨ decode (GoFloat.fmt w) y.toNat = .nan :=
  cmpFV_un_iff _ _

theorem unordered_of_nan (x y : BitVec w) (h : decode (GoFloat.fmt w) x.toNat = .nan ∨ decode (GoFloat.fmt w) y.toNat = .nan) :
    GoFloat.eq x y = false ∧ GoFloat.lt x y = false ∧ GoFloat.le x y = false ∧ GoFloat.gt x y = false
      ∧ GoFloat.ge x y = false ∧ GoFloat.ne x y = true := by
  unfold GoFloat.ne GoFloat.le GoFloat.ge GoFloat.eq GoFloat.lt GoFloat.gt
  rw [(cmp_un_iff x y).2 h]; decide

theorem nan_unordered (x y : BitVec w) (h : decode (GoFloat.fmt w) x.toNat = .nan) :
    GoFloat.eq x y = false ∧ GoFloat.lt x y = false ∧ GoFloat.le x y = false ∧ GoFloat.gt x y = false
      ∧ GoFloat.ge x y = false ∧ GoFloat.ne x y = true :=
  unordered_of_nan x y (Or.inl h)

theorem trichotomy (x y : BitVec w) (hx : decode (GoFloat.fmt w) x.toNat ≠ .nan) (hy : decode (GoFloat.fmt w) y.toNat ≠ .nan) :
    (GoFloat.lt x y = true ∧ GoFloat.eq x y = false ∧ GoFloat.gt x y = false) ∨
    (GoFloat.lt x y = false ∧ GoFloat.eq x y = true ∧ GoFloat.gt x y = false) ∨
    (GoFloat.lt x y = false ∧ GoFloat.eq x y = false ∧ GoFloat.gt x y = true) := by
  have hc : GoFloat.cmp x y ≠ .un := fun h => ((cmp_un_iff x y).1 h).elim hx hy
  unfold GoFloat.lt GoFloat.eq GoFloat.gt
  cases h : GoFloat.cmp x y
  · exact Or.inl ⟨rfl, rfl, rfl⟩
  · exact Or.inr (Or.inl ⟨rfl, rfl, rfl⟩)
  · exact Or.inr (Or.inr ⟨rfl, rfl, rfl⟩)
  · exact absurd h hc

theorem le_def (x y : BitVec w) : GoFloat.le x y = (GoFloat.lt x y || GoFloat.eq x y) := rfl
theorem ge_def (x y : BitVec w) : GoFloat.ge x y = (GoFloat.gt x y || GoFloat.eq x y) := rfl
theorem ne_def (x y : BitVec w) : GoFloat.ne x y = !GoFloat.eq x y := rfl

theorem neg_zero_eq_zero : GoFloat.eq (0x8000000000000000 : BitVec 64) 0 = true ∧ GoFloat.eq (0x80000000 : BitVec 32) 0 = true := by
  decide

theorem add_comm (x y : BitVec w) : GoFloat.add x y = GoFloat.add y x := by
  unfold GoFloat.add SoftFloat.add; rw [addFV_comm]
theorem mul_comm (x y : BitVec w) : GoFloat.mul x y = GoFloat.mul y x := by
  unfold GoFloat.mul SoftFloat.mul; rw [mulFV_comm]

/-- `hw`: the format fills the word; `Fmt.ofWidth w` is binary64 for EVERY `w ≠ 32`, so it fails for other widths -/
theorem neg_neg_of_width (x : BitVec w) (hw : 2 * (GoFloat.fmt w).signMask = 2 ^ w) : GoFloat.neg (GoFloat.neg x) = x := by
  obtain ⟨h1, h2⟩ := neg_involutive (GoFloat.fmt w) x.toNat (by rw [hw]; exact x.isLt)
  rw [hw] at h1
  apply BitVec.eq_of_toNat_eq
  unfold GoFloat.neg
  rw [BitVec.toNat_ofNat, BitVec.toNat_ofNat, Nat.mod_eq_of_lt h1, h2, Nat.mod_eq_of_lt x.isLt]

theorem neg_neg_float32 (x : BitVec 32) : GoFloat.neg (GoFloat.neg x) = x := neg_neg_of_width x (by decide)
theorem neg_neg_float64 (x : BitVec 64) : GoFloat.neg (GoFloat.neg x) = x := neg_neg_of_width x (by decide)

/-- unary minus is not `0 - x`: `-(+0)` is `-0`, `0 - (+0)` is `+0` -/
theorem neg_is_not_zero_minus_counterexample :
    GoFloat.neg (0 : BitVec 64) ≠ GoFloat.sub (0 : BitVec 64) 0 := by decide

/-- the rounding step `roundShift` (without a sticky bit, as `+ - *` and the conversions call it through `roundPack`) is
    round-to-nearest, ties-to-even -/
theorem rounding_is_nearest_even (m k : Nat) (hk : 0 < k) :
    2 * ((m : Int) - (roundShift m k false : Int) * 2 ^ k).natAbs ≤ 2 ^ k ∧
      (2 * ((m : Int) - (roundShift m k false : Int) * 2 ^ k).natAbs = 2 ^ k → roundShift m k false % 2 = 0) := by
  -- `m = q * 2h + r`, `r < 2h = 2^k`; the result is `q` or `q + 1`
  generalize hh : 2 ^ (k - 1) = h
  have hP : 2 ^ k = 2 * h := by rw [← hh, ← Nat.pow_succ', Nat.succ_eq_add_one, Nat.sub_add_cancel hk]
  have hcast : ((2 : Int) ^ k) = ((2 * h : Nat) : Int) := by rw [← hP]; norm_cast
  have hdm := Nat.div_add_mod m (2 ^ k)
  have hr := Nat.mod_lt m (Nat.two_pow_pos k)
  unfold roundShift
  simp only [Nat.shiftRight_eq_div_pow, Bool.false_or, hh, hcast, ← Int.natCast_mul,
    Bool.or_eq_true, Bool.and_eq_true, decide_eq_true_eq, beq_iff_eq]
  generalize m / 2 ^ k = q at *
  generalize m % 2 ^ k = r at *
  rw [hP, Nat.mul_comm] at hdm
  rw [hP] at hr ⊢
  generalize ht : q * (2 * h) = t at *
  split
  · rw [Nat.add_mul, Nat.one_mul, ht]; omega
  · rw [ht]; omega

/-- an integer of at most `prec` significant bits (24 for float32, 53 for float64) converts to float EXACTLY: converting
    back (truncation) returns it; holds for every format meeting `Fmt.Ok` -/
theorem int_float_int_exact (F : Fmt) (ok : Fmt.Ok F) (x : Int) (hx : x.natAbs < 2 ^ F.prec) :
    SoftFloat.toInt F (SoftFloat.ofInt F x) = some x := by
  by_cases hm : x.natAbs = 0
  · have hx0 : x = 0 := Int.natAbs_eq_zero.1 hm
    subst hx0
    show truncFV (decode F 0) = some 0
    rw [decode_zero F ok]
    simp [truncFV]
  · -- `|x|` has `prec - j` bits: shifted left by `j` it fills the significand exactly, at the normal exponent `-j`, so
    -- `roundPack` packs without rounding, `decode` returns `|x|·2^j` at `-j`, and truncation shifts back
    obtain ⟨j, hj⟩ := Nat.exists_eq_add_of_le (bitLen_le hm hx)
    have hjm : j ≤ F.mbits := by have := (bitLen_bounds hm).1; have : F.prec = F.mbits + 1 := rfl; omega
    have he := normal_of_neg_le F ok j hjm
    unfold SoftFloat.toInt SoftFloat.ofInt
    rw [decode_roundPack_exact F _ _ j 0 hm hj.symm he.1 he.2, Int.zero_sub, truncFV_scaled]
    congr 1
    simp only [decide_eq_true_eq]
    split <;> omega

theorem int_float32_int_exact (x : Int) (hx : x.natAbs < 2 ^ 24) : SoftFloat.toInt f32 (SoftFloat.ofInt f32 x) = some x :=
  int_float_int_exact f32 ok32 x hx
theorem int_float64_int_exact (x : Int) (hx : x.natAbs < 2 ^ 53) : SoftFloat.toInt f64 (SoftFloat.ofInt f64 x) = some x :=
  int_float_int_exact f64 ok64 x hx

/-- the bound is sharp: 2^24 + 1 does not survive float32 -/
theorem int_float32_int_inexact_counterexample :
    SoftFloat.toInt f32 (SoftFloat.ofInt f32 (2 ^ 24 + 1)) ≠ some (2 ^ 24 + 1) := by decide

/-- converting through a wider float first is NOT the same conversion (double rounding): `float32(x)` for
    x = 2^60 + 2^36 + 1 must round up to 2^60 + 2^37, but rounding to float64 first lands on the tie and then goes to even -/
theorem int_to_float32_via_float64_counterexample :
    GoFloat.ofInt true 32 (BitVec.ofNat 64 (2 ^ 60 + 2 ^ 36 + 1))
      ≠ GoFloat.conv 32 (GoFloat.ofInt true 64 (BitVec.ofNat 64 (2 ^ 60 + 2 ^ 36 + 1))) := by decide

/-- non-vacuity: the hypotheses of the theorems above are met by ordinary values -/
example : decode (GoFloat.fmt 64) (0x3ff0000000000000 : BitVec 64).toNat ≠ .nan := by decide
example : decode (GoFloat.fmt 32) (0x7fc00000 : BitVec 32).toNat = .nan := by decide
example : ((-16777215 : Int)).natAbs < 2 ^ 24 := by decide

end LlgoVerif.C02F
