import LlgoVerif.Lemmas.Init
import LlgoVerif.Spec.InitShape
/-!
# C12 — packages initialise once, dependencies first, variables in dependency order

Every theorem is for every program `P` whose numbering is topological (`Topo`: the Go tool chain rejects import cycles),
every sequence `calls` of top-level initialiser calls (the entry function makes `[runtime?, std runtime?, main]`; a C host
in c-archive / c-shared mode may call any exported `<pkg>_init` any number of times in any order) and every sufficient
`fuel`. The soundness of the IR shape check `Spec/InitShape.lean` (tie A) is proved here.
-/
namespace LlgoVerif.Init

/-- events after the top-level initialiser calls `calls`, from program start -/
def hostTrace (P : Prog) (fuel : Nat) (calls : List Nat) : List Ev := (callInits P fuel calls {}).trace

/-- `init_once` … `init_idempotent` and `entry_order` are projections of `Top` (Lemmas/Init.lean). The `Ext` from the empty state adds that the whole trace
    consists of bodies of reachable packages (`Top.reach` says it of the `.body` events only). -/
theorem host_spec (P : Prog) (hT : Topo P) (fuel : Nat) (calls : List Nat) (hc : ∀ c ∈ calls, c < fuel) :
    Top P calls (callInits P fuel calls {}) ∧ Ext (Reachable P calls) {} (callInits P fuel calls {}) :=
  ⟨Top.calls hT fuel calls (Top.init P) hc, (callInits_spec hT fuel calls hc (Inv.init P) (Top.init P).quiet).2.1⟩

/-- **Exactly once.** Every package reachable from the called initialisers runs its body exactly once —
    however many importers it has and however often (and in whatever order) initialisers are called. -/
theorem init_once (P : Prog) (hT : Topo P) (fuel : Nat) (calls : List Nat) (hc : ∀ c ∈ calls, c < fuel)
    (p : Nat) (hr : Reachable P calls p) :
    (hostTrace P fuel calls).count (.body p false) = 1 :=
  (host_spec P hT fuel calls hc).1.once hr

/-- **Dependencies first.** The body of every (transitive) import `q` of a reachable package `p` runs
    before the body of `p`. -/
theorem deps_first (P : Prog) (hT : Topo P) (fuel : Nat) (calls : List Nat) (hc : ∀ c ∈ calls, c < fuel)
    (p q : Nat) (hr : Reachable P calls p) (hq : Reach P p q) (hne : q ≠ p) :
    Bef (.body q false) (.body p false) (hostTrace P fuel calls) :=
  (host_spec P hT fuel calls hc).1.deps_first hr hq hne

/-- **Nothing else runs.** A package that no called initialiser reaches never runs (either half). -/
theorem unreachable_never (P : Prog) (hT : Topo P) (fuel : Nat) (calls : List Nat) (hc : ∀ c ∈ calls, c < fuel)
    (p : Nat) (o : Bool) (hr : ¬ Reachable P calls p) :
    (hostTrace P fuel calls).count (.body p o) = 0 :=
  List.count_eq_zero_of_not_mem ((host_spec P hT fuel calls hc).1.never o hr)

/-- **Patched packages.** For a reachable patched package whose original `init` is kept (`chained`):
    the original half runs exactly once, after the bodies of the ORIGINAL's imports and before the
    replacement half (which runs once by `init_once`, after the replacement's imports by `deps_first`).
    With `pkgFNoOldInit` (or for an ordinary package) the original half never runs. -/
theorem patched_chain (P : Prog) (hT : Topo P) (fuel : Nat) (calls : List Nat) (hc : ∀ c ∈ calls, c < fuel)
    (p : Nat) (hr : Reachable P calls p) :
    (∀ oi, (P p).kind = .chained oi →
      (hostTrace P fuel calls).count (.body p true) = 1 ∧
      Bef (.body p true) (.body p false) (hostTrace P fuel calls) ∧
      ∀ q ∈ oi, Bef (.body q false) (.body p true) (hostTrace P fuel calls)) ∧
    ((∀ oi, (P p).kind ≠ .chained oi) → (hostTrace P fuel calls).count (.body p true) = 0) := by
  have t := (host_spec P hT fuel calls hc).1
  exact ⟨fun _ hk => t.chained hr hk, fun hk => List.count_eq_zero_of_not_mem (t.orig_never hk)⟩

/-- **The bodies are preserved.** Expanding every body event into the action list go/ssa computed for
    it (variables in dependency order, then `init#k` in file/declaration order), the actions of the
    compiled `init` of a reachable package `p` occur in the observable trace contiguously and in that
    order (for a chained package `.body p true` lies before: `patched_chain`). -/
theorem body_preserved (P : Prog) (hT : Topo P) (fuel : Nat) (calls : List Nat) (hc : ∀ c ∈ calls, c < fuel)
    (p : Nat) (hr : Reachable P calls p) {α : Type} (acts : Nat → Bool → List α) (other : Ev → List α) :
    ∃ l₁ l₂, hostTrace P fuel calls = l₁ ++ .body p false :: l₂ ∧
      Ev.body p false ∉ l₁ ∧ Ev.body p false ∉ l₂ ∧
      expand acts other (hostTrace P fuel calls) = expand acts other l₁ ++ acts p false ++ expand acts other l₂ := by
  obtain ⟨l₁, l₂, hsplit, h₁, h₂⟩ := (host_spec P hT fuel calls hc).1.split hr
  exact ⟨l₁, l₂, hsplit, h₁, h₂, by rw [hostTrace, hsplit, expand_append, expand, List.append_assoc]⟩

/-- **A second round of calls changes nothing** (a C host calling the exported initialisers twice):
    every called package is guarded after the first round. -/
theorem init_idempotent (P : Prog) (hT : Topo P) (fuel : Nat) (calls : List Nat) (hc : ∀ c ∈ calls, c < fuel) :
    callInits P fuel (calls ++ calls) {} = callInits P fuel calls {} := by
  rw [callInits_append]
  exact (host_spec P hT fuel calls hc).1.calls_again fuel calls fun c hcm => ⟨c, hcm, .refl c⟩

/-- **Termination / fuel.** Any fuel above the package number gives the same result. -/
theorem fuel_irrelevant (P : Prog) (hT : Topo P) (f1 f2 p : Nat) (s : St) (h1 : p < f1) (h2 : p < f2) :
    initPkg P f1 p s = initPkg P f2 p s := by
  induction f1 generalizing f2 p s with
  | zero => omega
  | succ n ih =>
    cases f2 with
    | zero => omega
    | succ m =>
      refine initStep_congr (fun q hq st => ?_) s
      have := hT p q hq
      exact ih m q st (by omega) (by omega)

/-- **Entry order.** In an executable, `main.main` is the last event and runs once; before it every
    package reachable from the entry's initialiser calls (llgo's runtime, the std runtime when linked,
    `main`) has run its body exactly once, imports first, and nothing unreachable has run. -/
theorem entry_order (P : Prog) (hT : Topo P) (fuel : Nat) (e : Entry) (hc : ∀ c ∈ e.calls, c < fuel) :
    ∃ pre, (runEntry P fuel e).trace = pre ++ [.mainMain] ∧ Ev.mainMain ∉ pre ∧
      (∀ p, Reachable P e.calls p → pre.count (.body p false) = 1) ∧
      (∀ p o, ¬ Reachable P e.calls p → Ev.body p o ∉ pre) ∧
      (∀ p q, Reachable P e.calls p → Reach P p q → q ≠ p → Bef (.body q false) (.body p false) pre) := by
  obtain ⟨s, hs, t⟩ := runEntry_top P hT fuel e hc
  exact ⟨s.trace, by rw [hs]; rfl, t.noMain, fun _ => t.once, fun _ o => t.never o, fun _ _ => t.deps_first⟩

theorem execBody_of_execTail (call : Nat → St → St) (hp : St → St) (p : Nat) (o : Bool) {r : List Tok} (s : St)
    (h : execTail r = true) : execBody call hp p o r s = some (s.emit (.body p o)) := by
  cases r with
  | nil => simp [execTail] at h
  -- a token that `execBody` consumes makes `execTail` false; on any other `execBody` is at its last equation
  | cons t r => cases t <;> simp_all [execTail, execBody]

theorem okCalls_sound (call : Nat → St → St) (hp : St → St) (p : Nat) (o : Bool) (l : List Nat) (r : List Tok)
    (s : St) (h : okCalls l r = true) :
    execBody call hp p o r s = some ((initImports call l s).emit (.body p o)) := by
  fun_induction okCalls l r generalizing s with
  | case1 r => exact execBody_of_execTail call hp p o s h
  | case2 q qs q' r ih =>
    rw [Bool.and_eq_true, beq_iff_eq] at h
    cases h.1
    exact ih (call q s) h.2
  | case3 => cases h

theorem okShape_toks (f : InitFact) (hok : okShape f = true) :
    ∃ r, f.toks = .loadGuard :: .brGuard (if f.hasPatchFn then .body else .ret) (if f.hasPatchFn then .ret else .body)
                    :: .storeGuard :: (if f.chained && !f.hasPatchFn then .callHasPatch :: r else r) ∧
      okCalls f.imports r = true := by
  unfold okShape at hok
  rw [Bool.and_eq_true] at hok
  -- dropped: `sameSet` and the `< f.id` test, which check the table (`go list`'s set, the numbering), not the shape
  obtain ⟨_, hok⟩ := hok
  split at hok
  · rename_i t e r htoks
    rw [Bool.and_eq_true] at hok
    obtain ⟨hte, hok⟩ := hok
    have hbr : Tok.brGuard t e = .brGuard (if f.hasPatchFn then .body else .ret) (if f.hasPatchFn then .ret else .body) := by
      cases hp : f.hasPatchFn <;>
        simp only [hp, if_true, if_false, Bool.false_eq_true, Bool.and_eq_true, beq_iff_eq] at hte ⊢ <;> rw [hte.1, hte.2]
    rw [htoks, hbr]
    by_cases hc : (f.chained && !f.hasPatchFn) = true <;> simp only [hc, ↓reduceIte] at hok ⊢
    · split at hok
      · exact ⟨_, rfl, hok⟩
      · cases hok
    · exact ⟨r, rfl, hok⟩
  · cases hok

theorem execBody_shape (call : Nat → St → St) (hp : St → St) (p : Nat) (o c : Bool) {l : List Nat} {r : List Tok}
    (h : okCalls l r = true) (s : St) :
    execBody call hp p o (.storeGuard :: (if c then .callHasPatch :: r else r)) s =
      some ((initImports call l (if c then hp (s.setGuard p) else s.setGuard p)).emit (.body p o)) := by
  cases c <;> simp only [execBody, if_true, if_false, Bool.false_eq_true] <;> exact okCalls_sound call hp p o l r _ h

/-- one statement for `init` and `init$hasPatch`: `sw` = the guard test has its successors swapped, `c` = `init$hasPatch` is called -/
theorem execInit_shape (call : Nat → St → St) (hp : St → St) (p : Nat) (o sw c : Bool) {l : List Nat} {r : List Tok}
    (h : okCalls l r = true) (s : St) :
    execInit call hp p o (.loadGuard :: .brGuard (if sw then .body else .ret) (if sw then .ret else .body) :: .storeGuard ::
        (if c then .callHasPatch :: r else r)) s =
      some (if decide (p ∈ s.guard) = sw then
        (initImports call l (if c then hp (s.setGuard p) else s.setGuard p)).emit (.body p o) else s) := by
  unfold execInit
  by_cases hg : p ∈ s.guard <;> cases sw <;> simp [hg, execBody_shape call hp p o c h]

/-- **Shape soundness, `init`.** An emitted `init` that passes `okShape` behaves exactly like the model's
    `initStep` for a package with those imports. `oi` is free: for a chained package the `init$hasPatch` row of the table
    supplies it as its `imports` (`shape_sound_hasPatch`); the two rows are not composed here (the table's `id`s are per
    generated tree, so it is no `Prog`). -/
theorem shape_sound (f : InitFact) (hf : f.hasPatchFn = false) (hok : okShape f = true)
    (call : Nat → St → St) (oi : List Nat) (s : St) :
    execInit call (initHasPatch call oi f.id) f.id false f.toks s =
      some (initStep call { imports := f.imports, kind := if f.chained then .chained oi else .normal } f.id s) := by
  obtain ⟨r, htoks, hr⟩ := okShape_toks f hok
  rw [htoks, hf, execInit_shape call _ f.id false false _ hr]
  unfold initStep
  by_cases hg : f.id ∈ s.guard <;> cases f.chained <;> simp [hg]

/-- **Shape soundness, `init$hasPatch`.** The renamed original initialiser behaves like the model's
    `initHasPatch`: its body runs iff the guard is already set. -/
theorem shape_sound_hasPatch (f : InitFact) (hf : f.hasPatchFn = true) (hok : okShape f = true)
    (call : Nat → St → St) (hp : St → St) (s : St) :
    execInit call hp f.id true f.toks s = some (initHasPatch call f.imports f.id s) := by
  obtain ⟨r, htoks, hr⟩ := okShape_toks f hok
  rw [htoks, hf, Bool.not_true, Bool.and_false, execInit_shape call hp f.id true true false hr]
  unfold initHasPatch
  by_cases hg : f.id ∈ s.guard <;> simp [hg]

/-- 0 = tracer (leaf) · 1 = a patched std package (original imports [0], replacement imports []) ·
    2 = `a` imports [0, 1] · 3 = `b` imports [1, 0] · 4 = main imports [3, 2, 0] · 5 = unreachable,
    imports [0] · 6 = patched with `skip init` (noOld), imported by nobody -/
def diamond : Prog := ofList [
  { imports := [] },
  { imports := [], kind := .chained [0] },
  { imports := [0, 1] },
  { imports := [1, 0] },
  { imports := [3, 2, 0] },
  { imports := [0] },
  { imports := [], kind := .noOld [0] }]

theorem diamond_topo : Topo diamond := topoUpTo_sound (by decide)

theorem diamond_reach_0 : Reachable diamond [4] 0 :=
  ⟨4, by simp, .step (q := 0) (by decide) (.refl 0)⟩

theorem diamond_unreach_5 : ¬ Reachable diamond [4] 5 := by
  rintro ⟨c, hc, hr⟩
  simp at hc; subst hc
  have := Reach.le diamond_topo hr
  omega

example : hostTrace diamond 7 [4] =
    [.body 0 false, .body 1 true, .body 1 false, .body 3 false, .body 2 false, .body 4 false] := by decide

/-- a C host calling `b_init`, `main_init`, `main_init`, `a_init`: same bodies, still once each -/
example : hostTrace diamond 7 [3, 4, 4, 2] =
    [.body 0 false, .body 1 true, .body 1 false, .body 3 false, .body 2 false, .body 4 false] := by decide

example : Reachable diamond [4] 0 := diamond_reach_0

example : (hostTrace diamond 7 [4]).count (.body 0 false) = 1 :=
  init_once diamond diamond_topo 7 [4] (by decide) 0 diamond_reach_0

example : Bef (.body 0 false) (.body 4 false) (hostTrace diamond 7 [4]) :=
  deps_first diamond diamond_topo 7 [4] (by decide) 4 0 ⟨4, by simp, .refl 4⟩
    (.step (q := 0) (by decide) (.refl 0)) (by decide)

example : ¬ Reachable diamond [4] 5 := diamond_unreach_5

example : (diamond 1).kind = .chained [0] := rfl

example : (runEntry diamond 7 { main := 4, rt := some 0, abiInit := true }).trace =
    [.body 0 false, .abiTypes, .body 1 true, .body 1 false, .body 3 false, .body 2 false, .body 4 false,
     .mainMain] := by decide

/-- `patched_chain` on the diamond: package 1 is chained, reachable from main -/
example : (hostTrace diamond 7 [4]).count (.body 1 true) = 1 ∧
    Bef (.body 1 true) (.body 1 false) (hostTrace diamond 7 [4]) :=
  let h := (patched_chain diamond diamond_topo 7 [4] (by decide) 1
    ⟨4, by simp, .step (q := 3) (by decide) (.step (q := 1) (by decide) (.refl 1))⟩).1 [0] rfl
  ⟨h.1, h.2.1⟩

/-- the hypothesis of `entry_order` for the entry evaluated above -/
example : ∀ c ∈ ({ main := 4, rt := some 0, abiInit := true } : Entry).calls, c < 7 := by decide

/-- `init_idempotent` on the diamond: the host calls `b`, `main` — and again -/
example : callInits diamond 7 ([3, 4] ++ [3, 4]) {} = callInits diamond 7 [3, 4] {} :=
  init_idempotent diamond diamond_topo 7 [3, 4] (by decide)

/-- `unreachable_never`: package 5 is in the program but nobody imports it -/
example : (hostTrace diamond 7 [4]).count (.body 5 false) = 0 :=
  unreachable_never diamond diamond_topo 7 [4] (by decide) 5 false diamond_unreach_5

example : initPkg diamond 5 4 {} = initPkg diamond 9 4 {} :=
  fuel_irrelevant diamond diamond_topo 5 9 4 {} (by decide) (by decide)

/-- an emitted `init` of the shape llgo produces, and one with the guard store moved after the
    import calls (rejected) -/
example : okShape { id := 2, toks := [.loadGuard, .brGuard .ret .body, .storeGuard, .callInit 0, .callInit 1, .act, .act, .brRet],
                    imports := [0, 1], goList := [0, 1] } = true := by decide
example : okShape { id := 2, toks := [.loadGuard, .brGuard .ret .body, .callInit 0, .callInit 1, .storeGuard, .act, .act, .brRet],
                    imports := [0, 1], goList := [0, 1] } = false := by decide
example : okShape { id := 1, hasPatchFn := true, chained := true,
                    toks := [.loadGuard, .brGuard .body .ret, .storeGuard, .callInit 0, .brRet],
                    imports := [0], goList := [0] } = true := by decide

end LlgoVerif.Init
