import LlgoVerif.Lemmas.Defer
/-!
# C04 — defer, panic, recover and Goexit follow Go's ordering rules (Goexit: not modelled)

Frame level: the replay code `endDefer` emits for ONE function, for every layout `ss`, every history `hist` of executed defer
statements and every behaviour `exec` of the deferred calls (return, panic, never come back), against Go's rule "pop and run
until the stack is empty". Program level: the executable whole-program model against the whole-program rule (what the check
runs against llgo-compiled programs); here only concrete witnesses and the runtime's small laws.
-/
namespace LlgoVerif.Defer

/-- **Full statement** (false on the current tree): for every layout, every well-formed history and every
    behaviour of the deferred calls, the replay performs the calls Go's rule demands, in the same order, with
    the same effects. -/
def DeferRefines : Prop :=
  ∀ (α σ ε : Type) (ss : List Stmt) (hist : List (Nat × α)) (exec : Call α → σ → Out ε × σ) (st : σ),
    WF ss hist → unwindView ss exec hist st = Spec.unwindView ss exec hist st

/-! In the layouts below a `Stmt` is ⟨kind, clo, nargs, fn⟩; it pushes a node iff `Stmt.pushes`, the others are "node-less". -/

/-- deferred calls that only record which statement ran -/
def logExec : Call Nat → List Nat → Out Unit × List Nat := fun c l => (.ok, l ++ [c.stmt])

theorem not_deferRefines {ss : List Stmt} {hist : List (Nat × Nat)} (hwf : WF ss hist)
    (h : unwindView ss logExec hist [] ≠ Spec.unwindView ss logExec hist []) : ¬ DeferRefines :=
  fun H => h (H Nat (List Nat) Unit ss hist logExec [] hwf)

/-- (a) DESIGN §8 row 3: `for {defer L1(i)}; defer B(); for {defer L2(i)}` — the drain loop of the upper run
    also consumes the nodes of the lower run because the node-less `B` leaves nothing between them:
    calls `2 2 0 0 1`, Go: `2 2 1 0 0`. (`B` follows a loop, so it is not in the entry block: `DeferInCond`.) -/
theorem defer_refines_counterexample_a : ¬ DeferRefines :=
  not_deferRefines (ss := [⟨.loop, false, 1, 1⟩, ⟨.cond, false, 0, 2⟩, ⟨.loop, false, 1, 3⟩])
    (hist := [(0, 0), (0, 1), (1, 0), (2, 0), (2, 1)]) (by decide) (by decide)

/-- (b) row 3b: `defer A(); g(); defer B()` with `g` panicking — `B` is of kind *always*, has no "was executed"
    record and is replayed although it never ran: calls `1 0`, Go: `0`. -/
theorem defer_refines_counterexample_b : ¬ DeferRefines :=
  not_deferRefines (ss := [⟨.always, false, 0, 1⟩, ⟨.always, false, 0, 2⟩]) (hist := [(0, 0)]) (by decide) (by decide)

/-- (c) row 3c: `defer A1(7); g(); defer B1(8)` — the replay of the unexecuted `B1` pops `A1`'s node:
    one call, of statement 1 with the node of statement 0; `A1` never runs. -/
theorem defer_refines_counterexample_c : ¬ DeferRefines :=
  not_deferRefines (ss := [⟨.always, false, 1, 1⟩, ⟨.always, false, 1, 2⟩]) (hist := [(0, 7)]) (by decide) (by decide)

/-- Go's LIFO unwinding however the replay is entered: `re = false` after `RunDefers`, `re = true` through `panicBlk` (the
    function is panicking). -/
theorem unwind_refines {α σ ε : Type} (ss : List Stmt) (hist : List (Nat × α))
    (exec : Call α → σ → Out ε × σ) (st : σ) (re : Bool)
    (hwf : WF ss hist) (h1 : NoNodelessBetweenLoops ss) (h2 : AllAlwaysExecuted ss hist) :
    view (out (unwind ss exec (frameOf ss hist) st re)) = Spec.unwindView ss exec hist st := by
  have hp := plan_pending ss (frameOf ss hist).bits h1 ss.length (Nat.le_refl _) hist.reverse false
    (pending_whole ss hist hwf h2) (by intro h; cases h)
  rw [List.take_length, ← frameOf_args] at hp
  have h := replay_plan ss exec (frameOf ss hist).bits (slots ss) false ⟨(frameOf ss hist).args, st, [], re⟩
  rw [hp] at h
  exact (congrArg view h).trans (unwind_exe ..)

/-- **Partial statement** (proved): when no node-less defer lies between two loop defers and every *always*
    defer statement was reached, the replay is exactly Go's LIFO unwinding — same calls, same order, same
    final state, same abnormal exit — for every layout, history and behaviour of the deferred calls
    (including calls that panic and calls that never come back). -/
theorem defer_refines_partial {α σ ε : Type} (ss : List Stmt) (hist : List (Nat × α))
    (exec : Call α → σ → Out ε × σ) (st : σ)
    (hwf : WF ss hist) (h1 : NoNodelessBetweenLoops ss) (h2 : AllAlwaysExecuted ss hist) :
    unwindView ss exec hist st = Spec.unwindView ss exec hist st :=
  unwind_refines ss hist exec st false hwf h1 h2

/-- the hypotheses are satisfiable by a layout that mixes the three kinds `WF` admits (not `ext`), nodes and node-less statements -/
example : WF [⟨.always, false, 1, 1⟩, ⟨.cond, false, 0, 2⟩, ⟨.loop, false, 1, 3⟩, ⟨.loop, true, 0, 4⟩, ⟨.cond, true, 0, 5⟩, ⟨.always, false, 0, 6⟩]
      [(0, 1), (2, 0), (3, 0), (2, 1), (3, 1), (4, 0), (5, 0)] ∧
    NoNodelessBetweenLoops [⟨.always, false, 1, 1⟩, ⟨.cond, false, 0, 2⟩, ⟨.loop, false, 1, 3⟩, ⟨.loop, true, 0, 4⟩, ⟨.cond, true, 0, 5⟩, ⟨.always, false, 0, 6⟩] ∧
    AllAlwaysExecuted [⟨.always, false, 1, 1⟩, ⟨.cond, false, 0, 2⟩, ⟨.loop, false, 1, 3⟩, ⟨.loop, true, 0, 4⟩, ⟨.cond, true, 0, 5⟩, ⟨.always, false, 0, 6⟩]
      [(0, 1), (2, 0), (3, 0), (2, 1), (3, 1), (4, 0), (5, 0)] := by decide

/-- **Exactly once, in LIFO order** (under the same hypotheses): when control stays in the frame, the calls
    made are precisely the executed defer statements, most recent first, each with its own node. -/
theorem run_exactly_once_partial {α σ ε : Type} (ss : List Stmt) (hist : List (Nat × α))
    (exec : Call α → σ → Out ε × σ) (st : σ)
    (hwf : WF ss hist) (h1 : NoNodelessBetweenLoops ss) (h2 : AllAlwaysExecuted ss hist)
    (hstay : (unwindView ss exec hist st).2.2 = none) :
    (unwindView ss exec hist st).2.1 = hist.reverse.map (Spec.callOf ss) := by
  rw [defer_refines_partial ss hist exec st hwf h1 h2] at hstay ⊢
  unfold Spec.unwindView at hstay ⊢
  rw [Spec.unwind_calls ss exec _ _ _ hstay]
  simp

example : (unwindView [⟨.always, false, 1, 1⟩, ⟨.cond, false, 0, 2⟩, ⟨.loop, false, 1, 3⟩] logExec
    [(0, 1), (1, 0), (2, 0), (2, 1)] []).2.2 = none := by decide

/-- **At most once, never reordered — unconditionally.** For every layout, every frame state (reachable or
    not), every behaviour of the deferred calls and every way the replay is entered: the nodes handed to
    deferred calls so far, followed by the nodes still on the list, are exactly the original list. So no
    pushed defer is run twice, none is invented, and those that run do so in LIFO order of the pushes. -/
theorem run_once {α σ ε : Type} (ss : List Stmt) (exec : Call α → σ → Out ε × σ) (fr : Frame α) (st : σ) (re : Bool) :
    popped (unwind ss exec fr st re).1.log ++ (unwind ss exec fr st re).1.args = fr.args := by
  obtain ⟨ds, _, hl, ha⟩ := replay_done ss exec fr st re
  rw [hl, popped_eq_pops, List.reverse_reverse]
  exact ha

/-- **At most once — node-less statements**: every statement that pushes no node is called at most once
    per frame, whatever the deferred calls do. -/
theorem run_once_nodeless {α σ ε : Type} (ss : List Stmt) (exec : Call α → σ → Out ε × σ) (fr : Frame α) (st : σ)
    (re : Bool) (k : Nat) : nodelessCalls k (unwind ss exec fr st re).1.log ≤ 1 := by
  obtain ⟨ds, ⟨t, hds⟩, hl, _⟩ := replay_done ss exec fr st re
  have h := plan_nodeless ss fr.bits (slots ss) false fr.args k
  rw [← hds, nodelessCalls_append] at h
  rw [hl, nodelessCalls, List.filter_reverse, List.length_reverse]
  exact Nat.le_trans (Nat.le_trans (Nat.le_add_right ..) h) (slots_count_le ss k)

/-- **Conditional defers never run when their bit is clear**: a `DeferInCond` statement that was not executed
    is not called by the replay — for every layout, history and behaviour of the calls. -/
theorem cond_clear_never_runs {α σ ε : Type} (ss : List Stmt) (hist : List (Nat × α))
    (exec : Call α → σ → Out ε × σ) (st : σ) (re : Bool) (k : Nat)
    (hk : isCondAt ss k = true) (hn : k ∉ hist.map (·.1)) :
    ∀ c ∈ (unwind ss exec (frameOf ss hist) st re).1.log, c.stmt ≠ k := by
  intro c hc hck
  subst hck
  -- a call of the plan, and not one of the drain loop: a slot that fires made it, so the bit is set
  obtain ⟨ds, hds, hl, _⟩ := replay_done ss exec (frameOf ss hist) st re
  rw [hl, List.mem_reverse] at hc
  rcases plan_calls ss _ _ _ _ c (hds.subset hc) with h | ⟨s, hp, hf⟩
  · obtain ⟨s, hs, hcond⟩ := stmt_of_at (f := Stmt.isCond) hk
    simp [isLoopId, hs, Stmt.isLoop, (by simpa [Stmt.isCond] using hcond : s.kind = .cond)] at h
  · have hs : ss[c.stmt]? = some s := mem_slots hp
    rcases hf with hf | ⟨_, hb⟩
    · have hf : s.kind = .always := hf
      simp [isCondAt, hs, Stmt.isCond, hf] at hk
    · exact hn ((frameOf_bit_iff ss hist hk).mp hb)

example : isCondAt [⟨.cond, false, 0, 1⟩, ⟨.cond, true, 1, 2⟩] 1 = true ∧ (1 : Nat) ∉ ([(0, 5)] : List (Nat × Nat)).map (·.1) := by decide

/-- **A panic inside a deferred call skips nothing**: the replay makes the same further calls, with the same
    nodes, and leaves the same state, whether a deferred call returns or panics into this frame (`landed`).
    (`calm exec` = the same calls with every such panic reported as a normal return.) -/
theorem panic_in_deferred_call_skips_nothing {α σ ε : Type} (ss : List Stmt) (exec : Call α → σ → Out ε × σ)
    (fr : Frame α) (st : σ) (re re' : Bool) :
    Sim (unwind ss exec fr st re) (unwind ss (calm exec) fr st re') := by
  have h := replay_calm ss exec fr.bits (slots ss) false fr.args st [] re re'
  exact ⟨congrArg (·.1.st) h.symm, congrArg (·.1.log) h.symm, congrArg (·.1.args) h.symm, congrArg (·.2) h.symm⟩

/-- `recover` yields the latest panic value (a newer panic replaces the pending one). -/
theorem recover_returns_latest (v1 v2 : Int) (st : Model.MSt) :
    (Model.recover (Model.setPanic v2 (Model.setPanic v1 st))).1 = some v2 := rfl

/-- `recover` clears the pending value, so that a second `recover` yields nil. -/
theorem recover_clears (st : Model.MSt) :
    (Model.recover st).2.pending = none ∧ (Model.recover (Model.recover st).2).1 = none := ⟨rfl, rfl⟩

/-- After a `recover` normal return follows: with nothing pending, `Rethrow` returns (`Model.finish` then leaves through the
    `recover` block with the named results). -/
theorem normal_return_after_recover (link : Option Nat) (st : Model.MSt) :
    Model.rethrow link (Model.recover st).2 = none := rfl

/-- **Frames unwind innermost-first**: setting up a frame links it to the previous head of the thread's chain
    and makes it the head; a panic raised now targets exactly this frame, and when this frame is done
    (`SetThreadDefer(link)`) a still-pending panic is rethrown to the frame it was linked to. -/
theorem frames_unwind_innermost_first (a : Model.Act) (st : Model.MSt) (v : Int) :
    (Model.setupFrame a st).1.link = st.tls ∧
    (Model.setupFrame a st).2.tls = some a.id ∧
    Model.rethrow (Model.setupFrame a st).2.tls (Model.setPanic v (Model.setupFrame a st).2) = some (.jump a.id) ∧
    Model.raise (Model.setupFrame a st).1 (Model.setPanic v (Model.setupFrame a st).2) = .landed ∧
    ∀ st' : Model.MSt, Model.rethrow (Model.setupFrame a st).1.link (Model.setPanic v st') =
      some (match st.tls with | none => .exit v | some l => .jump l) := by
  refine ⟨rfl, rfl, rfl, ?_, ?_⟩
  · have h : (a.id == a.id) = true := decide_eq_true rfl
    simp only [Model.raise, Model.rethrow, Model.setPanic, Model.setupFrame, Option.isSome_some, h, Bool.and_self, if_true]
  · intro st'
    simp only [Model.rethrow, Model.setPanic, Model.setupFrame]
    cases st.tls <;> rfl

/-- **Full statement, whole programs** (false without and with `SetThreadDefer(link)` in `Rethrow` (`tlsFix`):
    witnesses (e)–(g) have it switched on): the compiled program prints what Go's rule prints and ends the same way. -/
def ProgramRefines : Prop :=
  ∀ (cfg : Model.Cfg) (p : Prog) (fuel : Nat), Model.observe (Model.run cfg p fuel) = Spec.observe (Spec.run p fuel)

theorem not_programRefines {cfg : Model.Cfg} {p : Prog} {fuel : Nat}
    (h : Model.observe (Model.run cfg p fuel) ≠ Spec.observe (Spec.run p fuel)) : ¬ ProgramRefines :=
  fun H => h (H cfg p fuel)

/-! A `Fn` below is ⟨stmts, body, capR, entryFrame, implicitRun, dropped, noRun⟩. -/

/-- (d) the last replayed call of `inner` panics: `rethrowBlk` is entered without `SetThreadDefer(link)`; the next
    panic in a deferred call of `outer` longjmps into the dead frame of `inner`. -/
def progD : Prog := ⟨[
  ⟨[⟨.always, false, 0, 1⟩], [.defer 0 [], .call 2 [], .mark 1], false, false, false, [], false⟩,
  ⟨[], [.recover], false, false, false, [], false⟩,
  ⟨[⟨.always, false, 0, 3⟩, ⟨.always, false, 0, 4⟩], [.defer 0 [], .defer 1 [], .call 5 []], false, false, false, [], false⟩,
  ⟨[], [.mark 2], false, false, false, [], false⟩,
  ⟨[], [.panic (.lit 23)], false, false, false, [], false⟩,
  ⟨[⟨.always, false, 0, 6⟩], [.defer 0 [], .panic (.lit 21)], false, false, false, [], false⟩,
  ⟨[], [.panic (.lit 22)], false, false, false, [], false⟩]⟩

theorem program_refines_counterexample_d : ¬ ProgramRefines :=
  -- `Model.Cfg` is ⟨o2, tlsFix⟩
  not_programRefines (cfg := ⟨false, false⟩) (p := progD) (fuel := 24) (by decide)

/-- with `SetThreadDefer(link)` in `Rethrow` (`tlsFix`) the same program behaves as Go demands -/
theorem program_d_repaired : Model.observe (Model.run ⟨false, true⟩ progD 24) = Spec.observe (Spec.run progD 24) := by
  decide

/-- (e) `recover()` in a helper called by the deferred function stops the panic (Go: returns nil). -/
def progE : Prog := ⟨[
  ⟨[⟨.always, false, 0, 1⟩], [.defer 0 [], .call 2 [], .mark 1], false, false, false, [], false⟩,
  ⟨[], [.recover], false, false, false, [], false⟩,
  ⟨[⟨.always, false, 0, 3⟩], [.defer 0 [], .panic (.lit 5)], false, false, false, [], false⟩,
  ⟨[], [.call 4 []], false, false, false, [], false⟩,
  ⟨[], [.recover], false, false, false, [], false⟩]⟩

theorem program_refines_counterexample_e : ¬ ProgramRefines :=
  not_programRefines (cfg := ⟨false, true⟩) (p := progE) (fuel := 24) (by decide)

/-- (f) `-O2`: `r = 3; defer …; r += 4; <fault>` recovered — the function returns 3 (Go: 7). -/
def progF : Prog := ⟨[
  ⟨[], [.call 1 []], false, false, false, [], false⟩,
  ⟨[⟨.always, false, 0, 2⟩], [.set false .r (.lit 3), .defer 0 [], .add false .r (.lit 4), .fault], false, false, false, [], false⟩,
  ⟨[], [.recover], false, false, false, [], false⟩]⟩

theorem program_refines_counterexample_f : ¬ ProgramRefines :=
  not_programRefines (cfg := ⟨true, true⟩) (p := progF) (fuel := 24) (by decide)

/-- (g) a panic raised and recovered inside a deferred call clears the outer panic (Go: the outer panic
    continues and is recovered by the caller with value 1). -/
def progG : Prog := ⟨[
  ⟨[⟨.always, false, 0, 1⟩], [.defer 0 [], .call 2 [], .mark 1], false, false, false, [], false⟩,
  ⟨[], [.recover], false, false, false, [], false⟩,
  ⟨[⟨.always, false, 0, 3⟩], [.defer 0 [], .panic (.lit 1)], false, false, false, [], false⟩,
  ⟨[], [.call 4 [], .mark 2], false, false, false, [], false⟩,
  ⟨[⟨.always, false, 0, 5⟩], [.defer 0 [], .panic (.lit 2)], false, false, false, [], false⟩,
  ⟨[], [.recover], false, false, false, [], false⟩]⟩

theorem program_refines_counterexample_g : ¬ ProgramRefines :=
  not_programRefines (cfg := ⟨false, true⟩) (p := progG) (fuel := 24) (by decide)

/-- a program on which model and rule agree although it re-panics in a deferred call, recovers twice and
    writes a named result from a deferred closure (`F0` returns 42) -/
theorem program_agrees_repanic_recover :
    Model.observe (Model.run ⟨false, false⟩ ⟨[
      ⟨[⟨.always, true, 0, 1⟩, ⟨.always, false, 0, 2⟩, ⟨.always, false, 0, 3⟩], [.defer 0 [], .defer 1 [], .defer 2 [], .panic (.lit 1)], true, false, false, [], false⟩,
      ⟨[], [.recover, .set true .r (.lit 42)], false, false, false, [], false⟩,
      ⟨[], [.mark 5], false, false, false, [], false⟩,
      ⟨[], [.recover, .panic (.lit 2)], false, false, false, [], false⟩]⟩ 24) =
    Spec.observe (Spec.run ⟨[
      ⟨[⟨.always, true, 0, 1⟩, ⟨.always, false, 0, 2⟩, ⟨.always, false, 0, 3⟩], [.defer 0 [], .defer 1 [], .defer 2 [], .panic (.lit 1)], true, false, false, [], false⟩,
      ⟨[], [.recover, .set true .r (.lit 42)], false, false, false, [], false⟩,
      ⟨[], [.mark 5], false, false, false, [], false⟩,
      ⟨[], [.recover, .panic (.lit 2)], false, false, false, [], false⟩]⟩ 24) := by
  decide

end LlgoVerif.Defer
