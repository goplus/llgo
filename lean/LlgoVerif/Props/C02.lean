import LlgoVerif.Lemmas.Arith
/-!
# C02 — numeric operators and conversions are exact for every operand value.  The per-operator lowering obligations
(`<Op>_<type>[_<type>]_spec`: the IR llgo emits for this operator at this type computes `GoArith.<op>` for ALL operands,
with no undefined behaviour and no poison) are regenerated from the compiler's output into `Gen/C02_*.lean` on every run;
the theorems here show that the specification they refer to (`Spec/GoArith.lean`, on `Int` values) says what the property
says, for every width `w`.
-/
namespace LlgoVerif.C02
open LlgoVerif LlgoVerif.Arith

theorem quo_minInt_negOne (hw : 0 < w) :
    GoArith.quo true (BitVec.intMin w) (BitVec.allOnes w) = .ok (BitVec.intMin w) := by
  rw [quo_signed, if_neg (allOnes_ne_zero hw), intMin_sdiv_allOnes]

theorem rem_minInt_negOne (hw : 0 < w) :
    GoArith.rem true (BitVec.intMin w) (BitVec.allOnes w) = .ok 0#w := by
  rw [rem_signed, if_neg (allOnes_ne_zero hw), srem_allOnes _ hw]

theorem quo_panics_iff (s : Bool) (x y : BitVec w) :
    (GoArith.quo s x y = .error .divZero) ↔ y = 0#w := by
  rw [quo_eq]; exact ite_error_iff nofun

theorem rem_panics_iff (s : Bool) (x y : BitVec w) :
    (GoArith.rem s x y = .error .divZero) ↔ y = 0#w := by
  rw [rem_eq]; exact ite_error_iff nofun

/-! the count enters as a natural number (`GoArith.shl`/`shr` convert it from its own type): `shl_ge_width` and the two
    `shr_ge_width_*` hold whatever the width of the count's type -/

theorem shl_ge_width (s : Bool) (x : BitVec w) (n : Nat) (h : w ≤ n) : GoArith.shlMath s x n = 0#w := by
  rw [shl_spec, shlE_of_le x h]

theorem shr_ge_width_unsigned (x : BitVec w) (n : Nat) (h : w ≤ n) : GoArith.shrMath false x n = 0#w := by
  rw [shr_spec, shrE_false, if_pos h]

theorem shr_ge_width_signed (x : BitVec w) (n : Nat) (h : w ≤ n) :
    GoArith.shrMath true x n = x.sshiftRight (w - 1) := by
  rw [shr_spec, shrE_true, if_pos h]

theorem shl_panics_iff (sx sy : Bool) (x : BitVec w) (y : BitVec u) :
    (∃ p, GoArith.shl sx sy x y = .error p) ↔ GoArith.val sy y < 0 :=
  ite_error_ok_iff

theorem shr_panics_iff (sx sy : Bool) (x : BitVec w) (y : BitVec u) :
    (∃ p, GoArith.shr sx sy x y = .error p) ↔ GoArith.val sy y < 0 :=
  ite_error_ok_iff

theorem add_wraps (s : Bool) (x y : BitVec w) : GoArith.add s x y = x + y := add_spec s x y
theorem sub_wraps (s : Bool) (x y : BitVec w) : GoArith.sub s x y = x - y := sub_spec s x y
theorem mul_wraps (s : Bool) (x y : BitVec w) : GoArith.mul s x y = x * y := mul_spec s x y

theorem conv_widen_signed (x : BitVec w) (h : w ≤ w') : (GoArith.conv true w' x).toInt = x.toInt :=
  val_conv_of_le true x h

theorem conv_widen_unsigned (x : BitVec w) (h : w ≤ w') : (GoArith.conv false w' x).toNat = x.toNat :=
  Int.ofNat_inj.1 (val_conv_of_le false x h)

/-- hypotheses of the theorems above are satisfiable at a concrete width -/
example : GoArith.quo true (BitVec.intMin 8) (BitVec.allOnes 8) = .ok (BitVec.intMin 8) := quo_minInt_negOne (by decide)

end LlgoVerif.C02
