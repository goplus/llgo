import LlgoVerif.Lemmas.Cache
/-!
# C13 — builds are reproducible and the build cache never serves stale code

`storeObj` / `loadObj` (what `saveToCache` keeps of a compiled package, what `tryLoadFromCache` makes of it) are arbitrary:
every soundness theorem assumes `loadObj ∘ storeObj = id`, and `cache_metadata_roundtrip` proves it for the transcribed
metadata record (link arguments, NeedRt, NeedPyInit).
-/
namespace LlgoVerif.Cache

section CacheSound
variable {φ : Type} [DecidableEq φ] (cfg : Cfg) (hb : Bytes → φ) (fp : Manifest φ → φ)
variable {Obj Stored : Type} (compileRel : Rel → Obj) (storeObj : Obj → Stored) (loadObj : Stored → Obj)

/-- **the fingerprint covers everything that matters** — the full statement (`KeyCoversOn` on all inputs); false for every
    `cfg` (counterexamples below: side files and embed files; content without `contentHash`, compiler environment
    without `ccflagsEnv`) -/
def KeyCovers : Prop :=
  ∀ i₁ i₂ : Inputs, keyOf cfg hb fp i₁ = keyOf cfg hb fp i₂ → relevantOf i₁ = relevantOf i₂

/-- **Cache soundness, relative to a universe `S` of inputs.**  If the key determines the relevant inputs on `S`,
    then for EVERY history of edits (staying inside `S`), builds (with or without `-a`, cache on or off) and cache
    clears, starting from an empty cache: every build that ever happened returned, package by package, exactly what a
    clean build of the inputs current at that moment returns — and so does one more build appended to the history. -/
theorem cache_sound_on (S : Inputs → Prop) (fpi : Function.Injective fp) (hround : ∀ o, loadObj (storeObj o) = o)
    (hk : KeyCoversOn cfg hb fp S)
    (p₀ : Program) (h : List Step) (hp₀ : ProgIn S p₀) (hh : ∀ st ∈ h, StepIn S st) (o : BuildOpts) :
    served cfg hb fp compileRel storeObj loadObj p₀ (h ++ [.build o])
        = some ((current cfg hb fp compileRel storeObj loadObj p₀ h).pkgs.map fun t => compile compileRel ((current cfg hb fp compileRel storeObj loadObj p₀ h).glob, t))
      ∧ ∀ po ∈ (run cfg hb fp compileRel storeObj loadObj (State.init p₀) h).trace,
          po.2 = po.1.pkgs.map fun t => compile compileRel (po.1.glob, t) := by
  have inv0 : Inv cfg hb fp compileRel storeObj S (State.init p₀ : State φ Stored Obj) :=
    ⟨hp₀, fun e he => (by cases he), fun po hpo => (by cases hpo)⟩
  have inv := run_inv S fpi hround hk h _ hh inv0
  refine ⟨?_, inv.trace⟩
  unfold served current
  rw [run_append]
  simp only [run, step]
  exact congrArg some
    (buildProg_ok S fpi hround hk o _ _ _ inv.prog inv.cache).1

/-- **Cache soundness**: `cache_sound_on` for the universe of all inputs.  Its hypothesis `KeyCovers` does not hold for
    the transcribed key of any `cfg`; `cache_sound_partial` and `cache_sound_fixed` have hypotheses that can be met. -/
theorem cache_sound (fpi : Function.Injective fp) (hround : ∀ o, loadObj (storeObj o) = o) (hk : KeyCovers cfg hb fp) (p₀ : Program) (h : List Step)
    (o : BuildOpts) :
    served cfg hb fp compileRel storeObj loadObj p₀ (h ++ [.build o])
      = some ((current cfg hb fp compileRel storeObj loadObj p₀ h).pkgs.map fun t => compile compileRel ((current cfg hb fp compileRel storeObj loadObj p₀ h).glob, t)) :=
  (cache_sound_on cfg hb fp compileRel storeObj loadObj (fun _ => True) fpi hround (fun i₁ i₂ _ _ => hk i₁ i₂) p₀ h
    (fun _ _ => trivial) (fun st _ => match st with | .edit _ => fun _ _ => trivial | .build _ | .clean => trivial) o).1

end CacheSound

section Counterexamples
variable {φ : Type} (cfg : Cfg) (hb : Bytes → φ) (fp : Manifest φ → φ)

/-- `a/a.go` holds `1` resp. `5`: same path, same size, same mtime -/
def cxMtime₁ : Inputs := ({}, .mk { id := "m/a", path := "m/a", goFiles := [{ file := { path := "/m/a/a.go", content := [49], mtime := 1700000000 } }] } [])
def cxMtime₂ : Inputs := ({}, .mk { id := "m/a", path := "m/a", goFiles := [{ file := { path := "/m/a/a.go", content := [53], mtime := 1700000000 } }] } [])

theorem cxMtime_ne : relevantOf cxMtime₁ ≠ relevantOf cxMtime₂ := fun h => absurd (congrArg Rel.own? h) (by decide)

theorem not_keyCovers_of_no_contentHash (hc : cfg.contentHash = false) : ¬ KeyCovers cfg hb fp := fun h =>
  have hk : keyOf cfg hb fp cxMtime₁ = keyOf cfg hb fp cxMtime₂ := match cfg, hc with | ⟨false, _⟩, _ => rfl
  cxMtime_ne (h cxMtime₁ cxMtime₂ hk)

theorem keyCovers_counterexample_mtime : ¬ KeyCovers Cfg.legacy hb fp :=
  not_keyCovers_of_no_contentHash Cfg.legacy hb fp rfl

/-- `_wrap/w.c` named by `LLGoFiles` changes content, size and mtime; the Go file does not change -/
def cxSide₁ : Inputs := ({}, .mk { id := "m/a", path := "m/a", goFiles := [{ file := { path := "/m/a/a.go", content := [49], mtime := 1 } }],
                                      sideFiles := [{ path := "/m/a/_wrap/w.c", content := [49], mtime := 1 }] } [])
def cxSide₂ : Inputs := ({}, .mk { id := "m/a", path := "m/a", goFiles := [{ file := { path := "/m/a/a.go", content := [49], mtime := 1 } }],
                                      sideFiles := [{ path := "/m/a/_wrap/w.c", content := [53, 53], mtime := 2 }] } [])

theorem keyCovers_counterexample_sidefile : ¬ KeyCovers cfg hb fp := fun h =>
  absurd (congrArg Rel.own? (h cxSide₁ cxSide₂ rfl)) (by decide)

/-- the environment variable `CCFLAGS` changes from `-DK=1` to `-DK=2` -/
def cxEnv₁ : Inputs := ({ env := [("CCFLAGS", "-DK=1")] }, .mk { id := "m/a", path := "m/a" } [])
def cxEnv₂ : Inputs := ({ env := [("CCFLAGS", "-DK=2")] }, .mk { id := "m/a", path := "m/a" } [])

theorem cxEnv_ne : relevantOf cxEnv₁ ≠ relevantOf cxEnv₂ := fun h => absurd (congrArg Rel.compilerEnv? h) (by decide)

theorem not_keyCovers_of_no_ccflagsEnv (hc : cfg.ccflagsEnv = false) : ¬ KeyCovers cfg hb fp := fun h =>
  -- without `ccflagsEnv` the key reads the listed variables only, and `CCFLAGS` is not among them
  have henv : envSection cfg cxEnv₁.1 = envSection cfg cxEnv₂.1 := by
    simp [envSection, envNames, hc, listedEnvVars, getenv, cxEnv₁, cxEnv₂]
  have hk : keyOf cfg hb fp cxEnv₁ = keyOf cfg hb fp cxEnv₂ := by
    unfold keyOf cxEnv₁ cxEnv₂ at *
    -- the (empty) import list is evaluated first: left to `rfl`, the unifier tries to identify the keys of an arbitrary
    -- import under the two environments before it looks at the list
    simp only [key, depEntries, List.filter_nil, isort, henv]
    rfl
  cxEnv_ne (h cxEnv₁ cxEnv₂ hk)

theorem keyCovers_counterexample_ccflags : ¬ KeyCovers Cfg.legacy hb fp :=
  not_keyCovers_of_no_ccflagsEnv Cfg.legacy hb fp rfl

/-- a file named by `//go:embed` changes -/
def cxEmbed₁ : Inputs := ({}, .mk { id := "m/a", path := "m/a", embedFiles := [{ path := "/m/a/data.txt", content := [49], mtime := 1 }] } [])
def cxEmbed₂ : Inputs := ({}, .mk { id := "m/a", path := "m/a", embedFiles := [{ path := "/m/a/data.txt", content := [50, 50], mtime := 2 }] } [])

theorem keyCovers_counterexample_embed : ¬ KeyCovers cfg hb fp := fun h =>
  absurd (congrArg Rel.own? (h cxEmbed₁ cxEmbed₂ rfl)) (by decide)

/-- a stale archive is really served: after building `cxSide₁`, editing the side file and building again, the
    second build hands out the archive of the OLD side file (for every compiler that distinguishes the two) -/
theorem stale_served_sidefile [DecidableEq φ] {Obj Stored : Type} (compileRel : Rel → Obj) (storeObj : Obj → Stored)
    (loadObj : Stored → Obj) (hround : ∀ o, loadObj (storeObj o) = o)
    (hdist : compileRel (relevantOf cxSide₁) ≠ compileRel (relevantOf cxSide₂)) :
    served cfg hb fp compileRel storeObj loadObj ⟨cxSide₁.1, [cxSide₁.2]⟩ [.build {}, .edit ⟨cxSide₂.1, [cxSide₂.2]⟩, .build {}]
      ≠ some [compile compileRel cxSide₂] := by
  rw [served_stale cfg hb fp compileRel storeObj loadObj cxSide₁.1 cxSide₂.1 cxSide₁.2 cxSide₂.2 rfl (by decide) (by decide) (by decide), hround]
  intro h
  exact hdist (List.cons.inj (Option.some.inj h)).1

end Counterexamples

section Partial
variable {φ : Type} (hb : Bytes → φ) (fp : Manifest φ → φ)

/-- **`KeyCovers` of the legacy key under four explicit, decidable hypotheses**, proved from the transcribed `key` for
    every package tree (any depth of dependencies, overlays, versioned modules, tags, targets, flags …):
    equal manifests ⇒ equal relevant inputs, provided
    H1 `mtimeChangesWithContent` (no same-size edit with preserved mtime), H2 `noSideCFiles` (no `LLGoFiles`),
    H3 `sameCompilerEnv` (`CCFLAGS/CFLAGS/LDFLAGS` unchanged), H4 `noEmbed` (no `//go:embed`),
    and SHA-256 is collision free on the values hashed. -/
theorem keyCovers_partial (hbi : Function.Injective hb) (fpi : Function.Injective fp) (i₁ i₂ : Inputs)
    (h1 : mtimeChangesWithContent i₁ i₂) (h2 : noSideCFiles i₁ ∧ noSideCFiles i₂) (h3 : sameCompilerEnv i₁ i₂)
    (h4 : noEmbed i₁ ∧ noEmbed i₂) (hk : keyOf Cfg.legacy hb fp i₁ = keyOf Cfg.legacy hb fp i₂) :
    relevantOf i₁ = relevantOf i₂ :=
  keyCovers_pair Cfg.legacy hb fp hbi fpi ⟨fun _ => h1, h2.1, h2.2, fun _ => h3, h4.1, h4.2⟩ hk

/-- **`KeyCovers` of the key of `Cfg.fixed`**: with content hashes in the file digests and `CCFLAGS/CFLAGS/LDFLAGS` among
    the environment inputs, H1 and H3 are not needed — only H2 `noSideCFiles` and H4 `noEmbed` (and collision freeness). -/
theorem keyCovers_partial_fixed (hbi : Function.Injective hb) (fpi : Function.Injective fp) (i₁ i₂ : Inputs)
    (h2 : noSideCFiles i₁ ∧ noSideCFiles i₂) (h4 : noEmbed i₁ ∧ noEmbed i₂)
    (hk : keyOf Cfg.fixed hb fp i₁ = keyOf Cfg.fixed hb fp i₂) : relevantOf i₁ = relevantOf i₂ :=
  keyCovers_pair Cfg.fixed hb fp hbi fpi (.fixed ⟨h2.1, h4.1⟩ ⟨h2.2, h4.2⟩) hk

theorem contentHash_separates_mtime (cfg : Cfg) (hc : cfg.contentHash = true) (hbi : Function.Injective hb)
    (fpi : Function.Injective fp) : keyOf cfg hb fp cxMtime₁ ≠ keyOf cfg hb fp cxMtime₂ := fun hk =>
  cxMtime_ne (keyCovers_pair cfg hb fp hbi fpi
    ⟨fun h => absurd (hc.symm.trans h) nofun, by decide, by decide, fun _ => by decide, by decide, by decide⟩ hk)

theorem ccflagsEnv_separates_ccflags (cfg : Cfg) (hc : cfg.ccflagsEnv = true) (hbi : Function.Injective hb)
    (fpi : Function.Injective fp) : keyOf cfg hb fp cxEnv₁ ≠ keyOf cfg hb fp cxEnv₂ := fun hk =>
  cxEnv_ne (keyCovers_pair cfg hb fp hbi fpi
    ⟨fun _ => by decide, by decide, by decide, fun h => absurd (hc.symm.trans h) nofun, by decide, by decide⟩ hk)

/-- the two pairs that fool the key of `Cfg.legacy` are told apart by the key of `Cfg.fixed` (this theorem and the next) -/
theorem fixed_separates_mtime (hbi : Function.Injective hb) (fpi : Function.Injective fp) :
    keyOf Cfg.fixed hb fp cxMtime₁ ≠ keyOf Cfg.fixed hb fp cxMtime₂ :=
  contentHash_separates_mtime hb fp Cfg.fixed rfl hbi fpi

theorem fixed_separates_ccflags (hbi : Function.Injective hb) (fpi : Function.Injective fp) :
    keyOf Cfg.fixed hb fp cxEnv₁ ≠ keyOf Cfg.fixed hb fp cxEnv₂ :=
  ccflagsEnv_separates_ccflags hb fp Cfg.fixed rfl hbi fpi

def exDep (c : Bytes) (mt : Int) : PkgT :=
  .mk { id := "m/c", path := "m/c", name := "c"
        goFiles := [{ file := { path := "/m/c/c.go", content := c, mtime := mt } },
                    { file := { path := "/m/c/on.go", content := [1], mtime := 3 }, tag := some ("x", true) },
                    { file := { path := "/m/c/off.go", content := [2], mtime := 3 }, tag := some ("x", false) }]
        otherFiles := [{ path := "/m/c/c.s", content := [7], mtime := 4, overlay := some [8, 9] }]
        rewriteVars := [("V", "1")] } []
def exIn₁ : Inputs := ({ opt := .O0, env := [("LLGO_DEBUG", "1"), ("CCFLAGS", "-g")] },
  .mk { id := "m", path := "m", name := "main", goFiles := [{ file := { path := "/m/main.go", content := [5], mtime := 9 } }] }
    [exDep [49] 100])
def exIn₂ : Inputs := ({ opt := .O2, abiMode := 0, env := [("CCFLAGS", "-g")] },
  .mk { id := "m", path := "m", name := "main", goFiles := [{ file := { path := "/m/main.go", content := [5], mtime := 9 } }] }
    [exDep [53] 101])

/-- non-vacuity: two different two-package units (main → dep with a tag-selected file, an overlay file, an `-X`
    variable) in different configurations satisfy the hypotheses -/
example : mtimeChangesWithContent exIn₁ exIn₂ ∧ (noSideCFiles exIn₁ ∧ noSideCFiles exIn₂) ∧ sameCompilerEnv exIn₁ exIn₂
    ∧ (noEmbed exIn₁ ∧ noEmbed exIn₂) := by decide

/-- **Cache soundness for `Cfg.legacy`**: over any universe `S` of units that pairwise satisfy H1–H4, every
    history of edits/builds/cache clears serves exactly the clean build. -/
theorem cache_sound_partial [DecidableEq φ] {Obj Stored : Type} (compileRel : Rel → Obj) (storeObj : Obj → Stored)
    (loadObj : Stored → Obj) (hround : ∀ o, loadObj (storeObj o) = o) (S : Inputs → Prop)
    (hbi : Function.Injective hb) (fpi : Function.Injective fp) (hS : ∀ a b, S a → S b → Hyp Cfg.legacy a b)
    (p₀ : Program) (h : List Step) (hp₀ : ProgIn S p₀) (hh : ∀ st ∈ h, StepIn S st) (o : BuildOpts) :
    served Cfg.legacy hb fp compileRel storeObj loadObj p₀ (h ++ [.build o])
      = some ((current Cfg.legacy hb fp compileRel storeObj loadObj p₀ h).pkgs.map fun t =>
          compile compileRel ((current Cfg.legacy hb fp compileRel storeObj loadObj p₀ h).glob, t)) :=
  (cache_sound_on Cfg.legacy hb fp compileRel storeObj loadObj S fpi hround
    (keyCoversOn_of_hyp Cfg.legacy hb fp hbi fpi hS) p₀ h hp₀ hh o).1

/-- **Cache soundness for `Cfg.fixed`**: as long as no package of the history uses
    `LLGoFiles` side files or `//go:embed` — a condition on each unit alone — every history of edits (same-size edits
    with restored mtimes and `CCFLAGS` changes included), builds and cache clears serves exactly the clean build. -/
theorem cache_sound_fixed [DecidableEq φ] {Obj Stored : Type} (compileRel : Rel → Obj) (storeObj : Obj → Stored)
    (loadObj : Stored → Obj) (hround : ∀ o, loadObj (storeObj o) = o) (S : Inputs → Prop)
    (hbi : Function.Injective hb) (fpi : Function.Injective fp) (hS : ∀ a, S a → noSideCFiles a ∧ noEmbed a)
    (p₀ : Program) (h : List Step) (hp₀ : ProgIn S p₀) (hh : ∀ st ∈ h, StepIn S st) (o : BuildOpts) :
    served Cfg.fixed hb fp compileRel storeObj loadObj p₀ (h ++ [.build o])
      = some ((current Cfg.fixed hb fp compileRel storeObj loadObj p₀ h).pkgs.map fun t =>
          compile compileRel ((current Cfg.fixed hb fp compileRel storeObj loadObj p₀ h).glob, t)) :=
  (cache_sound_on Cfg.fixed hb fp compileRel storeObj loadObj S fpi hround
    (keyCoversOn_of_hyp Cfg.fixed hb fp hbi fpi fun a b sa sb => .fixed (hS a sa) (hS b sb)) p₀ h hp₀ hh o).1

/-- **what the cache restores besides the archive is what was stored** (`load (store m) = m` for the metadata record of
    `saveToCache` / `tryLoadFromCache`): the link arguments with their order and multiplicity, `NeedRt`, `NeedPyInit` -/
theorem cache_metadata_roundtrip (m : Meta) : loadMeta (storeMeta m) = m := by
  unfold storeMeta
  split
  · -- all three fields are zero: no metadata section is stored, and the zero record comes back
    cases m
    simp_all [loadMeta]
  · rfl

example : loadMeta (storeMeta { linkArgs := ["-Xlinker", "--defsym=a=11", "-Xlinker", "--defsym=b=22", "-lfoo", "-lbar", "-lfoo"], needRt := true })
    = { linkArgs := ["-Xlinker", "--defsym=a=11", "-Xlinker", "--defsym=b=22", "-lfoo", "-lbar", "-lfoo"], needRt := true } := by decide

/-- **the whole artifact comes back**: archive bytes and metadata (`copyFileAtomic` + the `metadata:` section) -/
theorem cache_artifact_roundtrip {A : Type} (a : Artifact A) : loadArtifact (storeArtifact a) = a := by
  cases a
  simp [loadArtifact, storeArtifact, cache_metadata_roundtrip]

/-- **Cache soundness for `Cfg.fixed`, artifacts = archive + metadata**: `cache_sound_fixed` with the transcribed
    store/load pair plugged in (no round-trip hypothesis left): a build served from the cache links the same archives with
    the same link arguments and the same runtime-initialisation flags as the clean build. -/
theorem cache_sound_fixed_artifacts [DecidableEq φ] {A : Type} (compileRel : Rel → Artifact A) (S : Inputs → Prop)
    (hbi : Function.Injective hb) (fpi : Function.Injective fp) (hS : ∀ a, S a → noSideCFiles a ∧ noEmbed a)
    (p₀ : Program) (h : List Step) (hp₀ : ProgIn S p₀) (hh : ∀ st ∈ h, StepIn S st) (o : BuildOpts) :
    served Cfg.fixed hb fp compileRel storeArtifact loadArtifact p₀ (h ++ [.build o])
      = some ((current Cfg.fixed hb fp compileRel storeArtifact loadArtifact p₀ h).pkgs.map fun t =>
          compile compileRel ((current Cfg.fixed hb fp compileRel storeArtifact loadArtifact p₀ h).glob, t)) :=
  cache_sound_fixed hb fp compileRel storeArtifact loadArtifact cache_artifact_roundtrip S hbi fpi hS p₀ h hp₀ hh o

/-- **the round trip is necessary, not only sufficient**: for ANY store/load pair, any configuration and any cacheable
    non-main package, if what `tryLoadFromCache` makes of what `saveToCache` kept of the package's clean output is not that
    output (a link argument dropped, a flag reset, an archive byte changed), then the plain no-op rebuild `build, build`
    already hands out something a clean build would not.  Together with `cache_sound_on` (which needs
    `∀ o, loadObj (storeObj o) = o`) this is why the check judges the real `saveToCache`/`tryLoadFromCache` pair by
    `load ∘ store = id` on generated artifacts. -/
theorem roundtrip_necessary [DecidableEq φ] {Obj Stored : Type} (cfg : Cfg) (compileRel : Rel → Obj) (storeObj : Obj → Stored)
    (loadObj : Stored → Obj) (g : Global) (t : PkgT)
    (hn : (t.data.name != "main") = true) (hkind : cachedKind t.data = true)
    (hbad : loadObj (storeObj (compileRel (relevant g t))) ≠ compileRel (relevant g t)) :
    served cfg hb fp compileRel storeObj loadObj ⟨g, [t]⟩ [.build {}, .build {}] ≠ some [compile compileRel (g, t)] := by
  rw [served_noop_rebuild cfg hb fp compileRel storeObj loadObj g t hn hkind]
  intro h
  exact hbad (List.cons.inj (Option.some.inj h)).1

/-- the hypotheses of `roundtrip_necessary` are satisfiable: a store that keeps each link argument once (and a compiler whose
    output for the unit repeats a token) -/
example : ∃ (storeObj : Meta → Meta) (loadObj : Meta → Meta) (compileRel : Rel → Meta),
    (cxSide₁.2.data.name != "main") = true ∧ cachedKind cxSide₁.2.data = true
      ∧ loadObj (storeObj (compileRel (relevant cxSide₁.1 cxSide₁.2))) ≠ compileRel (relevant cxSide₁.1 cxSide₁.2) :=
  ⟨fun m => { m with linkArgs := m.linkArgs.eraseDups }, id, fun _ => { linkArgs := ["-Xlinker", "a", "-Xlinker", "b"] },
    by decide, by decide, by decide⟩

/-- the hypothesis `hS` of `cache_sound_partial` is satisfiable: the universe {exIn₁, exIn₂} -/
theorem exUniverse_hyp : ∀ a b, (fun i => i = exIn₁ ∨ i = exIn₂) a → (fun i => i = exIn₁ ∨ i = exIn₂) b →
    Hyp Cfg.legacy a b := by
  intro a b ha hb
  rcases ha with rfl | rfl <;> rcases hb with rfl | rfl <;> decide

example (hbi : Function.Injective hb) (fpi : Function.Injective fp) :
    KeyCoversOn Cfg.legacy hb fp (fun i => i = exIn₁ ∨ i = exIn₂) :=
  keyCoversOn_of_hyp Cfg.legacy hb fp hbi fpi exUniverse_hyp

/-- the universe {cxMtime₁, cxMtime₂, cxEnv₁, cxEnv₂, exIn₁} — which violates H1 and H3 — is fine for `Cfg.fixed` -/
example : ∀ a, (a = cxMtime₁ ∨ a = cxMtime₂ ∨ a = cxEnv₁ ∨ a = cxEnv₂ ∨ a = exIn₁) → noSideCFiles a ∧ noEmbed a := by
  intro a ha
  rcases ha with rfl | rfl | rfl | rfl | rfl <;> decide

example : ProgIn (fun i => i = exIn₁ ∨ i = exIn₂) ⟨exIn₁.1, [exIn₁.2]⟩ := by
  intro t ht
  simp only [List.mem_singleton] at ht
  exact Or.inl (by rw [ht])

end Partial

/-- sorting by a string key does not depend on the order in which the items arrive (Go: range over a map) -/
theorem sorted_order_independent {α : Type} (k : α → String) {l₁ l₂ : List α} (hp : l₁.Perm l₂)
    (hnd : (l₁.map k).Nodup) :
    isort (fun a b => strLe (k a) (k b)) l₁ = isort (fun a b => strLe (k a) (k b)) l₂ :=
  isort_eq_of_perm _ (fun a b c => strLe_trans (k a) (k b) (k c)) (fun a b => strLe_total (k a) (k b)) hp
    (fun a b ha hb hab hba => eq_of_nodup_map k l₁ hnd a ha b hb (strLe_antisymm _ _ hab hba))

/-- **`processPkg` emits the same sequence whatever order `range pkg.Members` delivers** -/
theorem emission_order_independent (skips : List String) (m₁ m₂ : List Member) (hp : m₁.Perm m₂)
    (hnd : (m₁.map (·.name)).Nodup) : processPkg skips m₁ = processPkg skips m₂ := by
  unfold processPkg
  exact congrArg _ (sorted_order_independent Member.name (hp.filter _) (nodup_map_filter _ _ hnd))

def exMembers : List Member := [⟨"b", .type, "B"⟩, ⟨"a", .func false, "A"⟩, ⟨"c", .global, "C"⟩, ⟨"a_trampoline", .func false, "T"⟩]
example : (exMembers.map (·.name)).Nodup := by decide
example : exMembers.Perm exMembers.reverse := (List.reverse_perm _).symm

/-- a set of names has at most one listing (strictly increasing, exactly the members) -/
theorem listing_unique {P : String → Prop} {l₁ l₂ : List String} (h₁ : ListingOf P l₁) (h₂ : ListingOf P l₂) : l₁ = l₂ := by
  have hperm : l₁.Perm l₂ :=
    (List.perm_ext_iff_of_nodup (strictSorted_nodup h₁.1) (strictSorted_nodup h₂.1)).2
      (fun n => (h₁.2 n).trans (h₂.2 n).symm)
  refine List.Perm.eq_of_pairwise (le := fun x y => strLe x y = true ∧ x ≠ y) ?_ h₁.1 h₂.1 hperm
  intro a b _ _ hab hba
  exact strLe_antisymm a b hab.1 hba.1

/-- **what `getAbiTypesFor` lists is THE listing of the selected descriptors**: strictly increasing by name, and a name is
    listed iff it is in the symbol table and passes the filter — for every filter and every order of arrival -/
theorem abiTypeNames_listing (filter : String → Bool) (syms : List (String × String)) (hnd : (syms.map (·.1)).Nodup) :
    ListingOf (fun n => filter n = true ∧ ∃ v, (n, v) ∈ syms) (abiTypeNames filter syms) := by
  unfold abiTypeNames
  constructor
  · exact List.Pairwise.and (pairwise_isort strLe strLe_trans strLe_total _)
      ((isort_perm strLe _).nodup_iff.2 (nodup_map_filter _ _ hnd))
  · intro n
    rw [mem_isort]
    simp only [List.mem_map, List.mem_filter]
    constructor
    · rintro ⟨⟨k, v⟩, ⟨hm, hf⟩, rfl⟩
      exact ⟨hf, v, hm⟩
    · rintro ⟨hf, v, hm⟩
      exact ⟨(n, v), ⟨hm, hf⟩, rfl⟩

/-- **the emitted list is a function of the SET of symbols** (no permutation needed: two symbol tables with the same
    entries, however they were filled and iterated, give the same list) -/
theorem abiTypeNames_set_determined (filter : String → Bool) (s₁ s₂ : List (String × String))
    (hnd₁ : (s₁.map (·.1)).Nodup) (hnd₂ : (s₂.map (·.1)).Nodup) (hset : ∀ kv, kv ∈ s₁ ↔ kv ∈ s₂) :
    abiTypeNames filter s₁ = abiTypeNames filter s₂ := by
  have h₁ := abiTypeNames_listing filter s₁ hnd₁
  have h₂ := abiTypeNames_listing filter s₂ hnd₂
  refine listing_unique h₁ ⟨h₂.1, fun n => (h₂.2 n).trans ?_⟩
  constructor
  · rintro ⟨hf, v, hm⟩; exact ⟨hf, v, (hset _).2 hm⟩
  · rintro ⟨hf, v, hm⟩; exact ⟨hf, v, (hset _).1 hm⟩

example : ([("t2", "B"), ("t1", "A")].map (·.1)).Nodup ∧ ([("t1", "A"), ("t2", "B")].map (·.1)).Nodup
    ∧ ∀ kv, kv ∈ [("t2", "B"), ("t1", "A")] ↔ kv ∈ [("t1", "A"), ("t2", "B")] := by
  refine ⟨by decide, by decide, fun kv => ?_⟩
  simp only [List.mem_cons, List.not_mem_nil, or_false]
  exact Or.comm

/-- **`getAbiTypesFor` builds the same array whatever order `range prog.abiSymbol` delivers** — for every filter
    (`nil` and the entry module's "linked ∧ `filterAbiSymbol abiInit`" alike) -/
theorem abiTypes_order_independent (filter : String → Bool) (s₁ s₂ : List (String × String)) (hp : s₁.Perm s₂)
    (hnd : (s₁.map (·.1)).Nodup) : abiTypesFor filter s₁ = abiTypesFor filter s₂ := by
  unfold abiTypesFor
  rw [abiTypeNames_set_determined filter s₁ s₂ hnd ((hp.map _).nodup_iff.1 hnd) fun _ => hp.mem_iff]
  refine List.map_congr_left fun n _ => ?_
  rw [find?_perm hp fun a ha b hb pa pb => eq_of_nodup_map (·.1) s₁ hnd a ha b hb
    ((beq_iff_eq.1 pa).trans (beq_iff_eq.1 pb).symm)]

example : ([("t2", "B"), ("t1", "A"), ("t3", "C")].map (·.1)).Nodup := by decide

/-- the sort is what makes it so: the filtered names as `range` delivers them do depend on the order of arrival as soon
    as two descriptors pass the filter -/
theorem abiTypes_sort_needed :
    ∃ (filter : String → Bool) (s₁ s₂ : List (String × String)), s₁.Perm s₂ ∧ (s₁.map (·.1)).Nodup ∧
      (s₁.filter fun kv => filter kv.1).map (·.1) ≠ (s₂.filter fun kv => filter kv.1).map (·.1) :=
  ⟨fun n => n != "c", [("b", "2"), ("a", "1"), ("c", "3")], [("a", "1"), ("b", "2"), ("c", "3")], List.Perm.swap _ _ _, by decide, by decide⟩

/-- **the manifest does not depend on map iteration order**: permuting the imports (`pkg.Imports` is a Go map) and the
    `-X` variables (`rewriteVars` is a Go map) of a package leaves its fingerprint unchanged -/
theorem manifest_order_independent {φ : Type} (cfg : Cfg) (hb : Bytes → φ) (fp : Manifest φ → φ) (g : Global) (d : PkgData)
    (rv₂ : List (String × String)) (deps₁ deps₂ : List PkgT) (hd : deps₁.Perm deps₂)
    (hnd : (deps₁.map (·.data.id)).Nodup) (hr : d.rewriteVars.Perm rv₂) (hrn : (d.rewriteVars.map (·.1)).Nodup) :
    key cfg hb fp g (.mk d deps₁) = key cfg hb fp g (.mk { d with rewriteVars := rv₂ } deps₂) := by
  have hpkg : packageSection cfg hb g d = packageSection cfg hb g { d with rewriteVars := rv₂ } := by
    simp only [packageSection, sorted_order_independent (fun kv : String × String => kv.1) hr hrn]
  have hdeps : sortedDeps d deps₁ = sortedDeps { d with rewriteVars := rv₂ } deps₂ :=
    sorted_order_independent (fun t : PkgT => t.data.id) (hd.filter _) (nodup_map_filter _ _ hnd)
  rw [key_eq, key_eq, hpkg, hdeps]

example : ([exDep [49] 100, PkgT.mk { id := "m/b", path := "m/b" } []].map (·.data.id)).Nodup
    ∧ ([("V", "1"), ("W", "2")].map (·.1)).Nodup := by decide

end LlgoVerif.Cache
