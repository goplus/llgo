import LlgoVerif.Lemmas.Sema
import LlgoVerif.Lemmas.AtomicValue
import LlgoVerif.Lemmas.Mutex
import LlgoVerif.Spec.Atomics
import LlgoVerif.Gen.C11Atomics
/-!
# C11 — goroutines, sync primitives and atomics keep their guarantees under contention

Model: `Model/Sema.lean` (llgo's semaphore and notify list, `runtime/internal/lib/runtime/
sema_llgo.go`, as a transition system over ANY number of threads, any programs, any interleaving at lock / atomic /
wait granularity, spurious wake-ups and the environment's choice of the thread a `Signal` wakes included).

`Cfg.current` is `sema_llgo.go` before, `Cfg.fixed` after `/verif/fixes/C11-1.diff` (ticket comparison in
`notifyListWait`, broadcast in `NotifyOne`) and `C11-2.diff` (retry after a failed CAS in `semaAcquire`).  Statements
that are false for `Cfg.current` stay visible as `def … : Prop` with a `…_counterexample` (a concrete schedule,
replayed on the real code by `checks/c11.py`) and a `…_partial` (`NotifyReachesTicket`: refuted for
`⟨true, false, true⟩` only, no `…_partial`).

Atomics: indivisibility and the single total order of `seq_cst` instructions are LLVM's and the hardware's: trusted, not
proved.
-/
namespace LlgoVerif.C11
open LlgoVerif.Sema LlgoVerif.Atomics

theorem of_run {cfg : Cfg} {s0 : State} (as : List Action) (p : State → Bool)
    (h : (run cfg s0 as).map p = some true) : ∃ s, Reachable cfg s0 s ∧ p s = true := by
  cases hr : run cfg s0 as with
  | none => simp [hr] at h
  | some s =>
    simp only [hr, Option.map_some, Option.some.injEq] at h
    exact ⟨s, run_reachable as s0 s .refl hr, h⟩

/-! ## 1. Semaphore -/

/-- **permits are conserved**: under every interleaving, `count + completed acquires = initial + releases`. -/
theorem permits_conserved (cfg : Cfg) (v : Nat) (progs : List (List Op)) (s : State)
    (h : Reachable cfg (init v progs) s) : s.sh.val + s.sh.acquired = v + s.sh.released :=
  (baseInv_reachable h).cons

theorem acquires_bounded (cfg : Cfg) (v : Nat) (progs : List (List Op)) (s : State)
    (h : Reachable cfg (init v progs) s) : s.sh.acquired ≤ v + s.sh.released := by
  have := permits_conserved cfg v progs s h; omega

/-- **an acquire completes only on a positive count**: the history holds one entry per completed acquire, and every
    entry (the count the successful CAS replaced) is positive. -/
theorem acquire_needs_release (cfg : Cfg) (v : Nat) (progs : List (List Op)) (s : State)
    (h : Reachable cfg (init v progs) s) :
    s.sh.acqSaw.length = s.sh.acquired ∧ ∀ c ∈ s.sh.acqSaw, 0 < c :=
  (baseInv_reachable h).saw

example : ∃ s, Reachable Cfg.current (init 1 [[.acquire, .release], [.acquire, .release]]) s ∧
    (s.sh.acquired == 2 && s.sh.released == 2 && s.sh.val == 1) = true :=
  of_run [.step 0 0, .step 0 0, .step 0 0, .step 1 0, .step 0 0, .step 0 0, .step 1 0, .step 1 0, .step 1 0, .step 1 0]
    _ (by decide)

/-- a thread is asleep in the semaphore's `Cond.Wait` -/
def SomeoneAsleep (s : State) : Prop := ∃ (i : Nat) (t : Thread), s.threads[i]? = some t ∧ t.pc = .aWait

/-- a wake-up or re-check is pending: a releaser between its `Add` and its `Signal`, a woken sleeper, or the holder of
    the semaphore's mutex about to (re-)read the count -/
def WakePending (s : State) : Prop :=
  ∃ (j : Nat) (t : Thread), s.threads[j]? = some t ∧
    (t.pc = .rGet ∨ t.pc = .rLock ∨ t.pc = .aWoken ∨ t.pc = .aLoad2 ∨ ∃ v, t.pc = .aCas2 v)

/-- `st.waiters` counts exactly the threads between `waiters++` and `waiters--`, so `semaRelease`'s test
    `if st.waiters != 0` never skips a sleeper.  `hc` is not needed. -/
theorem waiters_counted (cfg : Cfg) (v : Nat) (progs : List (List Op)) (s : State)
    (h : Reachable cfg (init v progs) s) (hc : cfg.casRetry = true ∨ s.sh.maxVal ≤ 1) :
    s.sh.waiters = total mW s.threads :=
  (baseInv_reachable h).wc.trans (total_eq ..).symm

/-- **Full statement (no lost wake-up)**: whenever the count is positive while a thread sleeps in the semaphore, a
    wake-up or a re-check of the count is pending — a sleeper is never left behind with a permit available. -/
def NoLostWakeup (cfg : Cfg) : Prop :=
  ∀ (v : Nat) (progs : List (List Op)) (s : State), Reachable cfg (init v progs) s →
    0 < s.sh.val → SomeoneAsleep s → WakePending s

theorem someoneAsleep_iff {s : State} : SomeoneAsleep s ↔ 0 < (s.threads.map (·.pc.mWt)).sum :=
  Total.sum_pos_iff _ fun ⟨pc, _, _⟩ => by cases pc <;> simp [Pc.mWt]

theorem wakePending_iff {s : State} : WakePending s ↔ 0 < (s.threads.map (·.pc.mP)).sum :=
  Total.sum_pos_iff _ fun ⟨pc, _, _⟩ => by cases pc <;> simp [Pc.mP]

theorem no_lost_wakeup {cfg : Cfg} {v c0 : Nat} {progs : List (List Op)} {s : State}
    (hr : Reachable cfg (initAt v c0 progs) s) (hc : cfg.casRetry = true ∨ s.sh.maxVal ≤ 1) (hv : 0 < s.sh.val)
    (hs : SomeoneAsleep s) : WakePending s :=
  wakePending_iff.mpr (Nat.lt_of_lt_of_le hv (semInv_reachable hr hc (someoneAsleep_iff.mp hs)))

/-- `NoLostWakeup` holds for the repaired loop (`fixes/C11-2.diff`) -/
theorem no_lost_wakeup_fixed (cfg : Cfg) (hc : cfg.casRetry = true) : NoLostWakeup cfg :=
  fun _ _ _ hr => no_lost_wakeup hr (.inl hc)

/-- without the retry (`Cfg.current`) `NoLostWakeup` holds in every run in which the count never exceeded 1 (a binary
    semaphore, the way `sync.Mutex` uses it) -/
theorem no_lost_wakeup_partial (cfg : Cfg) (v : Nat) (progs : List (List Op)) (s : State)
    (hr : Reachable cfg (init v progs) s) (hmax : s.sh.maxVal ≤ 1) :
    0 < s.sh.val → SomeoneAsleep s → WakePending s :=
  no_lost_wakeup hr (.inr hmax)

/-- the hypothesis is satisfiable on a non-trivial run: two threads contend for a binary semaphore, one sleeps -/
example : ∃ s, Reachable Cfg.current (init 0 [[.acquire], [.release]]) s ∧
    (decide (s.sh.maxVal ≤ 1) && decide (0 < s.sh.val) && s.threads.any (fun t => t.pc == .aWait)) = true :=
  of_run [.step 0 0, .step 0 0, .step 0 0, .step 0 0, .step 1 0] _ (by decide)

/-- `NoLostWakeup` is FALSE for `Cfg.current`: `if v != 0 && CAS(addr, v, v-1)` falls through to `waiters++; Wait` also
    when the CAS merely lost a race.  Count 3, three acquirers: thread 1 reaches the locked loop, reads 2, thread 2
    takes a permit, thread 1's CAS fails and it goes to sleep with count 1 — every other thread is finished. -/
theorem no_lost_wakeup_counterexample : ¬ NoLostWakeup Cfg.current := by
  intro h
  obtain ⟨s, hr, hp⟩ := of_run (cfg := Cfg.current) (s0 := init 3 [[.acquire], [.acquire], [.acquire]])
    [.step 0 0, .step 1 0, .step 0 0, .step 1 0, .step 1 0, .step 1 0, .step 1 0, .step 2 0, .step 2 0, .step 1 0]
    (fun s => decide (0 < s.sh.val ∧ 0 < (s.threads.map (·.pc.mWt)).sum ∧ (s.threads.map (·.pc.mP)).sum = 0)) (by decide)
  obtain ⟨hv, ha, hp⟩ := of_decide_eq_true hp
  have := wakePending_iff.mp (h 3 _ s hr hv (someoneAsleep_iff.mpr ha))
  omega

/-! ## 2. Notify list

`wait` / `notify` are the TRUE numbers of tickets drawn / notified; the code only sees their 32-bit images and compares
them with `!=` and `notifyLess(a, b) = int32(a-b) < 0`.  `initAt v c0 progs` starts both counters at an arbitrary `c0`
(e.g. `2^32 - 2`: the list has already served that many waiters), so every statement below covers histories in which
the 32-bit counters wrap.  `s.sh.wait < c0 + 2^31` = "fewer than 2^31 tickets were drawn in this history". -/

theorem notify_counters_ordered (cfg : Cfg) (v c0 : Nat) (progs : List (List Op)) (s : State)
    (h : Reachable cfg (initAt v c0 progs) s) : c0 ≤ s.sh.notify ∧ s.sh.notify ≤ s.sh.wait :=
  (nlInv_reachable h).ord

/-- **the guard of `NotifyOne` is exact across the wrap**: `notify32 != wait32` holds exactly when a ticket is
    outstanding (`notify < wait`), as long as fewer than 2^32 tickets are outstanding. -/
theorem notify_one_guard_exact (cfg : Cfg) (v c0 : Nat) (progs : List (List Op)) (s : State)
    (h : Reachable cfg (initAt v c0 progs) s) (j : Nat) (u : Thread) (n : Nat) (hu : s.threads[j]? = some u)
    (hpc : u.pc = .n1LoadWait n) (hb : s.sh.wait < s.sh.notify + W32) :
    (n % W32 ≠ s.sh.wait % W32) ↔ n < s.sh.wait := by
  have I := nlInv_reachable h
  have hl := (I.thr j u hu).loc
  simp only [NlLocal, hpc] at hl
  subst hl
  exact mod_ne_iff_lt I.ord.2 hb

/-- an ordinary unsigned `<` on the 32-bit images is NOT the ticket order: with `notify = 2^32 - 2` and `wait = 2^32 + 1`
    (three tickets outstanding, `wait` has wrapped) it says "nothing to notify" -/
theorem unsigned_less_is_not_ticket_order :
    ∃ n w : Nat, n < w ∧ w < n + 2147483648 ∧ ¬ (n % W32 < w % W32) ∧ n % W32 ≠ w % W32 ∧ less32 n w = true :=
  ⟨4294967294, 4294967297, by decide⟩

/-- **the loop of `notifyListWait` is exact across the wrap**: while fewer than 2^31 tickets have been drawn, the
    repaired loop condition `!notifyLess(t, notify)` is `notify ≤ t` on the true counters -/
theorem wait_loop_exact (cfg : Cfg) (hc : cfg.ticketLess = true) (v c0 : Nat) (progs : List (List Op)) (s : State)
    (h : Reachable cfg (initAt v c0 progs) s) (hb : s.sh.wait < c0 + 2147483648) (j : Nat) (u : Thread) (tk : Nat)
    (hu : s.threads[j]? = some u) (hpc : u.pc = .wLoad tk) :
    keepWaiting cfg s.sh.notify tk = decide (s.sh.notify ≤ tk) := by
  have I := nlInv_reachable h
  have hl := (I.thr j u hu).loc
  have ho := I.ord
  simp only [NlLocal, hpc] at hl
  exact keepWaiting_eq hc (by omega) (by omega)

/-- **Full statement**: `notifyListWait(t)` returns only when `notify > t` at that moment, i.e. only after a
    `NotifyOne`/`NotifyAll` that covers ticket `t` (`rets` = the history of returns: thread, ticket, `notify` read). -/
def WaitReturnsOnlyAfterNotify (cfg : Cfg) : Prop :=
  ∀ (v c0 : Nat) (progs : List (List Op)) (s : State), Reachable cfg (initAt v c0 progs) s →
    s.sh.wait < c0 + 2147483648 → ∀ r ∈ s.sh.rets, r.2.1 < r.2.2

/-- FALSE for the code before `fixes/C11-1.diff` (`for notify == t`): two waiters, nobody ever notifies, the second
    waiter (ticket 1, `notify` 0) returns. -/
theorem wait_returns_only_after_notify_counterexample : ¬ WaitReturnsOnlyAfterNotify Cfg.current := by
  intro h
  obtain ⟨s, hr, hp⟩ := of_run (cfg := Cfg.current) (s0 := initAt 0 0 [[.wait], [.wait]])
    [.step 0 0, .step 1 0, .step 1 0, .step 1 0, .step 1 0]
    (fun s => decide ((1, 1, 0) ∈ s.sh.rets) && decide (s.sh.wait < 2147483648)) (by decide)
  simp only [Bool.and_eq_true, decide_eq_true_eq] at hp
  have := h 0 0 _ s hr (by omega) (1, 1, 0) hp.1
  simp at this

/-- what the code before `fixes/C11-1.diff` does guarantee: a return happens only when `notify ≠ ticket` -/
theorem wait_returns_only_if_notify_differs (cfg : Cfg) (hc : cfg.ticketLess = false) (v c0 : Nat)
    (progs : List (List Op)) (s : State) (h : Reachable cfg (initAt v c0 progs) s) :
    ∀ r ∈ s.sh.rets, r.2.2 ≠ r.2.1 := by
  intro r hr
  have := ((nlInv_reachable h).rng r hr).loopFalse
  rw [keepWaiting_of_eq hc] at this
  exact fun he => beq_eq_false_iff_ne.mp this (congrArg (· % W32) he)

/-- `notify ≠ ticket` is the full statement (`notify > ticket`) as long as at most one ticket has been drawn (a single
    waiter) -/
theorem wait_returns_only_after_notify_partial (cfg : Cfg) (hc : cfg.ticketLess = false) (v c0 : Nat)
    (progs : List (List Op)) (s : State) (h : Reachable cfg (initAt v c0 progs) s) (h1 : s.sh.wait ≤ c0 + 1) :
    ∀ r ∈ s.sh.rets, r.2.1 < r.2.2 := by
  intro r hr
  have hd := wait_returns_only_if_notify_differs cfg hc v c0 progs s h r hr
  have ⟨_, _, _⟩ := (nlInv_reachable h).rng r hr
  omega

example : ∃ s, Reachable Cfg.current (initAt 0 4294967295 [[.wait], [.notifyAll]]) s ∧
    (decide (s.sh.wait ≤ 4294967295 + 1) && decide (s.sh.rets = [(0, 4294967295, 4294967296)])) = true :=
  of_run [.step 0 0, .step 0 0, .step 0 0, .step 0 0, .step 1 0, .step 1 0, .step 1 0, .step 1 0, .step 0 0, .step 0 0] _
    (by decide)

/-- the full statement holds for the repaired loop (`fixes/C11-1.diff`: wait while `!notifyLess(t, notify)`), wherever
    the counters start — across the 2^32 wrap. -/
theorem wait_returns_only_after_notify_fixed (cfg : Cfg) (hc : cfg.ticketLess = true) :
    WaitReturnsOnlyAfterNotify cfg := by
  intro v c0 progs s h hb r hr
  obtain ⟨hk, _, _⟩ := (nlInv_reachable h).rng r hr
  rw [keepWaiting_eq hc (by omega) (by omega)] at hk
  exact Nat.lt_of_not_le (of_decide_eq_false hk)

/-- a history that crosses the wrap: the counters start at `2^32 - 1`, the waiter draws ticket `2^32 - 1` (`wait` becomes
    `0` in the code), `NotifyOne` sees `notify32 = 0xFFFFFFFF != wait32 = 0`, notifies, and the waiter returns -/
example : ∃ s, Reachable Cfg.fixed (initAt 0 4294967295 [[.wait], [.notifyOne]]) s ∧
    (decide (s.sh.rets = [(0, 4294967295, 4294967296)]) && decide (s.sh.wait % W32 = 0) &&
     s.threads.all (fun t => t.pc == .done)) = true :=
  of_run [.step 0 0, .step 0 0, .step 0 0, .step 0 0, .step 1 0, .step 1 0, .step 1 0, .step 1 0, .step 1 0,
          .step 0 0, .step 0 0] _ (by decide)

/-- **Full statement (notifications reach their tickets)**: nobody stays asleep on the notify list with a ticket that
    has been notified. -/
def NotifyReachesTicket (cfg : Cfg) : Prop :=
  ∀ (v c0 : Nat) (progs : List (List Op)) (s : State), Reachable cfg (initAt v c0 progs) s →
    s.sh.wait < c0 + 2147483648 → ∀ t ∈ s.threads, ∀ tk, t.pc = .wWait tk → s.sh.notify ≤ tk

/-- with the ticket comparison repaired but `NotifyOne` still doing `Signal`, pthreads may wake the waiter with
    ticket 1 (which goes back to sleep) and leave ticket 0 asleep although `notify = 1`: this is why the repair also
    turns the `Signal` into a `Broadcast`. -/
theorem notify_reaches_ticket_counterexample : ¬ NotifyReachesTicket ⟨true, false, true⟩ := by
  intro h
  obtain ⟨s, hr, hp⟩ := of_run (cfg := ⟨true, false, true⟩) (s0 := initAt 0 0 [[.wait], [.wait], [.notifyOne]])
    [.step 0 0, .step 0 0, .step 0 0, .step 0 0, .step 1 0, .step 1 0, .step 1 0, .step 1 0,
     .step 2 0, .step 2 0, .step 2 0, .step 2 0, .step 2 1]
    (fun s => decide (s.sh.notify = 1) && decide (s.sh.wait < 2147483648) &&
      decide (s.threads[0]?.map (fun (t : Thread) => t.pc) = some (Pc.wWait 0)))
    (by decide)
  simp only [Bool.and_eq_true, decide_eq_true_eq] at hp
  obtain ⟨⟨hn, hw⟩, hpc⟩ := hp
  obtain ⟨t, ht, hpc⟩ := Option.map_eq_some_iff.mp hpc
  have := h 0 0 _ s hr (by omega) t (List.mem_of_getElem? ht) 0 hpc
  omega

/-- the repaired notify list: every interleaving, any number of waiters and notifiers, wherever the counters start. -/
theorem notify_reaches_ticket_fixed (cfg : Cfg) (h1 : cfg.ticketLess = true) (h2 : cfg.oneBroadcast = true) :
    NotifyReachesTicket cfg := by
  intro v c0 progs s hr hb t ht
  obtain ⟨j, hj⟩ := List.getElem?_of_mem ht
  exact noStale_reachable h1 h2 hr hb j t hj

/-! ## 3. Atomics: the regenerated lowering table -/

theorem fn_all_complete : ∀ f : Fn, f ∈ Fn.all := by
  intro f; cases f <;> decide

/-- **every `sync/atomic` entry point lowers to a single atomic instruction of the right operation and width with
    `seq_cst` ordering** (strong `cmpxchg`, default scope, natural alignment, no other memory access) — over the WHOLE
    table regenerated from the IR of the llgo built from the working tree. -/
theorem atomics_lowering : ∀ e ∈ Gen.C11.table, e.ok = true := by decide

theorem atomics_complete : ∀ f ∈ Fn.all, (Gen.C11.table.any fun e => e.fn == f) = true := by decide

/-! ## 4. `atomic.Value` (`runtime/internal/lib/sync/atomic/value.go`): the first-store protocol

Model: `Model/AtomicValue.lean` — `Store`, `Load`, `Swap`, `CompareAndSwap` at atomic-access granularity (type word
`nil → firstStoreInProgress → real type`, data word), any number of threads, any programs, every interleaving. -/

/-- `written` is ghost: the statements below weaken this to "an argument of some call" -/
theorem value_observed_written {progs : List (List AValue.Op)} {s : AValue.State}
    (h : AValue.Reachable (AValue.init progs) s) : ∀ v ∈ s.sh.observed, v ∈ s.sh.written :=
  (AValue.inv_reachable h).obs

theorem value_published_written {progs : List (List AValue.Op)} {s : AValue.State}
    (h : AValue.Reachable (AValue.init progs) s) {τ : Nat} (hτ : s.sh.typ = .real τ) : (τ, s.sh.data) ∈ s.sh.written :=
  (AValue.inv_reachable h).pub τ hτ

/-- **A `Load` (or the old value of a `Swap`) never yields a (type, data) pair that nobody stored**: it observes either
    nothing (`nil`, not recorded) or a value that some `Store`/`Swap`/`CompareAndSwap` call of the programs passed in,
    completely — in particular never a real type word next to the initial `nil` data word. -/
theorem value_load_observes_stored (progs : List (List AValue.Op)) (s : AValue.State)
    (h : AValue.Reachable (AValue.init progs) s) : ∀ v ∈ s.sh.observed, v ∈ AValue.offered progs :=
  fun v hv => AValue.written_offered h v (value_observed_written h v hv)

/-- the published type word always comes with a data word stored under that type -/
theorem value_published_complete (progs : List (List AValue.Op)) (s : AValue.State)
    (h : AValue.Reachable (AValue.init progs) s) (τ : Nat) (hτ : s.sh.typ = .real τ) :
    (τ, s.sh.data) ∈ AValue.offered progs :=
  AValue.written_offered h _ (value_published_written h hτ)

/-- only the thread whose CAS won is inside the first store -/
theorem value_first_store_exclusive (progs : List (List AValue.Op)) (s : AValue.State)
    (h : AValue.Reachable (AValue.init progs) s) (j k : Nat) (u w : AValue.Thread)
    (hu : s.threads[j]? = some u) (hw : s.threads[k]? = some w)
    (fu : AValue.inFirstStore u = true) (fw : AValue.inFirstStore w = true) : j = k := by
  have a := (((AValue.inv_reachable h).loc j u hu).own fu).2
  have b := (((AValue.inv_reachable h).loc k w hw).own fw).2
  rw [a] at b
  simpa using b

/-- a concrete contended run: the first `Store` is interrupted after the data word, a `Load` sees nothing, a second
    `Store` spins, the `Load` after publication sees the complete value -/
example : ∃ s, AValue.Reachable (AValue.init [[.store (1, 5)], [.load, .load], [.store (1, 7)]]) s ∧
    s.sh.observed = [(1, 5)] ∧ s.sh.typ = .real 1 := by
  have hr : AValue.run (AValue.init [[.store (1, 5)], [.load, .load], [.store (1, 7)]]) [0, 0, 0, 1, 2, 0, 1, 1] =
      some ⟨⟨.real 1, 5, [(1, 5)], [(1, 5)], some 0⟩,
        [⟨.done, [], 1⟩, ⟨.done, [], 2⟩, ⟨.sLoad (1, 7), [], 0⟩]⟩ := by decide
  exact ⟨_, AValue.run_reachable _ _ _ .refl hr, rfl, rfl⟩

/-! ## 5. llgo's own Mutex (`runtime/_patch/internal/sync/mutex.go`): `Model/Mutex.lean`

For any number of threads, any sequence of `Lock`/`TryLock`/`Unlock` calls, every interleaving of the accesses to the
state word, any clock readings (normal and starvation mode, hand-off included) and any answers of `runtime_canSpin`. -/

/-- the number of threads between the return of `Lock`/`TryLock` and `Unlock`'s `Add` equals the locked bit -/
theorem mutex_owners_eq_locked_bit (n : Nat) (s : Mutex.St) (h : Mutex.Reachable (Mutex.init n) s) :
    Mutex.total Mutex.own s.ths = s.w.locked.toNat :=
  (Mutex.total_eq ..).trans (Mutex.inv0_reachable h).own

theorem mutex_mutual_exclusion (n : Nat) (s : Mutex.St) (h : Mutex.Reachable (Mutex.init n) s) :
    Mutex.total Mutex.own s.ths ≤ 1 := by
  rw [mutex_owners_eq_locked_bit n s h]; cases s.w.locked <;> simp

theorem mutex_no_two_owners (n : Nat) (s : Mutex.St) (h : Mutex.Reachable (Mutex.init n) s) (i j : Nat) (t u : Mutex.Th)
    (hij : i ≠ j) (hi : s.ths[i]? = some t) (hj : s.ths[j]? = some u) : ¬ (t.pc = .owner ∧ u.pc = .owner) := by
  intro ⟨h1, h2⟩
  have a := Total.sum_set Mutex.own hi (x := Mutex.Th.start)
  have b := Total.le_sum Mutex.own (List.mem_of_getElem? ((List.getElem?_set_ne (a := Mutex.Th.start) hij).trans hj))
  have := mutex_mutual_exclusion n s h
  rw [Mutex.total_eq] at this
  simp only [Mutex.own, h1, h2, if_true, Mutex.Th.start, reduceCtorEq, if_false] at *
  omega

/-- the hypotheses are satisfiable by a non-trivial run: three threads, thread 0 locks, thread 1 registers as a waiter -/
example : ∃ s, Mutex.Reachable (Mutex.init 3) s ∧ s.w.locked = true ∧ s.w.waiters = 1 := by
  let e : Mutex.Env := ⟨false, 5, false⟩
  refine ⟨_, .step 1 e (.step 1 e (.step 1 e (.step 0 e .refl (by rfl)) (by rfl)) (by rfl)) (by rfl), ?_, ?_⟩ <;> rfl

/-- the step lemma of the token invariant `Mutex.Inv` (tokens = semaphore permits + threads carrying a wake-up) for the
    stepping thread; `hown`, `htok` are the remaining clauses of `Mutex.Inv` for this thread, the step does not need them.
    That `Mutex.Inv` holds in reachable states is not proved (`Lemmas/Mutex.lean`, header): this is a statement about one
    step, not about runs. -/
theorem mutex_step_accounting {w : Mutex.Word} {sema : Nat} {e : Mutex.Env} {t : Mutex.Th} {w' : Mutex.Word} {sm' : Nat}
    {t' : Mutex.Th} {l : Mutex.Lbl} (h : Mutex.stepTh w sema e t = .ok w' sm' t' l)
    (hsw : w.starving = true → w.woken = false) (hloc : Mutex.LocOk w t)
    (hown : Mutex.own t ≤ w.locked.toNat) (htok : sema + Mutex.tok t ≤ Mutex.rhs w) :
    Mutex.own t' + w.locked.toNat = Mutex.own t + w'.locked.toNat ∧
    sm' + Mutex.tok t' + Mutex.rhs w = sema + Mutex.tok t + Mutex.rhs w' ∧
    (w'.starving = true → w'.woken = false) ∧ Mutex.LocOk w' t' :=
  Mutex.stepTh_delta h hsw hloc

/-- non-trivial instance: the hand-off `Add` of a woken waiter in starvation mode (word `starving, 2 waiters`) -/
example : Mutex.stepTh ⟨false, false, true, 2⟩ 0 ⟨false, 0, false⟩ ⟨.handoffAdd false, ⟨false, false, true, 2⟩, false, true, 1⟩ =
    .ok ⟨true, false, true, 1⟩ 0 ⟨.owner, ⟨false, false, true, 2⟩, false, true, 1⟩ (.add 20 13) := by rfl

end LlgoVerif.C11
