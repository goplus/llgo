import LlgoVerif.Lemmas.ChanLive
import LlgoVerif.Lemmas.ChanResults
/-!
# C10 — channels and select obey Go's channel semantics under every schedule

Theorems about the transition system of `Model/Chan.lean` (= `z_chan.go` at lock/wait granularity).
`Reachable (init cfg caps progs) s` quantifies over every number of channels and threads, every program,
every interleaving of steps, and every spurious wake-up.
-/
namespace LlgoVerif.Chan

/-- a buffered channel never holds more than its capacity (and an unbuffered one holds nothing) -/
theorem cap_bound {cfg : Cfg} {caps : List Nat} {progs : List (List Op)} {s : State}
    (h : Reachable (init cfg caps progs) s) (c : Cid) : (s.chan c).len ≤ (s.chan c).cap :=
  (reachable_ginv h c).lenle

/-- FIFO, no duplication, no loss inside a buffered channel: the values committed by senders are, in order,
    the values already handed to receivers followed by the present ring contents -/
theorem fifo_buffered {cfg : Cfg} {caps : List Nat} {progs : List (List Op)} {s : State}
    (h : Reachable (init cfg caps progs) s) (c : Cid) (hc : 0 < (s.chan c).cap) :
    (s.chan c).sent = (s.chan c).recvd ++ (s.chan c).contents :=
  (reachable_ginv h c).fifo hc

/-- non-vacuity.  (Here and in the witnesses below the default of `getD` is never reached: the run is `some`, which the `decide`
    for `Reachable` checks.) -/
example : ∃ s, Reachable (init .current [2] [[.send 0 5, .send 0 6], [.recv 0]]) s ∧ 0 < (s.chan 0).cap ∧
    (s.chan 0).sent = [5, 6] ∧ (s.chan 0).recvd = [5] ∧ (s.chan 0).contents = [6] := by
  refine ⟨(runSched (init .current [2] [[.send 0 5, .send 0 6], [.recv 0]])
      [.step 0, .step 0, .step 0, .step 1, .step 1]).getD (init .current [] []), ?_, by decide, by decide, by decide, by decide⟩
  exact reachable_runSched Reachable.init [.step 0, .step 0, .step 0, .step 1, .step 1] (by decide)

/-- what receivers got from a buffered channel is a prefix of what was sent, in send order -/
theorem no_dup_no_loss_buffered {cfg : Cfg} {caps : List Nat} {progs : List (List Op)} {s : State}
    (h : Reachable (init cfg caps progs) s) (c : Cid) (hc : 0 < (s.chan c).cap) :
    (s.chan c).recvd <+: (s.chan c).sent :=
  ⟨_, (fifo_buffered h c hc).symm⟩

/-- the ring always holds exactly `len` values (in any state: the hypothesis is not used) -/
theorem contents_length {cfg : Cfg} {caps : List Nat} {progs : List (List Op)} {s : State}
    (_h : Reachable (init cfg caps progs) s) (c : Cid) : (s.chan c).contents.length = (s.chan c).len :=
  ringFrom_length _ _ _ _

/-- unbuffered hand-off: the ghost histories agree, i.e. every committed value was appended to `recvd` in the same critical
    section (the `Memcpy` into an armed receiver's variable: `ChanInv.unb_armed`; whether that receiver then REPORTS it is
    another matter: see `no_loss_counterexample`) -/
theorem unbuffered_handoff_exact {cfg : Cfg} {caps : List Nat} {progs : List (List Op)} {s : State}
    (h : Reachable (init cfg caps progs) s) (c : Cid) (hc : (s.chan c).cap = 0) :
    (s.chan c).sent = (s.chan c).recvd ∧ (s.chan c).len = 0 :=
  ⟨(reachable_ginv h c).unb_hist hc, (reachable_ginv h c).unb_len hc⟩

/-- no critical section re-opens a channel -/
theorem closed_stable (p : Point) (t : Tid) (ch : Chan) (h : ch.closed = true) : (body p t ch).ch.closed = true :=
  (body_frame p t ch).closed h

def Point.secondPhase : Point → Bool
  | .recv2Lock .. | .recv2Wait .. => true
  | _ => false

/-- a critical section asks for the second phase only on an unbuffered channel -/
theorem second_phase_only_unbuffered (p : Point) (t : Tid) (ch : Chan) (bc try_ : Bool) (seq : Nat)
    (h : (body p t ch).out = .notify (.finish bc (.recv2 try_ seq))) : ch.cap = 0 := by
  have hs := body_crit p t ch
  generalize body p t ch = r at hs h
  cases hs with
  | recvArm _ hcap | tryRecvArm hcap => exact hcap
  | _ => cases h

/-- what `recv_after_close` and `recv_false` say, read off the branches once: `ok = false` is returned by `recvClosed`, by a
    second phase that finds no hand-off since it armed (fixed variant) or the close flag set, and by an idle `chanTryRecv` -/
theorem recv_false_cases (p : Point) (t : Tid) (ch : Chan) (hinv : ChanInv ch) (b : Bool) (c' : Cid)
    (hp2 : p.secondPhase = true → ch.cap = 0)
    (h : (body p t ch).out = .unlock (.recv c' false) ∨ (body p t ch).out = .unlock (.tryRecv false b) ∧ b = true) :
    ch.closed = true ∧ ch.len = 0 ∧ (ch.fixed = true → ∀ seq, p.secondPhase2 = some seq → ch.recvseq = seq) := by
  have hs := body_crit p t ch
  generalize body p t ch = r at hs h
  cases hs with
  | recvClosed hp hcl hl =>
    exact ⟨hcl, Classical.byCases hinv.unb_len hl, fun _ seq hs => by rw [Point.secondPhase2_of_lock hp] at hs; cases hs⟩
  | @recv2Ret _ _ b' seq hp hw =>
    have hcap : ch.cap = 0 := hp2 (by rcases Point.eq_of_lock_recv2 hp with rfl | rfl <;> rfl)
    have hf : (if ch.fixed = true then ch.recvseq != seq else !ch.closed) = false := by
      rcases h with h | ⟨h, _⟩ <;> cases b' <;> injection h with h <;> injection h
    refine ⟨?_, hinv.unb_len hcap, fun hfx seq' hs => ?_⟩
    · by_cases hfx : ch.fixed = true
      · rw [if_pos hfx] at hf hw
        cases hc : ch.closed with
        | true => rfl
        | false => exact absurd ⟨by simpa using hf, hc⟩ hw
      · rw [if_neg hfx] at hf; simpa using hf
    · rw [Point.secondPhase2_of_lock hp] at hs; cases hs
      rw [if_pos hfx] at hf; simpa using hf
  | tryRecvIdle hi =>
    rcases h with h | ⟨h, hb⟩
    · cases h
    · injection h with h; injection h with _ h
      exact ⟨h.trans hb, Classical.byCases hinv.unb_len fun h0 => by rwa [if_neg h0] at hi, fun _ _ hs => nomatch hs⟩
  | tryRecvDeclined => rcases h with h | ⟨h, hb⟩ <;> cases h; cases hb
  | _ => rcases h with h | ⟨h, _⟩ <;> cases h

/-- a receive reports `ok = false` only in a state in which the channel is closed and its buffer is drained:
    the only critical sections that return `recvOK = false` (ChanRecv both phases, chanTryRecv) run with the
    close flag set and `len = 0`.  `hp2` comes from `second_phase_only_unbuffered` at the step that armed (`ArmedAt.cap` in
    reachable select-free fixed states). -/
theorem recv_after_close (p : Point) (t : Tid) (ch : Chan) (hinv : ChanInv ch) (b : Bool) (c' : Cid)
    (hp2 : p.secondPhase = true → ch.cap = 0)
    (h : (body p t ch).out = .unlock (.recv c' false) ∨ (body p t ch).out = .unlock (.tryRecv false b) ∧ b = true) :
    ch.closed = true ∧ ch.len = 0 :=
  have ⟨h1, h2, _⟩ := recv_false_cases p t ch hinv b c' hp2 h
  ⟨h1, h2⟩

/-- mutual exclusion: under every schedule at most one thread is inside the critical section of a channel
    (`notifyOps` is the only place where a thread reaches a scheduling point while holding `p.mutex`) -/
theorem mutex_exclusive {cfg : Cfg} {caps : List Nat} {progs : List (List Op)} {s : State}
    (h : Reachable (init cfg caps progs) s) (t1 t2 : Tid) (c : Cid) (hc : c < s.owner.length)
    (h1 : (s.thread t1).pc.inCS c = true) (h2 : (s.thread t2).pc.inCS c = true) : t1 = t2 := by
  have a := reachable_mutexInv h t1 c h1 hc
  have b := reachable_mutexInv h t2 c h2 hc
  rw [a] at b
  exact Option.some.inj b

/-- a thread waiting at `p.mutex.Lock()` of a channel whose critical section is occupied is not runnable -/
theorem mutex_blocks {cfg : Cfg} {caps : List Nat} {progs : List (List Op)} {s : State}
    (h : Reachable (init cfg caps progs) s) (t1 t2 : Tid) (p : Point) (hc : p.chan < s.owner.length)
    (h1 : (s.thread t1).pc.inCS p.chan = true) (h2 : (s.thread t2).pc = .at p) : runnable s t2 = false := by
  have a := reachable_mutexInv h t1 p.chan h1 hc
  simp [runnable, h2, wantedChan, a]

/-- the hypotheses are satisfiable: a sender that found no receiver is inside `notifyOps` (waking a registered
    select) while it holds the mutex of channel 0 -/
example : ∃ s, Reachable (init .current [0] [[.select [⟨0, false, 0, false⟩] true], [.send 0 1]]) s ∧
    (s.thread 1).pc.inCS 0 = true ∧ 0 < s.owner.length := by
  refine ⟨(runSched (init .current [0] [[.select [⟨0, false, 0, false⟩] true], [.send 0 1]])
      [.step 0, .step 0, .step 1, .step 1]).getD (init .current [] []), ?_, by decide, by decide⟩
  exact reachable_runSched Reachable.init [.step 0, .step 0, .step 1, .step 1] (by decide)

/-- readiness of a select case at the instant its poll runs (mutex held): what Go calls "the case can proceed" -/
def sendReady (ch : Chan) : Prop :=
  ch.closed = false ∧ (if ch.cap = 0 then ch.getp = hasRecv else ch.len < ch.cap)

def recvReady (ch : Chan) : Prop :=
  if ch.cap = 0 then ch.closed = true ∨ (0 < ch.sends ∧ ch.getp ≠ hasRecv) else (0 < ch.len ∨ ch.closed = true)

/-- a select (blocking or not) commits a SEND case only if, at that instant, the channel is open and has room
    (buffered) / an armed receiver (unbuffered): `ChanTrySend` reports success only then -/
theorem select_commits_enabled_send (ch : Chan) (t : Tid) (v : Val) (hinv : ChanInv ch) (bc : Bool)
    (h : (trySendBody ch t v).out = .notify (.finish bc (.ret (.trySend true)))) : sendReady ch := by
  -- `body` does not read the channel id of a point: the `0` is arbitrary
  have hs : Crit t ch (.trySendLock 0 v) (trySendBody ch t v) := body_crit _ t ch
  generalize trySendBody ch t v = r at hs h
  unfold sendReady
  cases hs with
  | trySendHandOff hcap hg hcl => rw [if_pos hcap]; exact ⟨hcl, hg⟩
  | trySendPush hcap hl hcl => rw [if_neg hcap]; exact ⟨hcl, Nat.lt_of_le_of_ne hinv.lenle hl⟩
  | _ => cases h

/-- a select commits a RECEIVE case (`tryOK = true`, directly or after the unbuffered second phase was entered)
    only if the channel was ready for receiving at that instant -/
theorem select_commits_enabled_recv (ch : Chan) (tg : Target) (acc : Bool) (hinv : ChanInv ch)
    (h : (∃ ok, (tryRecvBody ch tg acc).out = .unlock (.tryRecv ok true)) ∨
         (∃ bc n, (tryRecvBody ch tg acc).out = .notify (.finish bc n))) : recvReady ch := by
  have hs : Crit tg.tid ch (.tryRecvLock 0 tg.slot acc) (tryRecvBody ch tg acc) := body_crit _ tg.tid ch
  generalize tryRecvBody ch tg acc = r at hs h
  unfold recvReady
  cases hs with
  | tryRecvIdle hi =>
    rcases h with ⟨ok, h⟩ | ⟨bc, n, h⟩
    · injection h with h; injection h with _ hcl
      by_cases hcap : ch.cap = 0
      · rw [if_pos hcap]; exact Or.inl hcl
      · rw [if_neg hcap]; exact Or.inr hcl
    · cases h
  | tryRecvDeclined => rcases h with ⟨ok, h⟩ | ⟨bc, n, h⟩ <;> cases h
  | tryRecvArm hcap h0 =>
    rw [if_pos hcap]
    exact Or.inr ⟨Nat.pos_of_ne_zero fun e => h0 (Or.inl e), fun e => h0 (Or.inr (Or.inl e))⟩
  | tryRecvPop hcap hl => rw [if_neg hcap]; exact Or.inl (Nat.pos_of_ne_zero hl)
  | _ => cases ‹Point.lock _ = _›  -- branches of `ChanSend` / `ChanRecv`: not at a `tryRecvLock` point

/-- when a poll succeeds, a blocking select records `(index of the polled case, recvOK)` and leaves the polling loop for the
    `endSelect` loop, which starts at the first case `j` whose channel is not nil -/
theorem select_commit_records (th : Thread) (sl : Sel) (ok : Bool) (j : Nat) (cs : Case) (hb : sl.blocking = true)
    (hn : nextCase Case.live sl.cases 0 0 = some (j, cs)) :
    (commitSel th sl ok).sel = some { sl with result := some (sl.idx, ok), idx := j } ∧
    (commitSel th sl ok).pc = .at (.endLock cs.c cs.send) := by
  simp [commitSel, hb, hn]

/-- `select_commit_records` for a select whose FIRST case is not nil (the `endSelect` loop then starts at 0) -/
theorem select_commit_records_polled_case (th : Thread) (sl : Sel) (ok : Bool) (cs : Case) (rest : List Case)
    (hb : sl.blocking = true) (hc : sl.cases = cs :: rest) (hl : cs.isNil = false) :
    (commitSel th sl ok).sel = some { sl with result := some (sl.idx, ok), idx := 0 } ∧
    (commitSel th sl ok).pc = .at (.endLock cs.c cs.send) :=
  select_commit_records th sl ok 0 cs hb (by simp [hc, nextCase, Case.live, hl])

example : ∃ sl : Sel, sl.blocking = true ∧ sl.cases = [⟨0, true, 5, false⟩] :=
  ⟨{ cases := [⟨0, true, 5, false⟩], blocking := true, sendFirst := true, pass := 0, idx := 0, result := none }, rfl, rfl⟩

example : ChanInv (newChan .current 0) ∧ (Point.recvLock 0 0).secondPhase = false ∧
    (body (.recvLock 0 0) 0 { newChan .current 0 with closed := true }).out = .unlock (.recv 0 false) := by
  refine ⟨newChan_inv .current 0, rfl, ?_⟩; decide

example : (trySendBody { newChan .current 1 with } 0 7).out = .notify (.finish true (.ret (.trySend true))) := by decide
example : ∃ ok, (tryRecvBody ((newChan .current 1).push 0 7) ⟨0, 0⟩ true).out = .notify (.finish true (.ret (.tryRecv ok true))) :=
  ⟨true, by decide⟩

/-- no lost wake-up at the source: a critical section that changes anything a `Cond.Wait` loop tests
    (`len`, `close`, `getp`, `recvseq`) is followed — after `notifyOps`, before anything else — by
    `p.mutex.Unlock(); p.cond.Broadcast()` -/
theorem wakeup_follows_change (p : Point) (t : Tid) (ch : Chan)
    (h : (body p t ch).ch.len ≠ ch.len ∨ (body p t ch).ch.closed ≠ ch.closed ∨ (body p t ch).ch.getp ≠ ch.getp ∨
      (body p t ch).ch.recvseq ≠ ch.recvseq) :
    ∃ n, (body p t ch).out = .notify (.finish true n) := by
  apply Classical.byContradiction
  intro hn
  obtain ⟨q, hg⟩ := (body_frame p t ch).quiet fun n e => hn ⟨n, e⟩
  rcases h with h | h | h | h
  · exact h q.len
  · exact h q.closed
  · exact h hg
  · exact h q.seq

example : (body (.closeLock 0) 0 (newChan .current 1)).ch.closed ≠ (newChan .current 1).closed := by decide

/-- a parked buffered sender means the buffer is full -/
theorem parked_sender_sees_full {cfg : Cfg} {caps : List Nat} {progs : List (List Op)} {s : State}
    (h : Reachable (init cfg caps progs) s) (c : Cid) (hc : c < s.owner.length) (hfree : s.own c = none)
    (t : Tid) (v : Val) (h1 : (s.thread t).pc = .at (.sendWaitB c v)) (w1 : (s.thread t).waiting = true) :
    (s.chan c).len = (s.chan c).cap ∧ (s.chan c).cap ≠ 0 :=
  parked_waitCond h t (.sendWaitB c v) h1 w1 hc hfree

/-- a parked buffered receiver means the buffer is empty -/
theorem parked_receiver_sees_empty {cfg : Cfg} {caps : List Nat} {progs : List (List Op)} {s : State}
    (h : Reachable (init cfg caps progs) s) (c : Cid) (hc : c < s.owner.length) (hfree : s.own c = none)
    (t : Tid) (sl : Nat) (h1 : (s.thread t).pc = .at (.recvWaitB c sl)) (w1 : (s.thread t).waiting = true) :
    (s.chan c).len = 0 ∧ (s.chan c).cap ≠ 0 :=
  parked_waitCond h t (.recvWaitB c sl) h1 w1 hc hfree

/-- the hypotheses are satisfiable: a sender parked on a full buffer of capacity 1 with the mutex free -/
example : ∃ s, Reachable (init .current [1] [[.send 0 5, .send 0 6]]) s ∧ 0 < s.owner.length ∧ s.own 0 = none ∧
    (s.thread 0).pc = .at (.sendWaitB 0 6) ∧ (s.thread 0).waiting = true := by
  refine ⟨(runSched (init .current [1] [[.send 0 5, .send 0 6]]) [.step 0, .step 0, .step 0]).getD (init .current [] []), ?_,
    by decide, by decide, by decide, by decide⟩
  exact reachable_runSched Reachable.init [.step 0, .step 0, .step 0] (by decide)

/-- PARTIAL liveness (what holds of `NoStuckPair`, defined below): on a BUFFERED channel whose mutex is free, a sender asleep in
    `ChanSend`'s `for p.len == n { Wait }` and a receiver asleep in `ChanRecv`'s `for p.len == 0 { Wait }` never coexist — under
    every schedule, with spurious wake-ups, for any number of threads. -/
theorem no_stuck_pair_partial {cfg : Cfg} {caps : List Nat} {progs : List (List Op)} {s : State}
    (h : Reachable (init cfg caps progs) s) (c : Cid) (hc : c < s.owner.length) (hfree : s.own c = none)
    (t1 t2 : Tid) (v : Val) (sl : Nat)
    (h1 : (s.thread t1).pc = .at (.sendWaitB c v)) (w1 : (s.thread t1).waiting = true)
    (h2 : (s.thread t2).pc = .at (.recvWaitB c sl)) (w2 : (s.thread t2).waiting = true) : False := by
  have a := parked_sender_sees_full h c hc hfree t1 v h1 w1
  have b := parked_receiver_sees_empty h c hc hfree t2 sl h2 w2
  exact a.2 (a.1.symm.trans b.1)

/-- the same for the first loops on an UNBUFFERED channel, in either variant and with select: a sender asleep in
    `ChanSend`'s `for p.getp != chanHasRecv && !p.close { Wait }` and a receiver asleep in `ChanRecv`'s
    `for p.getp == chanHasRecv && !p.close { Wait }` never coexist while the mutex is free.  (The stall of
    `no_stuck_pair_counterexample` is between receivers in the SECOND phase, whose guards are both true.) -/
theorem no_stuck_pair_unbuffered_first {cfg : Cfg} {caps : List Nat} {progs : List (List Op)} {s : State}
    (h : Reachable (init cfg caps progs) s) (c : Cid) (hc : c < s.owner.length) (hfree : s.own c = none)
    (t1 t2 : Tid) (v : Val) (sl : Nat)
    (h1 : (s.thread t1).pc = .at (.sendWaitU c v)) (w1 : (s.thread t1).waiting = true)
    (h2 : (s.thread t2).pc = .at (.recvWaitU c sl)) (w2 : (s.thread t2).waiting = true) : False := by
  obtain ⟨_, hunarmed, _⟩ := waitCond_sendWaitU.mp (parked_waitCond h t1 (.sendWaitU c v) h1 w1 hc hfree)
  obtain ⟨_, harmed, _⟩ := waitCond_recvWaitU.mp (parked_waitCond h t2 (.recvWaitU c sl) h2 w2 hc hfree)
  exact hunarmed harmed

/-! ## liveness and completeness of delivery: FALSE on the current code -/

/-- thread `t` is parked in the second phase of an unbuffered receive although its hand-off has been served:
    the channel has since been armed AGAIN, for another thread's variable -/
def servedButParked (s : State) (t : Tid) : Bool :=
  match (s.thread t).pc with
  | .at (.recv2Wait c _ _) =>
    (s.thread t).waiting && (s.chan c).getp == hasRecv &&
      (match (s.chan c).slot with | some tg => tg.tid != t | none => false)
  | _ => false

/-- a sender parked in `ChanSend` and a receiver parked in the first loop of `ChanRecv` on the same channel -/
def parkedPair (s : State) : Bool :=
  let ids := List.range s.threads.length
  ids.any fun t1 => ids.any fun t2 =>
    match (s.thread t1).pc, (s.thread t2).pc with
    | .at (.sendWaitU c1 _), .at (.recvWaitU c2 _) => (s.thread t1).waiting && (s.thread t2).waiting && c1 == c2
    | .at (.sendWaitB c1 _), .at (.recvWaitB c2 _) => (s.thread t1).waiting && (s.thread t2).waiting && c1 == c2
    | _, _ => false

/-- nothing can run, yet a receive whose value has been delivered has not returned, or a sender and a receiver
    sleep on the same channel -/
def stuck (s : State) : Bool :=
  noneRunnable s && ((List.range s.threads.length).any (servedButParked s) || parkedPair s)

/-- FULL STATEMENT (false, see below): no group of threads remains blocked while two of their pending
    operations could complete together -/
def NoStuckPair (cfg : Cfg) : Prop :=
  ∀ (caps : List Nat) (progs : List (List Op)) (s : State), Reachable (init cfg caps progs) s → stuck s = false

def stallProgs : List (List Op) := [[.recv 0], [.recv 0], [.send 0 42]]
/-- R1 = thread 0, R2 = thread 1, S = thread 2: R1,R1,R1 (armed, parked), S,S (hand-off, returns), R2,R2,R2 (arms for
    its own variable, parked), R1 (wakes: `p.getp == chanHasRecv` again, by R2's arming, so it waits again) -/
def stallSched : List Choice :=
  [.step 0, .step 0, .step 0, .step 2, .step 2, .step 1, .step 1, .step 1, .step 0]
def stallState : State := (runSched (init .current [0] stallProgs) stallSched).getD (init .current [] [])

theorem stall_run : runSched (init .current [0] stallProgs) stallSched = some stallState := by decide

/-- two receivers on one unbuffered channel and one sender: the sender has returned, 42 sits in the first
    receiver's variable, both receivers sleep in `Cond.Wait`, no thread is runnable -/
theorem stall_facts :
    noneRunnable stallState = true ∧ (stallState.thread 2).res = [.sent 0 42] ∧ (stallState.thread 0).rv = [42] ∧
    (stallState.thread 0).res = [] ∧ (stallState.thread 0).waiting = true ∧ (stallState.thread 1).waiting = true := by
  decide

theorem no_stuck_pair_counterexample : ¬ NoStuckPair .current := by
  intro h
  have hr := reachable_runSched (Reachable.init (s0 := init .current [0] stallProgs)) stallSched stall_run
  have := h [0] stallProgs stallState hr
  revert this
  decide

def okValues (s : State) : List Val :=
  s.threads.flatMap fun th => th.res.filterMap fun
    | .recv _ v true => some v
    | .sel _ v true _ => some v
    | _ => none

/-- FULL STATEMENT (false): when every thread has finished, every value a sender committed has been reported by
    some receive with `ok = true` or still sits in a buffer -/
def NoLoss (cfg : Cfg) : Prop :=
  ∀ (caps : List Nat) (progs : List (List Op)) (s : State), Reachable (init cfg caps progs) s → allDone s = true →
    ∀ ch ∈ s.chans, ∀ v ∈ ch.sent, v ∈ okValues s ∨ v ∈ ch.contents

def lossProgs : List (List Op) := [[.recv 0], [.send 0 42, .close 0]]
/-- R,R,R (armed, parked), S,S (hand-off), S (close), R (wakes: `recvOK = !p.close = false`) -/
def lossSched : List Choice := [.step 0, .step 0, .step 0, .step 1, .step 1, .step 1, .step 0]
def lossState : State := (runSched (init .current [0] lossProgs) lossSched).getD (init .current [] [])

theorem loss_run : runSched (init .current [0] lossProgs) lossSched = some lossState := by decide

/-- send then close on an unbuffered channel: the send completed, the receiver returns `(42, ok = false)` -/
theorem loss_facts :
    allDone lossState = true ∧ (lossState.thread 1).res = [.sent 0 42, .closed] ∧ (lossState.thread 0).res = [.recv 0 42 false] := by
  decide

theorem no_loss_counterexample : ¬ NoLoss .current := by
  intro h
  have hr := reachable_runSched (Reachable.init (s0 := init .current [0] lossProgs)) lossSched loss_run
  have := h [0] lossProgs lossState hr (by decide)
  revert this
  decide

/-! ## the `fixed` variant (`fixes/C10-1.diff`: hand-off counter `recvseq`)

All theorems above are generic in `cfg`; the two counterexamples are about `Cfg.current`.  With the counter: -/

def stallStateFixed : State := (runSched (init .fixed [0] stallProgs) stallSched).getD (init .fixed [] [])
theorem stall_fixed_run : runSched (init .fixed [0] stallProgs) stallSched = some stallStateFixed := by decide

/-- under `Cfg.fixed` the schedule of `no_stuck_pair_counterexample` does not stall: the first receiver returns `(42, true)` and is
    done; the state is not `stuck` (the second receiver waits legitimately: there is no second send) -/
theorem stall_fixed_facts :
    stuck stallStateFixed = false ∧ (stallStateFixed.thread 0).pc = .done ∧
    (stallStateFixed.thread 0).res = [.recv 0 42 true] ∧ (stallStateFixed.thread 2).res = [.sent 0 42] ∧
    (stallStateFixed.thread 1).res = [] := by
  decide

def lossStateFixed : State := (runSched (init .fixed [0] lossProgs) lossSched).getD (init .fixed [] [])
theorem loss_fixed_run : runSched (init .fixed [0] lossProgs) lossSched = some lossStateFixed := by decide

/-- under `Cfg.fixed` the schedule of `no_loss_counterexample` does not lose the value: `(42, ok = true)` although the channel was
    closed between the hand-off and the receiver's wake-up -/
theorem loss_fixed_facts :
    allDone lossStateFixed = true ∧ (lossStateFixed.thread 0).res = [.recv 0 42 true] ∧
    (lossStateFixed.thread 1).res = [.sent 0 42, .closed] ∧
    (∀ ch ∈ lossStateFixed.chans, ∀ v ∈ ch.sent, v ∈ okValues lossStateFixed ∨ v ∈ ch.contents) := by
  decide

/-- fixed variant, second phase of a receive: the result is `ok = (recvseq ≠ seq)` — whether a hand-off happened since
    the receiver armed the channel — and does not depend on the close flag; `ok = false` only if NO hand-off
    happened and the channel is closed -/
theorem recv_ok_iff_served_fixed (ch : Chan) (c : Cid) (seq : Nat) (hf : ch.fixed = true) :
    (ch.recvseq ≠ seq → (recv2Loop ch c false seq).out = .unlock (.recv c true)) ∧
    ((recv2Loop ch c false seq).out = .unlock (.recv c false) → ch.recvseq = seq ∧ ch.closed = true) ∧
    (ch.recvseq ≠ seq → (recv2Loop ch c true seq).out = .unlock (.tryRecv true true)) := by
  unfold recv2Loop
  simp only [hf, if_true]
  refine ⟨fun h => ?_, fun h => ?_, fun h => ?_⟩
  · simp [h]
  · split at h <;> simp_all
  · simp [h]

example : ({ newChan .fixed 0 with recvseq := 1 } : Chan).fixed = true ∧ ({ newChan .fixed 0 with recvseq := 1 } : Chan).recvseq ≠ 0 := by
  decide

/-- a hand-off increments the counter of a fixed channel (and `recvseq_mono`: nothing ever decreases it), so a receiver
    that armed at `seq` and was served sees `recvseq > seq` for ever after -/
theorem handoff_bumps_fixed (ch : Chan) (t : Tid) (v : Val) (hf : ch.fixed = true) : (ch.handOff t v).1.recvseq = ch.recvseq + 1 := by
  simp only [Chan.handOff_eq, Chan.bump, hf, if_true]

/-- a receiver asleep in the second phase on an existing channel whose mutex is free, either variant: the guard of its loop
    holds, which in the variant with the counter says "not served", in the one without only "armed (for somebody)" -/
theorem parked_second_phase {cfg : Cfg} {caps : List Nat} {progs : List (List Op)} {s : State}
    (h : Reachable (init cfg caps progs) s) (c : Cid) (hc : c < s.owner.length) (hc' : c < s.chans.length)
    (hfree : s.own c = none) (t : Tid) (b : Bool) (seq : Nat)
    (h1 : (s.thread t).pc = .at (.recv2Wait c b seq)) (w1 : (s.thread t).waiting = true) :
    (if cfg.recvseqFix then (s.chan c).recvseq = seq else (s.chan c).getp = hasRecv) ∧ (s.chan c).closed = false := by
  have g : (if (s.chan c).fixed then _ else _) ∧ _ :=
    waitCond_recv2Wait.mp (parked_waitCond h t (.recv2Wait c b seq) h1 w1 hc hfree)
  rwa [reachable_fixInv h c hc'] at g

/-- the hand-off part of `NoStuckPair`, as a theorem for the fixed variant: under every schedule, with spurious
    wake-ups, for any number of threads — a receiver asleep in the second phase on a channel whose mutex is free has NOT
    been served (`recvseq = seq`) and the channel is open.  A receiver whose value was delivered, or whose channel was
    closed, is never left asleep (the state of `stall_facts` is unreachable). -/
theorem served_receiver_not_parked_fixed {caps : List Nat} {progs : List (List Op)} {s : State}
    (h : Reachable (init .fixed caps progs) s) (c : Cid) (hc : c < s.owner.length) (hc' : c < s.chans.length)
    (hfree : s.own c = none) (t : Tid) (b : Bool) (seq : Nat)
    (h1 : (s.thread t).pc = .at (.recv2Wait c b seq)) (w1 : (s.thread t).waiting = true) :
    (s.chan c).recvseq = seq ∧ (s.chan c).closed = false :=
  parked_second_phase h c hc hc' hfree t b seq h1 w1

/-- the hypotheses are satisfiable: an armed, unserved receiver asleep in the second phase -/
example : ∃ s, Reachable (init .fixed [0] [[.recv 0]]) s ∧ 0 < s.owner.length ∧ 0 < s.chans.length ∧ s.own 0 = none ∧
    (s.thread 0).pc = .at (.recv2Wait 0 false 0) ∧ (s.thread 0).waiting = true := by
  refine ⟨(runSched (init .fixed [0] [[.recv 0]]) [.step 0, .step 0, .step 0]).getD (init .fixed [] []), ?_,
    by decide, by decide, by decide, by decide, by decide⟩
  exact reachable_runSched Reachable.init [.step 0, .step 0, .step 0] (by decide)

/-! ## the fixed variant, programs without select (`noSelect progs`, decidable): results-level theorems

`sentVals th c` / `okVals th c` are read off the thread's RESULTS (completed `c <- v` / `v, true := <-c`);
`sentFrom ch t` / `handedTo ch t` are read off the channel HISTORY (`sentBy`, `recvBy`: who committed / whose variable
received each value, in commit order; `sent = sentBy.map snd`, `recvd = recvBy.map snd` by `ChanInv`). -/

/-- NO LOSS, NO DUPLICATION, at the level of what the goroutines observe:
    * every value whose send completed is in the history, per sender, in order, and the history of sends is exactly the
      values handed to receivers, then the buffer;
    * every value handed to receiver `t` has been returned by `t` with `ok = true`, once, in order — except at most one value
      that already sits in the variable of `t`'s running receive (served, second phase, not yet returned); each history
      entry names one receiver, so no value is reported by two receives. -/
theorem no_loss_fixed {caps : List Nat} {progs : List (List Op)} {s : State} (hns : noSelect progs = true)
    (h : Reachable (init .fixed caps progs) s) (c : Cid) (hc : c < s.chans.length) :
    (s.chan c).sent = (s.chan c).recvd ++ (s.chan c).contents ∧
    (s.chan c).sentBy.map (·.2) = (s.chan c).sent ∧ (s.chan c).recvBy.map (·.2) = (s.chan c).recvd ∧
    (∀ t, sentFrom (s.chan c) t = sentVals (s.thread t) c) ∧
    (∀ t, handedTo (s.chan c) t =
      okVals (s.thread t) c ++ inflightOf (s.thread t).pc (s.thread t).rv c (s.chan c).recvseq) := by
  obtain ⟨_, hi⟩ := reachable_plain_fixed hns h
  have hg := reachable_ginv h c
  exact ⟨hg.sent_eq, hg.sent_by, hg.recv_by, fun t => hi.sentL t c hc, fun t => hi.recvL t c hc⟩

/-- a thread that is done has nothing in flight: what it reported with `ok = true` on `c` is what the
    history handed to it -/
theorem no_loss_fixed_done {caps : List Nat} {progs : List (List Op)} {s : State} (hns : noSelect progs = true)
    (h : Reachable (init .fixed caps progs) s) (c : Cid) (hc : c < s.chans.length) (t : Tid)
    (hd : (s.thread t).pc = .done) : handedTo (s.chan c) t = okVals (s.thread t) c := by
  have := (no_loss_fixed hns h c hc).2.2.2.2 t
  rw [hd] at this
  simpa [inflightOf] using this

example : noSelect [[.send 0 42, .close 0], [.recv 0]] = true := by decide

/-- a receive that returns `ok = false`, any point, either variant: the channel is closed, a buffered channel is drained, and
    with the counter a second phase saw NO hand-off since it armed -/
theorem recv_false (p : Point) (t : Tid) (ch : Chan) (hinv : ChanInv ch) (hp2 : p.secondPhase = true → ch.cap = 0)
    (h : (body p t ch).out = .unlock (.recv p.chan false)) :
    ch.closed = true ∧ ch.len = 0 ∧ (ch.fixed = true → ∀ seq, p.secondPhase2 = some seq → ch.recvseq = seq) :=
  recv_false_cases p t ch hinv false p.chan hp2 (Or.inl h)

/-- `recv_false` for a channel of the fixed variant: in the second phase of an unbuffered receive NO hand-off happened
    since it armed -/
theorem recv_false_fixed (p : Point) (t : Tid) (ch : Chan) (hinv : ChanInv ch) (hf : ch.fixed = true)
    (hpl : p.plain = true) (hp2 : p.secondPhase = true → ch.cap = 0)
    (h : (body p t ch).out = .unlock (.recv p.chan false)) :
    ch.closed = true ∧ ch.len = 0 ∧ (∀ seq, p.secondPhase2 = some seq → ch.recvseq = seq) := by
  have ⟨h1, h2, h3⟩ := recv_false p t ch hinv hp2 h
  exact ⟨h1, h2, h3 hf⟩

/-- `Cfg.fixed`, select-free programs, every schedule, any number of threads: a sender asleep in `ChanSend` and a receiver
    asleep in `ChanRecv` (first loop or second phase) never coexist on an unbuffered channel.  (`waiting = true` =
    asleep in `Cond.Wait`, not signalled, no spurious wake-up pending.) -/
theorem no_stuck_pair_fixed_unbuffered {caps : List Nat} {progs : List (List Op)} {s : State}
    (hns : noSelect progs = true) (h : Reachable (init .fixed caps progs) s) (c : Cid)
    (hc : c < s.chans.length) (hco : c < s.owner.length) (t1 t2 : Tid) (v : Val)
    (h1 : (s.thread t1).pc = .at (.sendWaitU c v)) (w1 : (s.thread t1).waiting = true)
    (h2 : (∃ sl, (s.thread t2).pc = .at (.recvWaitU c sl)) ∨ (∃ b seq, (s.thread t2).pc = .at (.recv2Wait c b seq)))
    (w2 : (s.thread t2).waiting = true) : False := by
  have hp := reachable_plainInv hns h
  obtain ⟨ha, _⟩ := reachable_plain_fixed hns h
  rcases h2 with ⟨sl, h2⟩ | ⟨b, seq, h2⟩
  · exact no_stuck_pair_unbuffered_first h c hco (hp.free c) t1 t2 v sl h1 w1 h2 w2
  · obtain ⟨_, hunarmed, _⟩ := waitCond_sendWaitU.mp (parked_waitCond h t1 (.sendWaitU c v) h1 w1 hco (hp.free c))
    have hseq := (served_receiver_not_parked_fixed h c hco hc (hp.free c) t2 b seq h2 w2).1
    -- not served, so the channel is still armed for it (`ArmInv`)
    exact hunarmed ((ha.arm t2 c b seq hc ⟨_, h2, rfl⟩).still hseq.symm).1

/-- with the buffered case (`no_stuck_pair_partial`): under `noSelect`, in the fixed variant, NO pair of a
    sleeping sender and a sleeping receiver exists on any channel, whatever the loops they sleep in -/
theorem no_stuck_pair_fixed {caps : List Nat} {progs : List (List Op)} {s : State}
    (hns : noSelect progs = true) (h : Reachable (init .fixed caps progs) s) (c : Cid)
    (hc : c < s.chans.length) (hco : c < s.owner.length) (t1 t2 : Tid) (v : Val)
    (h1 : (s.thread t1).pc = .at (.sendWaitU c v) ∨ (s.thread t1).pc = .at (.sendWaitB c v))
    (w1 : (s.thread t1).waiting = true)
    (h2 : (∃ sl, (s.thread t2).pc = .at (.recvWaitU c sl)) ∨ (∃ sl, (s.thread t2).pc = .at (.recvWaitB c sl)) ∨
      (∃ b seq, (s.thread t2).pc = .at (.recv2Wait c b seq)))
    (w2 : (s.thread t2).waiting = true) : False := by
  have hp := reachable_plainInv hns h
  obtain ⟨ha, _⟩ := reachable_plain_fixed hns h
  have hfree := hp.free c
  rcases h1 with h1 | h1
  · rcases h2 with h2 | ⟨sl, h2⟩ | h2
    · exact no_stuck_pair_fixed_unbuffered hns h c hc hco t1 t2 v h1 w1 (Or.inl h2) w2
    · have hcap := (waitCond_sendWaitU.mp (parked_waitCond h t1 (.sendWaitU c v) h1 w1 hco hfree)).1
      exact (parked_receiver_sees_empty h c hco hfree t2 sl h2 w2).2 hcap
    · exact no_stuck_pair_fixed_unbuffered hns h c hc hco t1 t2 v h1 w1 (Or.inr h2) w2
  · have hbuf := (parked_sender_sees_full h c hco hfree t1 v h1 w1).2
    rcases h2 with ⟨sl, h2⟩ | ⟨sl, h2⟩ | ⟨b, seq, h2⟩
    · exact hbuf (waitCond_recvWaitU.mp (parked_waitCond h t2 (.recvWaitU c sl) h2 w2 hco hfree)).1
    · exact no_stuck_pair_partial h c hco hfree t1 t2 v sl h1 w1 h2 w2
    · exact hbuf (ha.arm t2 c b seq hc ⟨_, h2, rfl⟩).cap

/-- ORDER PER (SENDER, RECEIVER) on an unbuffered channel: the values that went from `S` to `R`, in hand-off
    order, form a subsequence of `S`'s completed sends in program order AND of what `R` returned with `ok = true` in
    program order (plus possibly the one value `R` holds in flight) — deliveries respect the send order. -/
theorem fifo_unbuffered_fixed {caps : List Nat} {progs : List (List Op)} {s : State}
    (hns : noSelect progs = true) (h : Reachable (init .fixed caps progs) s) (c : Cid)
    (hc : c < s.chans.length) (hcap : (s.chan c).cap = 0) (S R : Tid) :
    (pairVals (s.chan c) S R).Sublist (sentVals (s.thread S) c) ∧
    (pairVals (s.chan c) S R).Sublist
      (okVals (s.thread R) c ++ inflightOf (s.thread R).pc (s.thread R).rv c (s.chan c).recvseq) ∧
    (s.chan c).sentBy.map (·.2) = (s.chan c).recvBy.map (·.2) := by
  obtain ⟨_, hsb, hrb, hS, hR⟩ := no_loss_fixed hns h c hc
  have hg := reachable_ginv h c
  have hv : (s.chan c).sentBy.map (·.2) = (s.chan c).recvBy.map (·.2) := by
    rw [hsb, hrb]; exact hg.unb_hist hcap
  obtain ⟨a, b⟩ := pairVals_sublist (s.chan c) S R hv
  rw [hS S] at a
  rw [hR R] at b
  exact ⟨a, b, hv⟩

example : ∃ s, Reachable (init .fixed [0] [[.send 0 1, .send 0 2], [.recv 0, .recv 0]]) s ∧
    pairVals (s.chan 0) 0 1 = [1, 2] ∧ okVals (s.thread 1) 0 = [1, 2] ∧ sentVals (s.thread 0) 0 = [1, 2] := by
  refine ⟨(runSched (init .fixed [0] [[.send 0 1, .send 0 2], [.recv 0, .recv 0]])
      [.step 1, .step 1, .step 0, .step 0, .step 1, .step 1, .step 0, .step 1]).getD (init .fixed [] []), ?_,
    by decide, by decide, by decide⟩
  exact reachable_runSched Reachable.init
    [.step 1, .step 1, .step 0, .step 0, .step 1, .step 1, .step 0, .step 1] (by decide)

/-- the hypotheses are satisfiable (a sender asleep on an unbuffered channel) -/
example : ∃ s, Reachable (init .fixed [0] [[.send 0 5]]) s ∧ 0 < s.chans.length ∧ 0 < s.owner.length ∧
    (s.thread 0).pc = .at (.sendWaitU 0 5) ∧ (s.thread 0).waiting = true := by
  refine ⟨(runSched (init .fixed [0] [[.send 0 5]]) [.step 0, .step 0]).getD (init .fixed [] []), ?_,
    by decide, by decide, by decide, by decide⟩
  exact reachable_runSched Reachable.init [.step 0, .step 0] (by decide)

end LlgoVerif.Chan
