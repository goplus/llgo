import LlgoVerif.Lemmas.Shell
/-!
# C17 — command lines, flags and directives are split and re-assembled without loss
-/
namespace LlgoVerif.Shell

/-- **Round trip, double-quote form.** Any list of arguments — whatever characters they contain —
    quoted in the documented way (`"…"` with `\"` and `\\`) and joined by single spaces is parsed
    back into exactly the original list. -/
theorem parse_quote (args : List (List Char)) : parse (join args) = .ok args :=
  parse_joined rfl (fun _ => rfl) (fun _ _ _ => rfl) args (fun x _ => reads_quote1 x)

/-- **Round trip, single-quote form**, for arguments that contain no single quote. -/
theorem parse_squote (args : List (List Char)) (h : ∀ x ∈ args, '\'' ∉ x) :
    parse (sjoin args) = .ok args :=
  parse_joined rfl (fun _ => rfl) (fun _ _ _ => rfl) args (fun x hx => reads_squote1 x (h x hx))

/-- **Round trip, unquoted form**: words that need no quoting — non-empty, free of white space and quote characters,
    whatever else they contain (backslashes, `$`, any non-ASCII text) — joined by single blanks are split back into
    exactly the original list. -/
theorem parse_plain (args : List (List Char)) (h : ∀ x ∈ args, x ≠ [] ∧ ∀ c ∈ x, plainChar c = true) :
    parse (pjoin args) = .ok args :=
  parse_joined rfl (fun _ => rfl) (fun _ _ _ => rfl) args (fun x hx => reads_plain x (h x hx).1 (h x hx).2)

example : ∀ x ∈ ["echo".toList, "Voilà".toList, "/home/你好/fw.bin".toList, "a\\b$c".toList], x ≠ [] ∧ ∀ c ∈ x, plainChar c = true := by
  simp only [String.reduceToList]; decide

/-- **Malformed input is reported**: a double-quoted argument whose closing quote is missing is an error,
    whatever its content. -/
theorem parse_unterminated (a : List Char) : parse ('"' :: esc a) = .error () := by
  rw [parse, show ({} : St) = St.out [] [] false from rfl, run_unterminated]
  rfl

example : (∀ x ∈ ["a b".toList, "c\"d\\".toList, []], '\'' ∉ x) := by decide

/-! ## pkg-config style flag strings (`safesplit.SplitPkgConfigFlags`) -/

/-- the round trip stated for EVERY flag list — false on the current code -/
def SplitJoinFull : Prop := ∀ fs : List Flag, splitFlags (joinFlags fs) = fs.map Flag.bytes

section closed
/- `flagsLoop` and `readContent` do not reduce under `decide` (well-founded recursion): `simp` rewrites a closed
   `splitFlags …` with their unfolding equations; what is left is a closed `trimSpace [..] = [..]`, which `decide` computes. -/
attribute [local simp] splitFlags joinFlags Flag.render escBlank isBlank skipSp push flagsLoop_cons2 flagsLoop_nil
  readContent_cons readContent_nil

/-- a flag whose content ends in a backslash swallows the separator: `-Ia\\ -Ib` comes back as ONE flag `-Ia -Ib` -/
theorem split_backslash_merges :
    splitFlags (joinFlags [Flag.mk 73 [97, 92], Flag.mk 73 [98]]) = [[45, 73, 97, 32, 45, 73, 98]] := by
  simp
  decide

theorem split_join_counterexample_backslash : ¬ SplitJoinFull := by
  intro h
  have h1 := h [Flag.mk 73 [97, 92], Flag.mk 73 [98]]
  rw [split_backslash_merges] at h1
  revert h1; decide

/-- an escaped trailing blank is trimmed away: `-Ia\\ ` comes back as `-Ia` (an evaluation; it refutes `SplitJoinFull` as
    `split_backslash_merges` does) -/
theorem split_join_counterexample_trailing_blank :
    splitFlags (joinFlags [Flag.mk 73 [97, 32]]) = [[45, 73, 97]] := by
  simp
  decide

/-- content starting with `-` is split off as a flag of its own: `-I-f` comes back as `-I`, `-f` (an evaluation, likewise) -/
theorem split_join_counterexample_leading_dash :
    splitFlags (joinFlags [Flag.mk 73 [45, 102]]) = [[45, 73], [45, 102]] := by
  simp
  decide

end closed

/-- **Round trip under the explicit decidable predicate `Flag.WF`** (content does not start with `-`, does not end
    in `\`, and the flag does not end in white space): flags with blanks escaped as documented and joined by single
    blanks are split back into exactly the original list — for every flag byte and every content, including
    blanks, tabs, backslashes and non-ASCII bytes inside. -/
theorem split_join_partial (fs : List Flag) (h : ∀ f ∈ fs, f.WF) :
    splitFlags (joinFlags fs) = fs.map Flag.bytes := by
  cases fs with
  | nil => simp [splitFlags, joinFlags, skipSp, flagsLoop_nil, push]
  | cons f fs =>
    obtain ⟨l, hl⟩ := joinFlags_cons_head f fs
    rw [splitFlags, skipSp_head (by rw [hl]; rintro _ ⟨⟩; rfl), flagsLoop_join fs f [] [] h]
    simp [push]

example : (∀ f ∈ [Flag.mk 73 [47, 97, 32, 98], Flag.mk 76 [], Flag.mk 45 [120]], f.WF) := by decide

/-- `parseBuildTags` returns each tag once, and exactly the tags that occur in the `-tags` values -/
theorem parseBuildTags_nodup (flags : List (List Char)) :
    (parseBuildTags flags).Nodup ∧ ∀ t, t ∈ parseBuildTags flags ↔ t ∈ collectTags flags := by
  have := dedup_spec (collectTags flags) []
  exact ⟨this.1, fun t => by rw [parseBuildTags, this.2]; simp⟩

/-- `CheckTags` keeps the requested expressions and their order, never resets an entry, and an entry that was false
    becomes true exactly when its `+build` expression holds under the command-line tags -/
theorem checkTags_spec (flags : List (List Char)) (m : List (List Char × Bool)) :
    (checkTags flags m).map (·.1) = m.map (·.1) ∧
    ∀ e v, (e, v) ∈ m → (e, v || evalPlusBuild (hasTag flags) e) ∈ checkTags flags m := by
  constructor
  · simp [checkTags, List.map_map, Function.comp_def]
  · intro e v h
    simp only [checkTags, List.mem_map]
    exact ⟨(e, v), h, rfl⟩

/-- a single well-formed tag holds iff `has` says so; its negation `!tag` holds iff it does not -/
theorem eval_single_tag (has : List Char → Bool) (t : List Char) (hv : isValidTag t = true) :
    evalPlusBuild has t = has t ∧ evalPlusBuild has ('!' :: t) = !has t := by
  cases t with
  | nil => simp [isValidTag] at hv
  | cons c rest =>
    have hall : ∀ d ∈ c :: rest, isValidTagChar d = true := by
      simp only [isValidTag, Bool.and_eq_true, List.all_eq_true] at hv; exact hv.2
    have hb : ∀ d ∈ c :: rest, isBlankChar d = false := fun d hd => (validTagChar_ne d (hall d hd)).1
    have hcm : ∀ d ∈ c :: rest, d ≠ ',' := fun d hd => (validTagChar_ne d (hall d hd)).2.1
    have hc : c ≠ '!' := (validTagChar_ne c (hall c (List.mem_cons_self ..))).2.2
    constructor
    · rw [evalPlusBuild_word has (c :: rest) (List.cons_ne_nil _ _) hb hcm, evalLit_tag has c rest hv hc]
    · rw [evalPlusBuild_word has ('!' :: c :: rest) (List.cons_ne_nil _ _) (List.forall_mem_cons.mpr ⟨by decide, hb⟩)
        (List.forall_mem_cons.mpr ⟨by decide, hcm⟩), evalLit_not_tag has c rest hv hc]

/-! ## `$VAR` / `$(command)` expansion in link directives (`xtool/env`) -/

/-- `os.Expand` on a rendered template yields the literal text with every reference replaced by the value of
    exactly the referenced variable — values are inserted verbatim (never re-expanded), whatever they contain -/
theorem osExpand_render (env : List Char → List Char) (ps : List Piece) (h : ∀ p ∈ ps, p.WF) (fuel : Nat)
    (hf : (renderAll ps).length ≤ fuel) :
    osExpand env fuel (renderAll ps) = denoteAll env ps := by
  induction ps with
  | nil => exact osExpand_nil env fuel
  | cons p ps ih =>
    obtain ⟨hp, h⟩ := List.forall_mem_cons.mp h
    rw [renderAll_cons] at hf ⊢
    rw [denoteAll_cons, ← ih h (Nat.le_trans (by simp) hf)]
    cases p with
    | lit t => exact osExpand_lit env t _ hp fuel hf
    | var n =>
      simpa [Piece.render, Piece.denote] using
        osExpand_var env n _ hp.1 hp.2.1 fuel (Nat.lt_of_lt_of_le (by simp [Piece.render]; omega) hf)

/-- one `$(…)` directive: the text before it is kept, the directive is replaced by exactly the value of ITS command
    line (`subcmdValue`: the trimmed output of `pkg-config`/`llvm-config` run with exactly the words of the directive,
    newlines as blanks; nothing for a foreign or failing command), and the rest is processed the same way -/
theorem replaceSubcmds_cmd (cmdOut) (t inner rest : List Char) (ht : '$' ∉ t) (hne : inner ≠ []) (hi : ')' ∉ inner)
    (fuel : Nat) (hf : t.length < fuel) :
    replaceSubcmds cmdOut fuel (t ++ '$' :: '(' :: (inner ++ ')' :: rest)) =
      match subcmdValue cmdOut inner, replaceSubcmds cmdOut (fuel - t.length - 1) rest with
      | some (v, cfg), some (r, cfg') => some (t ++ v ++ r, cfg || cfg')
      | _, _ => none := by
  obtain ⟨f, rfl⟩ := Nat.exists_eq_add_of_lt hf
  rw [Nat.add_assoc, replaceSubcmds_lit cmdOut t _ ht, replaceSubcmds_sub cmdOut inner rest hne hi,
    Nat.add_sub_cancel_left, Nat.add_sub_cancel]
  cases subcmdValue cmdOut inner <;> cases replaceSubcmds cmdOut f rest <;> simp

/-- **`$VAR` expansion in link directives substitutes exactly the referenced values.**  For every template made of
    literal text (without `$`) and `${NAME}` references, `expandEnvWithCmd` returns the literal text with each reference
    replaced by the value of exactly that variable, trimmed; no sub-command runs and the pkg-config flag stays false. -/
theorem expandEnv_render (cmdOut) (env : List Char → List Char) (ps : List Piece) (h : ∀ p ∈ ps, p.WF) :
    expandEnvWithCmd cmdOut env (renderAll ps) = some (trimChars (denoteAll env ps), false) := by
  unfold expandEnvWithCmd
  rw [replaceSubcmds_noSub cmdOut _ (noSub_render ps h)]
  simp only
  rw [osExpand_render env ps h _ (by omega)]

example : ∀ p ∈ [Piece.lit "-L".toList, Piece.var "ROOT".toList, Piece.lit "/lib -l".toList, Piece.var "x y".toList], p.WF := by
  simp [Piece.WF]

end LlgoVerif.Shell
