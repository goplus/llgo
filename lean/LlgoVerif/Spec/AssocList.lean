/-!
# Specification for C06: a finite map as an association list

`AList K V = List (K × V)` with a key equality `eq : K → K → Bool` that need not be reflexive (a NaN key is
equal to nothing, not even to itself: inserting it always adds an entry, no lookup finds it, only `clear`
removes it).  Two association lists denote the same map when one is a permutation of the other.
Core Lean only.
-/
namespace LlgoVerif.AssocList

abbrev AList (K V : Type) := List (K × V)

variable {K V : Type}

/-- the hypotheses Go's runtime makes about `==` on keys (no reflexivity: NaN) -/
structure EqOK (eq : K → K → Bool) : Prop where
  symm : ∀ a b, eq a b = true → eq b a = true
  trans : ∀ a b c, eq a b = true → eq b c = true → eq a c = true

theorem EqOK.refl_left {eq : K → K → Bool} (h : EqOK eq) {a b : K} (hab : eq a b = true) : eq a a = true :=
  h.trans a b a hab (h.symm a b hab)

theorem EqOK.refl_right {eq : K → K → Bool} (h : EqOK eq) {a b : K} (hab : eq a b = true) : eq b b = true :=
  h.trans b a b (h.symm a b hab) hab

/-- `m[k]` -/
def lookup (eq : K → K → Bool) (k : K) : AList K V → Option V
  | [] => none
  | (k', v) :: r => if eq k k' then some v else lookup eq k r

/-- `m[k] = v`; `upd` = the stored key is replaced by the new equal key (Go: floats, strings, interfaces) -/
def insert (eq : K → K → Bool) (upd : Bool) (k : K) (v : V) : AList K V → AList K V
  | [] => [(k, v)]
  | (k', v') :: r => if eq k k' then ((if upd then k else k'), v) :: r else (k', v') :: insert eq upd k v r

/-- `delete(m, k)` -/
def erase (eq : K → K → Bool) (k : K) : AList K V → AList K V
  | [] => []
  | (k', v') :: r => if eq k k' then r else (k', v') :: erase eq k r

/-- `clear(m)` -/
def clear : AList K V := []

/-- `len(m)` -/
def len (m : AList K V) : Nat := m.length

/-- no two entries with equal keys -/
def NoDupKeys (eq : K → K → Bool) (m : AList K V) : Prop :=
  m.Pairwise (fun a b => eq a.1 b.1 = false)

/-- `k` matches no entry -/
def Absent (eq : K → K → Bool) (k : K) (m : AList K V) : Prop := ∀ p ∈ m, eq k p.1 = false

theorem Absent.append {eq : K → K → Bool} {k : K} {a b : AList K V} (ha : Absent eq k a) (hb : Absent eq k b) :
    Absent eq k (a ++ b) := fun p hp => (List.mem_append.1 hp).elim (ha p) (hb p)

theorem lookup_append_left {eq : K → K → Bool} {k : K} {a : AList K V} (ha : Absent eq k a) (m : AList K V) :
    lookup eq k (a ++ m) = lookup eq k m := by
  induction a with
  | nil => rfl
  | cons p r ih =>
    have : eq k p.1 = false := ha p (by simp)
    simp only [List.cons_append, lookup, this]
    exact ih (fun p hp => ha p (by simp [hp]))

theorem insert_append_left {eq : K → K → Bool} {upd : Bool} {k : K} {v : V} {a : AList K V} (ha : Absent eq k a)
    (m : AList K V) : insert eq upd k v (a ++ m) = a ++ insert eq upd k v m := by
  induction a with
  | nil => rfl
  | cons p r ih =>
    have : eq k p.1 = false := ha p (by simp)
    simp only [List.cons_append, insert, this]
    rw [ih (fun p hp => ha p (by simp [hp]))]
    rfl

theorem erase_append_left {eq : K → K → Bool} {k : K} {a : AList K V} (ha : Absent eq k a) (m : AList K V) :
    erase eq k (a ++ m) = a ++ erase eq k m := by
  induction a with
  | nil => rfl
  | cons p r ih =>
    have : eq k p.1 = false := ha p (by simp)
    simp only [List.cons_append, erase, this]
    rw [ih (fun p hp => ha p (by simp [hp]))]
    rfl

theorem lookup_absent {eq : K → K → Bool} {k : K} {m : AList K V} (h : Absent eq k m) : lookup eq k m = none := by
  simpa [lookup] using lookup_append_left h []

theorem insert_absent {eq : K → K → Bool} {upd : Bool} {k : K} {v : V} {m : AList K V} (h : Absent eq k m) :
    insert eq upd k v m = m ++ [(k, v)] := by
  simpa [insert] using insert_append_left (upd := upd) (v := v) h []

theorem erase_absent {eq : K → K → Bool} {k : K} {m : AList K V} (h : Absent eq k m) : erase eq k m = m := by
  simpa [erase] using erase_append_left h []

/-! The three operations on a list split around the (only possible) matching entry. -/

theorem lookup_split {eq : K → K → Bool} {k k0 : K} {v0 : V} {l1 l2 : AList K V}
    (h1 : Absent eq k l1) (hk : eq k k0 = true) : lookup eq k (l1 ++ (k0, v0) :: l2) = some v0 := by
  rw [lookup_append_left h1]; simp [lookup, hk]

theorem insert_split {eq : K → K → Bool} {upd : Bool} {k k0 : K} {v v0 : V} {l1 l2 : AList K V}
    (h1 : Absent eq k l1) (hk : eq k k0 = true) :
    insert eq upd k v (l1 ++ (k0, v0) :: l2) = l1 ++ ((if upd then k else k0), v) :: l2 := by
  rw [insert_append_left h1]; simp [insert, hk]

theorem erase_split {eq : K → K → Bool} {k k0 : K} {v0 : V} {l1 l2 : AList K V}
    (h1 : Absent eq k l1) (hk : eq k k0 = true) : erase eq k (l1 ++ (k0, v0) :: l2) = l1 ++ l2 := by
  rw [erase_append_left h1]; simp [erase, hk]

theorem lookup_append_right {eq : K → K → Bool} {k : K} {b : AList K V} (hb : Absent eq k b) (m : AList K V) :
    lookup eq k (m ++ b) = lookup eq k m := by
  induction m with
  | nil => exact lookup_absent hb
  | cons p r ih => simp only [List.cons_append, lookup, ih]

theorem erase_append_right {eq : K → K → Bool} {k : K} {b : AList K V} (hb : Absent eq k b) (m : AList K V) :
    erase eq k (m ++ b) = erase eq k m ++ b := by
  induction m with
  | nil => exact erase_absent hb
  | cons p r ih =>
    simp only [List.cons_append, erase, ih]
    split <;> rfl

theorem insert_append_right {eq : K → K → Bool} {upd : Bool} {k : K} {v : V} {b : AList K V} (hb : Absent eq k b)
    (m : AList K V) : (insert eq upd k v (m ++ b)).Perm (insert eq upd k v m ++ b) := by
  induction m with
  | nil => rw [List.nil_append, insert_absent hb]; exact List.perm_append_comm
  | cons p r ih =>
    simp only [List.cons_append, insert]
    split
    · exact .refl _
    · exact ih.cons _

theorem Absent.symm {eq : K → K → Bool} (he : EqOK eq) {k : K} {m : AList K V} (h : Absent eq k m) :
    ∀ a ∈ m, eq a.1 k = false :=
  fun a ha => Bool.eq_false_iff.2 fun hak => Bool.false_ne_true ((h a ha).symm.trans (he.symm _ _ hak))

/-- in a list without duplicate keys, an entry matching `k` is the only one -/
theorem absent_of_nodup {eq : K → K → Bool} (he : EqOK eq) {k k0 : K} {v0 : V} {l1 l2 : AList K V}
    (hn : NoDupKeys eq (l1 ++ (k0, v0) :: l2)) (hk : eq k k0 = true) : Absent eq k l1 ∧ Absent eq k l2 := by
  rw [NoDupKeys, List.pairwise_append, List.pairwise_cons] at hn
  obtain ⟨_, ⟨h2, _⟩, h3⟩ := hn
  refine ⟨fun p hp => Bool.eq_false_iff.2 fun hpk => ?_, fun p hp => Bool.eq_false_iff.2 fun hpk => ?_⟩
  · exact Bool.false_ne_true ((h3 p hp (k0, v0) (List.mem_cons_self ..)).symm.trans
      (he.trans _ _ _ (he.symm _ _ hpk) hk))
  · exact Bool.false_ne_true ((h2 p hp).symm.trans (he.trans _ _ _ (he.symm _ _ hk) hpk))

/-- either some entry matches `k` (and the list splits around it) or none does -/
theorem split_or_absent (eq : K → K → Bool) (k : K) (m : AList K V) :
    Absent eq k m ∨ ∃ l1 k0 v0 l2, m = l1 ++ (k0, v0) :: l2 ∧ eq k k0 = true := by
  induction m with
  | nil => left; intro p hp; simp at hp
  | cons p r ih =>
    cases hpk : eq k p.1 with
    | true => right; exact ⟨[], p.1, p.2, r, by simp, hpk⟩
    | false =>
      rcases ih with h | ⟨l1, k0, v0, l2, rfl, hk⟩
      · left
        intro q hq
        rcases List.mem_cons.1 hq with rfl | hq
        · exact hpk
        · exact h q hq
      · right; exact ⟨p :: l1, k0, v0, l2, by simp, hk⟩

theorem absent_perm {eq : K → K → Bool} {k : K} {m m' : AList K V} (hp : m.Perm m') (h : Absent eq k m) :
    Absent eq k m' := fun p hp' => h p (hp.mem_iff.2 hp')

theorem nodup_perm {eq : K → K → Bool} (he : EqOK eq) {m m' : AList K V} (hp : m.Perm m') (h : NoDupKeys eq m) :
    NoDupKeys eq m' := by
  unfold NoDupKeys at *
  refine hp.pairwise h ?_
  intro a b hab
  cases hba : eq b.1 a.1 with
  | false => rfl
  | true => exact absurd (he.symm _ _ hba) (by rw [hab]; nofun)

theorem perm_split {eq : K → K → Bool} (he : EqOK eq) {k k0 : K} {v0 : V} {l1 l2 m' : AList K V}
    (hp : (l1 ++ (k0, v0) :: l2).Perm m') (hn : NoDupKeys eq (l1 ++ (k0, v0) :: l2)) (hk : eq k k0 = true) :
    ∃ s t, m' = s ++ (k0, v0) :: t ∧ Absent eq k l1 ∧ Absent eq k s ∧ (l1 ++ l2).Perm (s ++ t) := by
  obtain ⟨s, t, rfl⟩ := List.append_of_mem (hp.mem_iff.1 (List.mem_append_right _ (List.mem_cons_self ..)))
  exact ⟨s, t, rfl, (absent_of_nodup he hn hk).1, (absent_of_nodup he (nodup_perm he hp hn) hk).1,
    (List.perm_cons _).1 ((List.perm_middle.symm.trans hp).trans List.perm_middle)⟩

/-- permuted lists without duplicate keys answer every lookup alike -/
theorem lookup_perm {eq : K → K → Bool} (he : EqOK eq) {k : K} {m m' : AList K V} (hp : m.Perm m')
    (hn : NoDupKeys eq m) : lookup eq k m = lookup eq k m' := by
  rcases split_or_absent eq k m with h | ⟨l1, k0, v0, l2, rfl, hk⟩
  · rw [lookup_absent h, lookup_absent (absent_perm hp h)]
  · obtain ⟨s, t, rfl, a1, b1, -⟩ := perm_split he hp hn hk
    rw [lookup_split a1 hk, lookup_split b1 hk]

theorem insert_perm {eq : K → K → Bool} (he : EqOK eq) {upd : Bool} {k : K} {v : V} {m m' : AList K V}
    (hp : m.Perm m') (hn : NoDupKeys eq m) : (insert eq upd k v m).Perm (insert eq upd k v m') := by
  rcases split_or_absent eq k m with h | ⟨l1, k0, v0, l2, rfl, hk⟩
  · rw [insert_absent h, insert_absent (absent_perm hp h)]
    exact hp.append_right _
  · obtain ⟨s, t, rfl, a1, b1, h1⟩ := perm_split he hp hn hk
    rw [insert_split a1 hk, insert_split b1 hk]
    exact (List.perm_middle.trans (h1.cons _)).trans List.perm_middle.symm

theorem erase_perm {eq : K → K → Bool} (he : EqOK eq) {k : K} {m m' : AList K V}
    (hp : m.Perm m') (hn : NoDupKeys eq m) : (erase eq k m).Perm (erase eq k m') := by
  rcases split_or_absent eq k m with h | ⟨l1, k0, v0, l2, rfl, hk⟩
  · rw [erase_absent h, erase_absent (absent_perm hp h)]
    exact hp
  · obtain ⟨s, t, rfl, a1, b1, h1⟩ := perm_split he hp hn hk
    rw [erase_split a1 hk, erase_split b1 hk]
    exact h1

theorem nodup_insert {eq : K → K → Bool} (he : EqOK eq) {upd : Bool} {k : K} {v : V} {m : AList K V}
    (hn : NoDupKeys eq m) : NoDupKeys eq (insert eq upd k v m) := by
  rcases split_or_absent eq k m with h | ⟨l1, k0, v0, l2, rfl, hk⟩
  · rw [insert_absent h, NoDupKeys, List.pairwise_append]
    exact ⟨hn, List.pairwise_singleton .., fun a ha b hb => List.mem_singleton.1 hb ▸ h.symm he a ha⟩
  · obtain ⟨a1, a2⟩ := absent_of_nodup he hn hk
    rw [insert_split a1 hk]
    rw [NoDupKeys, List.pairwise_append, List.pairwise_cons] at hn ⊢
    obtain ⟨h1, h2, h3⟩ := hn
    refine ⟨h1, ⟨?_, h2.2⟩, fun a ha b hb => (List.mem_cons.1 hb).elim (fun e => ?_)
      (fun hb => h3 a ha b (List.mem_cons_of_mem _ hb))⟩
    · cases upd
      · exact h2.1
      · exact a2
    · rw [e]
      cases upd
      · exact h3 a ha (k0, v0) (List.mem_cons_self ..)
      · exact a1.symm he a ha

theorem erase_sublist (eq : K → K → Bool) (k : K) (m : AList K V) : (erase eq k m).Sublist m := by
  induction m with
  | nil => exact .slnil
  | cons p r ih =>
    obtain ⟨k', v'⟩ := p
    simp only [erase]
    split
    · exact List.sublist_cons_self ..
    · exact ih.cons₂ _

theorem nodup_erase {eq : K → K → Bool} {k : K} {m : AList K V} (hn : NoDupKeys eq m) :
    NoDupKeys eq (erase eq k m) := List.Pairwise.sublist (erase_sublist eq k m) hn

/-- an operation that acts where the key is (entries without the key can be set aside) and on the map, not the list -/
structure KeyLocal (eq : K → K → Bool) (k : K) (f : AList K V → AList K V) : Prop where
  aside : ∀ {r : AList K V} (m : AList K V), Absent eq k r → (f (m ++ r)).Perm (f m ++ r)
  congr : ∀ {m m' : AList K V}, m.Perm m' → NoDupKeys eq m → (f m).Perm (f m')
  nodup : ∀ {m : AList K V}, NoDupKeys eq m → NoDupKeys eq (f m)

theorem keyLocal_insert {eq : K → K → Bool} (he : EqOK eq) (upd : Bool) (k : K) (v : V) :
    KeyLocal eq k (insert eq upd k v) :=
  ⟨fun m hr => insert_append_right hr m, insert_perm he, nodup_insert he⟩

theorem keyLocal_erase {eq : K → K → Bool} (he : EqOK eq) (k : K) : KeyLocal (V := V) eq k (erase eq k) :=
  ⟨fun m hr => .of_eq (erase_append_right hr m), erase_perm he, nodup_erase⟩

/-! ## the iteration specification

A range loop is described by the list of events that happen while it runs: the loop's own yields and the
mutations executed by the loop body (or elsewhere).  Entries are identified by the position in which they were
created (`id`), because a NaN key is not identified by `==`.  `iterOK` is the reading that the run-time judge of
`checks/c06.py` mirrors; no Lean theorem speaks of it. -/

inductive Ev (K V : Type) where
  | yield (id : Nat)          -- the loop produces the entry created as number `id`
  | remove (id : Nat)         -- entry `id` is deleted (by `delete` or `clear`)
  | create (id : Nat)         -- a new entry appears
deriving Repr

/-- `live`: entries live now, `seen`: produced so far, `must`: live since the start of the loop; then the loop's events in
    order.  The rules of the language specification:
    nothing is produced twice, nothing is produced that is not live at that moment, and whatever is live from
    the start to the end of the loop is produced. -/
def iterOK : (live seen : List Nat) → (must : List Nat) → List (Ev K V) → Bool
  | _, seen, must, [] => must.all (fun i => seen.contains i)
  | live, seen, must, .yield i :: r => live.contains i && !seen.contains i && iterOK live (i :: seen) must r
  | live, seen, must, .remove i :: r => iterOK (live.filter (· != i)) seen (must.filter (· != i)) r
  | live, seen, must, .create i :: r => iterOK (i :: live) seen must r

end LlgoVerif.AssocList
