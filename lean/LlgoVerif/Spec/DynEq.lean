import LlgoVerif.Model.DynEq
/-!
# Specification for DynEq: Go's `==` on interface values (C07)

Go spec, "Comparison operators":
* interface values are equal if they have identical dynamic types and equal dynamic values, or if both are nil;
  "a comparison of two interface values with identical dynamic types causes a run-time panic if that type is not comparable";
* boolean, integer, pointer, channel values: equal values; floating point: IEEE-754 `==`; complex: both parts;
  string: same bytes;
* struct values: "equal if their corresponding non-blank field values are equal.  The fields are compared in source order,
  and comparison stops as soon as two field values differ (or all fields have been compared)";
* array values: element-wise, in increasing index order, stopping at the first difference;
* slice, map and function types are not comparable; a struct / array type is comparable iff all its field types /
  its element type are.

`V` is an abstract Go value: no padding, no addresses, **no content for blank fields** — the specification cannot even
mention what the run time must ignore.  `valOf ty o` reads the value denoted by a memory image; `fits ty o` says that the
image is a well-formed image of a value of type `ty` (what the compiler and allocator guarantee).  Type identity is equality of
`Ty` terms (the other half of C07 — `typeName_injective_partial` — is about making descriptor pointers coincide with it).
-/
namespace LlgoVerif.DynEq

mutual
inductive V
  | word (n : Nat)              -- bool, integer, float (bit pattern), pointer, channel
  | pair (re im : Nat)          -- complex (bit patterns)
  | str (s : List UInt8)
  | opq                         -- slice value (never compared; a map / func word is a `.word`, which `goEq` rejects)
  | inil                        -- nil interface
  | idyn (t : Ty) (v : V)       -- interface holding `v` of dynamic type `t`
  | agg (vs : Vs)               -- struct / array
  | skip                        -- a blank field: no value
  | bad
inductive Vs
  | nil
  | cons (v : V) (rest : Vs)
end

/-- the underlying type of a defined type -/
def under : Ty → Ty
  | .named _ u => under u
  | t => t

/-- Go spec: comparable types -/
def comparable : Ty → Bool
  | .basic _ => true
  | .ptr .pointer _ => true
  | .ptr .chan _ => true
  | .ptr .map _ => false
  | .ptr .func _ => false
  | .slice _ => false
  | .iface _ _ => true
  | .array _ e => comparable e
  | .struct _ fs => comparableFs fs
  | .named _ u => comparable u
where
  comparableFs : Fs → Bool
    | .nil => true
    | .cons _ _ t r => comparable t && comparableFs r

def Basic.isComplex : Basic → Bool
  | .complex64 | .complex128 => true
  | _ => false

/-! ## the value a memory image denotes -/

mutual
def valOf (ty : Ty) (o : Obj Ty) : V :=
  match o with
  | .bytes bs =>
    match under ty with
    | .basic .complex64 => .pair (leNat (bs.take 4)) (leNat (bs.drop 4))
    | .basic .complex128 => .pair (leNat (bs.take 8)) (leNat (bs.drop 8))
    | .basic .string => .bad
    | .basic _ => .word (leNat bs)
    | .ptr _ _ => .word (leNat bs)
    | .slice _ => .opq
    | _ => .bad
  | .str _ s =>
    match under ty with
    | .basic .string => .str s
    | _ => .bad
  | .enil _ =>
    match under ty with
    | .iface _ _ => .inil
    | _ => .bad
  | .eface _ t _ box =>
    match under ty with
    | .iface _ _ => .idyn t (valOf t box)
    | _ => .bad
  | .seq ps _ =>
    match under ty with
    | .array _ e => .agg (valElems e ps)
    | .struct _ fs => .agg (valFields fs ps)
    | _ => .bad
def valElems (e : Ty) (ps : Parts Ty) : Vs :=
  match ps with
  | .nil => .nil
  | .cons _ o rest => .cons (valOf e o) (valElems e rest)
def valFields (fs : Fs) (ps : Parts Ty) : Vs :=
  match ps with
  | .nil => .nil
  | .cons _ o rest =>
    match fs with
    | .nil => .nil
    | .cons name _ t fr => .cons (if name = 0 then .skip else valOf t o) (valFields fr rest)
end

/-! ## Go's `==` -/

mutual
/-- `v == w` for two values of type `ty` -/
def goEq (ty : Ty) (v w : V) : Except Err Bool :=
  match v, w with
  | .word a, .word b =>
    match under ty with
    | .basic .float32 => .ok (feq32 a b)
    | .basic .float64 => .ok (feq64 a b)
    | .basic .complex64 => .error .wild
    | .basic .complex128 => .error .wild
    | .basic .string => .error .wild
    | .basic _ => .ok (a == b)
    | .ptr .pointer _ => .ok (a == b)
    | .ptr .chan _ => .ok (a == b)
    | _ => .error .wild
  | .pair a b, .pair c d =>
    match under ty with
    | .basic .complex64 => .ok (feq32 a c && feq32 b d)
    | .basic .complex128 => .ok (feq64 a c && feq64 b d)
    | _ => .error .wild
  | .str s, .str t =>
    match under ty with
    | .basic .string => .ok (s == t)
    | _ => .error .wild
  | .inil, .inil => .ok true
  | .inil, .idyn _ _ => .ok false
  | .idyn _ _, .inil => .ok false
  | .idyn t v', .idyn u w' =>
    if t ≠ u then .ok false
    else if !comparable t then .error .uncomparable
    else goEq t v' w'
  | .agg vs, .agg ws =>
    match under ty with
    | .array _ e => goEqElems e vs ws
    | .struct _ fs => goEqFields fs vs ws
    | _ => .error .wild
  | _, _ => .error .wild
def goEqElems (e : Ty) (vs ws : Vs) : Except Err Bool :=
  match vs, ws with
  | .nil, .nil => .ok true
  | .cons v vr, .cons w wr =>
    match goEq e v w with
    | .error x => .error x
    | .ok false => .ok false
    | .ok true => goEqElems e vr wr
  | _, _ => .error .wild
def goEqFields (fs : Fs) (vs ws : Vs) : Except Err Bool :=
  match vs, ws with
  | .nil, .nil => .ok true
  | .cons v vr, .cons w wr =>
    match fs with
    | .nil => .error .wild
    | .cons name _ t fr =>
      if name = 0 then goEqFields fr vr wr
      else
        match goEq t v w with
        | .error x => .error x
        | .ok false => .ok false
        | .ok true => goEqFields fr vr wr
  | _, _ => .error .wild
end

/-- `a == b` for two interface values (`any` or a non-empty interface type) -/
def ifaceEq (a b : V) : Except Err Bool := goEq (.iface 0 0) a b

/-! ## well-formed memory images -/

/-- a direct-interface type whose data word lies (also) in a blank field: `struct{ _ *T }`, `[1]struct{ _ chan int }` … -/
def blankDirect : Ty → Bool
  | .array _ e => blankDirect e
  | .struct _ (.cons name _ t .nil) => name == 0 || blankDirect t
  | .named _ u => blankDirect u
  | _ => false

mutual
/-- what go/types' sizes guarantee and `IsRegularMemory` relies on without checking it: `struct{}` has size 0, the first
    field of a struct lies at offset 0 and a one-field struct is as large as its field (validated on every real descriptor by the check;
    layout itself is C08's subject) -/
def layoutOK : Ty → Bool
  | .array _ e => layoutOK e
  | .struct size fs =>
    (match fs with
     | .nil => size == 0
     | .cons _ off t .nil => off == 0 && size == tsize t
     | .cons _ off _ _ => off == 0) && layoutOKFs fs
  | .named _ u => layoutOK u
  | _ => true
def layoutOKFs : Fs → Bool
  | .nil => true
  | .cons _ _ t r => layoutOK t && layoutOKFs r
end

mutual
/-- `o` is the image of a value of type `ty`: sizes, field offsets, element strides are the descriptor's; the dynamic
    value of an interface is an image of ITS type, and for a direct type the data word is that image -/
def fits (ty : Ty) (o : Obj Ty) : Bool :=
  match o with
  | .bytes bs =>
    match under ty with
    | .basic .string => false
    | .basic b => bs.length == b.size
    | .ptr _ _ => bs.length == 8
    | .slice _ => bs.length == 24
    | _ => false
  | .str _ _ =>
    match under ty with
    | .basic .string => true
    | _ => false
  | .enil _ =>
    match under ty with
    | .iface _ _ => true
    | _ => false
  | .eface _ t dw box =>
    match under ty with
    | .iface _ _ => fits t box && layoutOK t && (!directTy t || flat box == le64 dw.toNat)
    | _ => false
  | .seq ps tail =>
    match under ty with
    | .array n e => tail.isEmpty && fitsElems e n ps
    | .struct size fs => fitsFields fs ps 0 && (flatParts ps).length + tail.length == size
    | _ => false
def fitsElems (e : Ty) (n : Nat) (ps : Parts Ty) : Bool :=
  match ps with
  | .nil => n == 0
  | .cons pre o rest =>
    match n with
    | 0 => false
    | n'+1 => pre.isEmpty && fits e o && flatLen o == tsize e && fitsElems e n' rest
def fitsFields (fs : Fs) (ps : Parts Ty) (cur : Nat) : Bool :=
  match ps with
  | .nil => match fs with | .nil => true | _ => false
  | .cons pre o rest =>
    match fs with
    | .nil => false
    | .cons _ off t fr => cur + pre.length == off && fits t o && flatLen o == tsize t && fitsFields fr rest (off + tsize t)
end

mutual
/-- no interface value inside `o` (or `o` itself) has a `blankDirect` dynamic type -/
def okDyn (o : Obj Ty) : Bool :=
  match o with
  | .eface _ t _ box => !blankDirect t && okDyn box
  | .seq ps _ => okDynParts ps
  | _ => true
def okDynParts (ps : Parts Ty) : Bool :=
  match ps with
  | .nil => true
  | .cons _ o rest => okDyn o && okDynParts rest
end

/-! ## hashability of a value (what `m[k]` panics on) -/

mutual
/-- the value contains, in a non-blank position, an interface holding a value of a non-comparable dynamic type -/
def unhashable (ty : Ty) (v : V) : Bool :=
  match v with
  | .idyn t v' => !comparable t || unhashable t v'
  | .agg vs =>
    match under ty with
    | .array _ e => unhashableElems e vs
    | .struct _ fs => unhashableFields fs vs
    | _ => false
  | _ => false
def unhashableElems (e : Ty) (vs : Vs) : Bool :=
  match vs with
  | .nil => false
  | .cons v r => unhashable e v || unhashableElems e r
def unhashableFields (fs : Fs) (vs : Vs) : Bool :=
  match vs with
  | .nil => false
  | .cons v r =>
    match fs with
    | .nil => false
    | .cons name _ t fr => (name != 0 && unhashable t v) || unhashableFields fr r
end

end LlgoVerif.DynEq
