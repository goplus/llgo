import LlgoVerif.Model.PyGuard
/-!
# C19, tie A: shape of the `init` functions llgo emits, as read from the -O0 IR

`checks/c19.py` (`harness/c19/irfacts.py`) turns every `init` function of the generated packages into a
token list, walking the instructions of the path that executes the body:

* `guardTest`  — `%g = load i1, @"p.init$guard"; br i1 %g, exit, body`
* `guardStore` — `store i1 true, @"p.init$guard"`
* `callInit q` — `call void @"q.init"()` (q = number of the package in the generated program)
* `loadSyms m ns` — `%v = load ptr, @__llgo_py.<m>; call @llgoLoadPyModSyms(%v, "n₁", @__llgo_py.<m>.<n₁>, …, null)`
                     (the extractor checks that every name string matches its variable)
* `use u` — a call through a loaded symbol variable, a `PyObject_GetAttrString(load @__llgo_py.<m>, name)`,
            or a call of `PyImport_ImportModule` outside the guarded form
* `guardedImport m` — `%v = load ptr, @__llgo_py.<m>; %c = icmp ne ptr %v, null; br i1 %c, exit, imp;
                       imp: %r = call @PyImport_ImportModule("<m>"); store ptr %r, @__llgo_py.<m>; br exit`
* `ret`
* `other s` — anything Python-related the extractor does not recognise (makes `okShape` false)

Besides the raw tokens the extractor records the decomposition it believes in (`inits`, `loadGroups`,
`initUses`, `imp`); `okShape` re-derives the token list from the decomposition (`render`) and compares, and
`shape_sound` proves that executing a rendered token list IS the model's `initBody` of the package
`factPkg` builds from the same decomposition.
-/
namespace LlgoVerif.PyGuard

inductive Tok
  | guardTest
  | guardStore
  | callInit (q : Nat)
  | loadSyms (m : Mod) (names : List Nat)
  | use (u : Use)
  | guardedImport (m : Mod)
  | ret
  | other (what : Nat)
  deriving DecidableEq, Repr

structure InitFact where
  /-- package number -/
  id : Nat
  /-- tokens of `p.init` as read from the IR -/
  toks : List Tok
  /-- decomposition: initialisers called, in order -/
  inits : List Nat
  /-- `llgoLoadPyModSyms` calls: module and names, in order -/
  loadGroups : List (Mod × List Nat)
  /-- Python uses in the body of `init` (and the `init#k` functions it calls), in order -/
  initUses : List Use
  /-- module of the guarded import at the end of `init` (binding package) -/
  imp : Option Mod
  /-- Python uses in all other functions of the package -/
  fnUses : List Use
  /-- the package calls C-API constructors itself (py.List/py.Tuple/py.Str lowering) -/
  intrinsics : Bool
  deriving Repr

def InitFact.loads (f : InitFact) : List Sym := f.loadGroups.flatMap fun g => g.2.map fun n => (g.1, n)

/-- the model package the fact describes -/
def factPkg (f : InitFact) : Pkg :=
  { imports := f.inits, binds := f.imp, initUses := f.initUses, uses := f.fnUses,
    loads := f.loads, intrinsics := f.intrinsics }

/-- the token list the decomposition stands for -/
def render (f : InitFact) : List Tok :=
  [.guardTest, .guardStore] ++ f.inits.map .callInit ++ f.loadGroups.map (fun g => .loadSyms g.1 g.2) ++
    f.initUses.map .use ++ (match f.imp with | some m => [.guardedImport m] | none => []) ++ [.ret]

/-- the emitted `init` has the expected shape: guard test, guard store, the imports' initialisers, then
    (ordinary package) the symbol loads followed by the body, or (binding package) the body followed by
    the guarded import and NO symbol loads. -/
def okShape (f : InitFact) : Bool :=
  f.toks == render f && (f.imp.isNone || f.loadGroups.isEmpty)

/-- what a token does to the Python state when executed in package `p` (the guard and the initialiser
    calls are C12's subject: the order of the bodies is a parameter of `run`) -/
def execTok (imp : Mod → Bool) (p : Nat) (s : St) : Tok → Except Err St
  | .loadSyms m ns => (ns.map fun n => (m, n)).foldlM (loadSym p) s
  | .use u => doUse imp p s u
  | .guardedImport m => guardedImport imp p m s
  | _ => .ok s

def execToks (imp : Mod → Bool) (p : Nat) (toks : List Tok) (s : St) : Except Err St :=
  toks.foldlM (execTok imp p) s

theorem exec_inits (imp : Mod → Bool) (p : Nat) (l : List Nat) (s : St) :
    (l.map Tok.callInit).foldlM (execTok imp p) s = .ok s := by
  induction l generalizing s with
  | nil => rfl
  | cons a t ih => simp only [List.map_cons, List.foldlM_cons, execTok]; exact ih s

theorem exec_uses (imp : Mod → Bool) (p : Nat) (l : List Use) (s : St) :
    (l.map Tok.use).foldlM (execTok imp p) s = l.foldlM (doUse imp p) s := by
  induction l generalizing s with
  | nil => rfl
  | cons a t ih =>
    simp only [List.map_cons, List.foldlM_cons, execTok]
    cases doUse imp p s a with
    | error e => rfl
    | ok s1 => exact ih s1

theorem exec_loads (imp : Mod → Bool) (p : Nat) (l : List (Mod × List Nat)) (s : St) :
    (l.map fun g => Tok.loadSyms g.1 g.2).foldlM (execTok imp p) s =
      (l.flatMap fun g => g.2.map fun n => (g.1, n)).foldlM (loadSym p) s := by
  induction l generalizing s with
  | nil => rfl
  | cons a t ih =>
    simp only [List.map_cons, List.foldlM_cons, execTok, List.flatMap_cons, List.foldlM_append]
    cases (a.2.map fun n => (a.1, n)).foldlM (loadSym p) s with
    | error e => rfl
    | ok s1 => exact ih s1

theorem initBody_eq_bind (P : Prog) (imp : Mod → Bool) (s : St) (p : Nat) :
    initBody P imp s p =
      match (P p).binds with
      | none => (P p).loads.foldlM (loadSym p) s >>= fun s1 => (P p).initUses.foldlM (doUse imp p) s1
      | some m => (P p).initUses.foldlM (doUse imp p) s >>= guardedImport imp p m := by
  unfold initBody
  cases (P p).binds with
  | none => cases (P p).loads.foldlM (loadSym p) s <;> rfl
  | some m => cases (P p).initUses.foldlM (doUse imp p) s <;> rfl

/-- **Shape soundness.**  An `init` whose tokens are the rendering of its decomposition executes, on every
    state, exactly as the model's `initBody` of the described package. -/
theorem shape_sound (f : InitFact) (h : okShape f = true) (P : Prog) (hP : P f.id = factPkg f)
    (imp : Mod → Bool) (s : St) :
    execToks imp f.id f.toks s = initBody P imp s f.id := by
  simp only [okShape, Bool.and_eq_true, beq_iff_eq, Bool.or_eq_true, List.isEmpty_iff] at h
  obtain ⟨ht, hk⟩ := h
  -- both sides are the same chain of `Except` binds (`Except.ok` is `pure`)
  have ok_bind : ∀ (a : St) (f : St → Except Err St), (Except.ok a >>= f) = f a := pure_bind
  have bind_ok : ∀ x : Except Err St, (x >>= Except.ok) = x := bind_pure
  rw [execToks, ht, initBody_eq_bind, hP]
  simp only [render, factPkg, List.foldlM_append, List.foldlM_cons, List.foldlM_nil, execTok,
    exec_inits, exec_loads, exec_uses, InitFact.loads, bind_assoc]
  cases hi : f.imp with
  | none => simp only [List.foldlM_nil, pure, Except.pure, ok_bind, bind_ok]
  | some m =>
    have hl : f.loadGroups = [] := hk.resolve_left (by rw [hi]; exact Bool.noConfusion)
    simp only [hl, List.flatMap_nil, List.foldlM_nil, List.foldlM_cons, execTok, pure, Except.pure, ok_bind, bind_ok]

/-- the entry function: the calls of `@main`, in order -/
inductive EntryCall
  | pyInitialize | rtInit | abiInit | runtimeInit | mainInit | mainMain | otherCall
  deriving DecidableEq, Repr

/-- `Py_Initialize` is the first call of the entry function and `main.init` precedes `main.main` -/
def okEntry (calls : List EntryCall) : Bool :=
  calls.head? == some .pyInitialize &&
  (calls.filter fun c => c == .mainInit || c == .mainMain) == [.mainInit, .mainMain] &&
  !calls.contains .otherCall

/-- one generated program as read from its IR: `facts[i]` describes package number `i` -/
structure GenProg where
  facts : List InitFact
  /-- calls of the entry function `@main`, in order -/
  entry : List EntryCall
  /-- number of the `main` package -/
  main : Nat
  /-- the uses the check performs after initialisation (op `U` read by the `main` that `harness/c19/gen.py` generates) -/
  calls : List (Nat × Use)
  deriving Repr

def GenProg.prog (g : GenProg) : Prog := ofList (g.facts.map factPkg)

/-- fact `i` is about package `i` -/
def GenProg.wf (g : GenProg) : Bool := g.facts.map (·.id) == List.range g.facts.length

theorem GenProg.prog_at (g : GenProg) (h : g.wf = true) : ∀ f ∈ g.facts, g.prog f.id = factPkg f := by
  intro f hf
  simp only [GenProg.wf, beq_iff_eq] at h
  obtain ⟨i, hi, hget⟩ := List.getElem_of_mem hf
  have h3 : f.id = i := by
    have h1 : (g.facts.map (·.id))[i]? = some f.id := by simp [hi, hget]
    have h2 : (List.range g.facts.length)[i]? = some i := by simp [hi]
    rw [h, h2] at h1
    exact (Option.some.inj h1).symm
  subst h3
  unfold GenProg.prog ofList
  simp [List.getD, hi, hget]

end LlgoVerif.PyGuard
