import LlgoVerif.Model.Gzip
import LlgoVerif.Model.Tar
import LlgoVerif.Model.Zip
/-!
# Well-formed containers: how the bytes of an archive file are written

The specification side of the container layer of C20.  A `.tar.gz` is **a concatenation of one or more gzip
members** (RFC 1952 §2.2); the tar stream is the concatenation of their payloads; the tar stream is a sequence
of members, each a 512-byte header followed by the data padded to a multiple of 512, closed by an end marker of
two zero blocks behind which anything may follow.  The writers below produce exactly such files, with the
freedom real writers have:

* `GzMember`: any combination of the optional header fields (`FTEXT`, `FEXTRA`, `FNAME`, `FCOMMENT`, `FHCRC`),
  any `MTIME`/`XFL`/`OS`, and the payload cut into any number of stored DEFLATE blocks (the theorems are about
  the framing; compressed blocks are covered by the correspondence runs);
* `TarMember`: a directory, a regular file, a symbolic link or a fifo, with a name of any length — names that do not
  fit the 100-byte field are written as a GNU `L` (long name) member in front of the header.

What such a file *means* is the list of entries `TarMember.entry`; what the extraction has to produce is
`specTree` of that list (`Spec/Extract.lean`).  Nothing here is used by the model.
-/
namespace LlgoVerif.Container
open LlgoVerif.Gzip (Bytes natLE crc32)

/-! ## gzip -/

structure GzMember where
  text : Bool
  extra : Option Bytes
  name : Option Bytes
  comment : Option Bytes
  hcrc : Bool
  mtime : Nat
  xfl : UInt8
  os : UInt8
  /-- the payload, cut into stored blocks; `last` is the final block -/
  blocks : List Bytes
  last : Bytes

def GzMember.payload (m : GzMember) : Bytes := m.blocks.flatten ++ m.last

def cstrOK (s : Option Bytes) : Prop := ∀ b, s = some b → b.length < 512 ∧ (0 : UInt8) ∉ b

/-- the fields fit their length prefixes / limits -/
structure GzMember.WF (m : GzMember) : Prop where
  extra : ∀ b, m.extra = some b → b.length < 65536
  name : cstrOK m.name
  comment : cstrOK m.comment
  blocks : ∀ b ∈ m.blocks, b.length < 65536
  last : m.last.length < 65536

def flagByte (m : GzMember) : UInt8 :=
  UInt8.ofNat ((if m.text then 1 else 0) + (if m.hcrc then 2 else 0) + (if m.extra.isSome then 4 else 0) +
    (if m.name.isSome then 8 else 0) + (if m.comment.isSome then 16 else 0))

def cstr : Option Bytes → Bytes
  | none => []
  | some b => b ++ [0]

/-- the header up to (not including) the optional CRC16 -/
def GzMember.headerBody (m : GzMember) : Bytes :=
  [0x1f, 0x8b, 8, flagByte m] ++ natLE 4 m.mtime ++ [m.xfl, m.os] ++
  (match m.extra with | none => [] | some x => natLE 2 x.length ++ x) ++ cstr m.name ++ cstr m.comment

def GzMember.header (m : GzMember) : Bytes :=
  m.headerBody ++ (if m.hcrc then natLE 2 ((crc32 m.headerBody).toNat % 65536) else [])

/-- one stored block: `BFINAL`, `BTYPE = 00`, padding to the byte boundary, `LEN`, `NLEN`, the bytes -/
def storedBlock (final : Bool) (b : Bytes) : Bytes :=
  (if final then 1 else 0) :: (natLE 2 b.length ++ natLE 2 (65535 - b.length) ++ b)

def GzMember.deflate (m : GzMember) : Bytes := m.blocks.flatMap (storedBlock false) ++ storedBlock true m.last

def GzMember.encode (m : GzMember) : Bytes :=
  m.header ++ m.deflate ++ natLE 4 (crc32 m.payload).toNat ++ natLE 4 m.payload.length

/-- a `.gz` file: the members one after the other -/
def gzFile (ms : List GzMember) : Bytes := ms.flatMap GzMember.encode

/-! ## tar -/

open LlgoVerif.Extract (Entry Kind)
open LlgoVerif.Tar (bytesOf toStr padOf sumBytes)

/-- `k` octal digits, most significant first -/
def octalN : Nat → Nat → Bytes
  | 0, _ => []
  | k + 1, n => octalN k (n / 8) ++ [UInt8.ofNat (48 + n % 8)]

/-- a NUL-padded field of `n` bytes -/
def field (n : Nat) (b : Bytes) : Bytes := b ++ List.replicate (n - b.length) 0

/-- a numeric field: `k` octal digits and a NUL -/
def octField (k n : Nat) : Bytes := octalN k n ++ [0]

/-- the checksum field: six octal digits, NUL, space -/
def chkField (n : Nat) : Bytes := octalN 6 n ++ [0, 32]

/-- the part of a header block before the checksum field: name, mode, uid, gid, size, mtime -/
def hdrPre (name : Bytes) (size : Nat) : Bytes :=
  field 100 name ++ octField 7 420 ++ octField 7 0 ++ octField 7 0 ++ octField 11 size ++ octField 11 0

/-- the part behind it: type flag, link name, GNU magic, the rest of the block -/
def hdrPost (typeflag : UInt8) : Bytes :=
  typeflag :: (List.replicate 100 0 ++ bytesOf "ustar  \x00" ++ List.replicate 247 0)

/-- a 512-byte header block (old GNU format) with its checksum -/
def tarHeader (name : Bytes) (typeflag : UInt8) (size : Nat) : Bytes :=
  hdrPre name size ++ chkField (sumBytes (hdrPre name size) + 256 + sumBytes (hdrPost typeflag)) ++ hdrPost typeflag

def zeros (n : Nat) : Bytes := List.replicate n 0

/-- data followed by the padding to the next multiple of 512 -/
def padded (d : Bytes) : Bytes := d ++ zeros (padOf d.length)

inductive TKind where
  | dir | reg | sym | fifo
  deriving DecidableEq, Repr

def TKind.flag : TKind → UInt8
  | .dir => 53 | .reg => 48 | .sym => 50 | .fifo => 54

def TKind.kind : TKind → Kind
  | .dir => .dir | .reg => .reg | .sym => .sym | .fifo => .other

structure TarMember where
  kind : TKind
  name : Bytes
  /-- content (regular files) -/
  data : Bytes

structure TarMember.WF (m : TarMember) : Prop where
  nameNoNUL : (0 : UInt8) ∉ m.name
  nameLen : m.name.length < 1048576
  dataLen : m.data.length < 8 ^ 11

def TarMember.content (m : TarMember) : Bytes := if m.kind = .reg then m.data else []

/-- the member as written: a GNU long-name member first when the name does not fit the header -/
def TarMember.encode (m : TarMember) : Bytes :=
  (if m.name.length > 100 then
     tarHeader (bytesOf "././@LongLink") 76 (m.name.length + 1) ++ padded (m.name ++ [0])
   else []) ++
  tarHeader (m.name.take 100) m.kind.flag m.content.length ++ padded m.content

/-- what the member means -/
def TarMember.entry (m : TarMember) : Entry :=
  { kind := m.kind.kind, name := toStr m.name, data := m.content, link := [] }

def tarStream (ms : List TarMember) : Bytes := ms.flatMap TarMember.encode

/-! ## zip -/

/-- fixed-width little-endian fields one after the other: `(width, value)` -/
def encFields : List (Nat × Nat) → Bytes
  | [] => []
  | (w, v) :: fs => natLE w v ++ encFields fs

/-- a local record: header, name, extra field, the content (stored) -/
structure ZipLocal where
  name : Bytes
  extra : Bytes
  data : Bytes

def ZipLocal.fixed (l : ZipLocal) : List (Nat × Nat) :=
  [(4, 0x04034b50), (2, 20), (2, 0), (2, 0), (2, 0), (2, 0), (4, (crc32 l.data).toNat), (4, l.data.length), (4, l.data.length),
   (2, l.name.length), (2, l.extra.length)]

def ZipLocal.encode (l : ZipLocal) : Bytes := encFields l.fixed ++ (l.name ++ (l.extra ++ l.data))

/-- a central-directory header pointing at the local record number `idx` -/
structure ZipCentral where
  idx : Nat
  /-- "version made by": creator system * 256 + version -/
  creator : Nat
  extAttrs : Nat
  extra : Bytes
  comment : Bytes

def localsBytes (ls : List ZipLocal) : Bytes := ls.flatMap ZipLocal.encode

/-- where the local record number `i` starts -/
def offsetOf (ls : List ZipLocal) (i : Nat) : Nat := (localsBytes (ls.take i)).length

def ZipCentral.fixed (ls : List ZipLocal) (c : ZipCentral) (l : ZipLocal) : List (Nat × Nat) :=
  [(4, 0x02014b50), (2, c.creator), (2, 20), (2, 0), (2, 0), (2, 0), (2, 0), (4, (crc32 l.data).toNat), (4, l.data.length),
   (4, l.data.length), (2, l.name.length), (2, c.extra.length), (2, c.comment.length), (2, 0), (2, 0), (4, c.extAttrs),
   (4, offsetOf ls c.idx)]

def ZipCentral.encode (ls : List ZipLocal) (c : ZipCentral) : Bytes :=
  match ls[c.idx]? with
  | none => []
  | some l => encFields (c.fixed ls l) ++ (l.name ++ (c.extra ++ c.comment))

def centralBytes (ls : List ZipLocal) (cs : List ZipCentral) : Bytes := cs.flatMap (ZipCentral.encode ls)

def eocdFixed (ls : List ZipLocal) (cs : List ZipCentral) : List (Nat × Nat) :=
  [(4, 0x06054b50), (2, 0), (2, 0), (2, cs.length), (2, cs.length), (4, (centralBytes ls cs).length), (4, (localsBytes ls).length), (2, 0)]

/-- a zip file: the local records in *their* order, the central directory in *its* order (it may leave local
    records out, name one twice, and need not follow the order of the records), the end record (no comment) -/
def zipFile (ls : List ZipLocal) (cs : List ZipCentral) : Bytes :=
  localsBytes ls ++ (centralBytes ls cs ++ encFields (eocdFixed ls cs))

structure ZipWF (ls : List ZipLocal) (cs : List ZipCentral) : Prop where
  names : ∀ l ∈ ls, l.name.length < 65536 ∧ l.extra.length < 65536 ∧ l.data.length < 4294967295
  noNUL : ∀ l ∈ ls, (0 : UInt8) ∉ l.name
  centrals : ∀ c ∈ cs, c.idx < ls.length ∧ c.creator < 65536 ∧ c.extAttrs < 4294967296 ∧ c.extra.length < 65536 ∧
    c.comment.length < 65536
  count : cs.length < 65535
  dirSize : (centralBytes ls cs).length < 4294967296 ∧ (centralBytes ls cs).length ≠ 65535
  dirOffset : (localsBytes ls).length < 4294967295

/-- what the central header number `c` means to the loop of `extractZip` -/
def ZipCentral.entry (ls : List ZipLocal) (c : ZipCentral) : Zip.ZEntry :=
  let l := ls.getD c.idx ⟨[], [], []⟩
  let h : Zip.CDH := { creator := c.creator, flags := 0, method := 0, crc := (crc32 l.data).toNat, csize := l.data.length,
                       usize := l.data.length, extAttrs := c.extAttrs, offset := offsetOf ls c.idx, name := l.name,
                       len := 46 + l.name.length + c.extra.length + c.comment.length }
  { name := Zip.toStr l.name, isDir := Zip.isDirOf h, isSym := Zip.isSymOf h, opened := .copied (if Zip.isDirOf h then [] else l.data) false }

end LlgoVerif.Container
