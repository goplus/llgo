import LlgoVerif.Model.Embed
/-!
Specification for C16: which files `//go:embed` patterns select, the way cmd/go decides it
(`cmd/go/internal/load/pkg.go`, `resolveEmbed`), stated as relations over the file tree — no loops,
no maps, no pattern ids.

A pattern is `all:`? + glob.  The glob is matched element by element (`path.Match` per element, links
followed on the way, not for the last element).  Every element of a matched path must be acceptable
(`CleanTrail`): not a module root, not a name that cannot be in a module, and — for the directories on the way —
a real directory.  A matched regular file is embedded; a matched directory stands for the regular
files below it, leaving out entries whose name is bad or starts with `.`/`_` (unless `all:`), and
directories that are module roots; anything else that is matched (link, fifo, …) is an error, a
directory that yields nothing is an error, a pattern that matches nothing is an error.

Shared with the model: the tree type with its accessors (`dirEnts`, `isDir`, `hasGoMod`, `entsHaveGoMod`); `path.Match`
(`matchOK`, `globSyntaxOK`), `isBadName` and UTF-8 validity, leaf predicates of cmd/go's rule whose transcriptions are
compared with the Go functions on every run; and the string helpers `splitAll` (the `all:` prefix), `splitOn`, `joinSlash`,
`sDot`/`sDotDot`, `isBlank`: a defect in one of these would be on both sides of the theorems.
-/
namespace LlgoVerif.Embed.Spec
open LlgoVerif.Embed

/-- a *trail*: the elements of a path below the package directory, each with what `Lstat` finds there -/
abbrev Trail := List (Str × Node)

/-- `Reach n t`: starting in directory `n` the trail `t` exists; a symbolic link on the way is looked
    through (`n.dirEnts` follows links), the node recorded for each element is the link itself. -/
inductive Reach : Node → Trail → Prop
  | nil (n : Node) : Reach n []
  | cons {n : Node} {es : Ents} {nm : Str} {ch : Node} {rest : Trail} :
      n.dirEnts = some es → (nm, ch) ∈ es.toList → Reach ch rest → Reach n ((nm, ch) :: rest)

/-- the elements of a slash-separated pattern -/
def comps (glob : Str) : List Str := splitOn 47 glob

/-- the names of the trail match the pattern elements one by one (`path.Match` per element) -/
inductive AllMatch : List Str → Trail → Prop
  | nil : AllMatch [] []
  | cons {c : Str} {e : Str × Node} {cs : List Str} {t : Trail} :
      matchOK c e.1 = true → AllMatch cs t → AllMatch (c :: cs) (e :: t)

/-- the trail is a match of the glob: it exists and its names match the elements one by one -/
def Matches (root : Node) (glob : Str) (t : Trail) : Prop :=
  Reach root t ∧ AllMatch (comps glob) t

/-- `validEmbedPattern` + the syntax check: not `.`, valid UTF-8, no empty / `.` / `..` element
    (so: relative, no trailing slash), well-formed as a `path.Match` pattern -/
def ValidPat (glob : Str) : Prop :=
  glob ≠ sDot ∧ validUtf8 glob = true ∧ (∀ c ∈ comps glob, c ≠ [] ∧ c ≠ sDot ∧ c ≠ sDotDot) ∧
  globSyntaxOK glob = true

/-- cmd/go's test of every element of a matched path (`for dir := file; …; dir = filepath.Dir(dir)`) -/
def CleanTrail (t : Trail) : Prop :=
  ∀ pre e post, t = pre ++ e :: post →
    e.2.hasGoMod = false ∧ isBadName e.1 = false ∧ (post ≠ [] → e.2.isDir = true)

def Hidden (nm : Str) : Prop := nm.head? = some 46 ∨ nm.head? = some 95

/-- an entry met while walking a matched directory is taken into account -/
def Visible (all : Bool) (nm : Str) : Prop := isBadName nm = false ∧ (all = true ∨ ¬ Hidden nm)

/-- `Under all es p d`: below a directory with entries `es` the regular file `p` (relative path)
    with contents `d` is embeddable -/
inductive Under (all : Bool) : Ents → List Str → Str → Prop
  | file {es : Ents} {nm d : Str} :
      (nm, Node.file d) ∈ es.toList → Visible all nm → Under all es [nm] d
  | dir {es es' : Ents} {nm : Str} {p : List Str} {d : Str} :
      (nm, Node.dir es') ∈ es.toList → Visible all nm → entsHaveGoMod es' = false →
      Under all es' p d → Under all es (nm :: p) d

/-- the matched trail `t` delivers the file with path `f` and contents `d` -/
def Delivers (all : Bool) (t : Trail) (f : List Str) (d : Str) : Prop :=
  ∃ e, t.getLast? = some e ∧
    ((e.2 = Node.file d ∧ f = t.map (·.1)) ∨
     (∃ es p, e.2 = Node.dir es ∧ entsHaveGoMod es = false ∧ Under all es p d ∧ f = t.map (·.1) ++ p))

/-- cmd/go accepts the pattern -/
def PatternOK (root : Node) (pat : Str) : Prop :=
  ValidPat (splitAll pat).2 ∧
  (∃ t, Matches root (splitAll pat).2 t) ∧
  ∀ t, Matches root (splitAll pat).2 t → CleanTrail t ∧ ∃ f d, Delivers (splitAll pat).1 t f d

/-- cmd/go accepts the pattern list -/
def Accepted (root : Node) (pats : List Str) : Prop := ∀ p ∈ pats, PatternOK root p

/-- file `name` with contents `d` is embedded by the pattern list -/
def embeddedData (root : Node) (pats : List Str) (name d : Str) : Prop :=
  ∃ p ∈ pats, ∃ t f, Matches root (splitAll p).2 t ∧ Delivers (splitAll p).1 t f d ∧ name = joinSlash f

/-- file `name` is embedded by the pattern list -/
def embedded (root : Node) (pats : List Str) (name : Str) : Prop := ∃ d, embeddedData root pats name d

/-! ### a decidable class of trees: no symbolic link that leads to a directory -/

mutual
  def _root_.LlgoVerif.Embed.Node.noDirLinks : Node → Bool
    | .file _ => true
    | .dir es => es.noDirLinks
    | .link t => t.dirEnts.isNone
    | .dangling => true
    | .irregular => true
  def _root_.LlgoVerif.Embed.Ents.noDirLinks : Ents → Bool
    | .nil => true
    | .cons _ n rest => n.noDirLinks && rest.noDirLinks
end

/-! ### writing arguments on a `//go:embed` line -/

/-- escape `"` and `\` -/
def escD : Str → Str
  | [] => []
  | c :: cs => if c = 34 || c = 92 then 92 :: c :: escD cs else c :: escD cs

/-- one argument as it is written: double-quoted (any bytes), back-quoted, or bare -/
inductive QArg where
  | dq (a : Str)
  | bq (a : Str)
  | plain (a : Str)

/-- the text written on the line -/
def QArg.render : QArg → Str
  | .dq a => 34 :: (escD a ++ [34])
  | .bq a => 96 :: (a ++ [96])
  | .plain a => a

/-- the pattern meant -/
def QArg.value : QArg → Str
  | .dq a => a
  | .bq a => a
  | .plain a => a

/-- what can be written in the respective form: a raw string cannot contain a back quote;
    a bare argument is non-empty, has no blank and does not start with a quote character -/
def QArg.ok : QArg → Bool
  | .dq _ => true
  | .bq a => !a.contains 96
  | .plain a => !a.isEmpty && !a.any isBlank && a.head? != some 34 && a.head? != some 96

/-- additionally needed for `strconv.Unquote` to give the value back (as far as it is modelled:
    ASCII without newline; no carriage return in a raw string; a bare argument not in single quotes) -/
def QArg.uqOk : QArg → Bool
  | .dq a => a.all fun b => b < 0x80 && b != 10
  | .bq a => !a.contains 13
  | .plain a => a.head? != some 39

/-- arguments separated by one space -/
def joinSp : List Str → Str
  | [] => []
  | [a] => a
  | a :: b :: rest => a ++ 32 :: joinSp (b :: rest)

/-! ### what `embed.FS` needs of its file table (`embed/embed.go`: "sorted by (dir, elem)") -/

/-- the elements of a clean relative name (`a/b/c`): non-empty, not `.`/`..`, no slash inside -/
def CleanElems (cs : List Str) : Prop := cs ≠ [] ∧ ∀ c ∈ cs, c ≠ [] ∧ c ≠ sDot ∧ c ≠ sDotDot ∧ 47 ∉ c

end LlgoVerif.Embed.Spec
